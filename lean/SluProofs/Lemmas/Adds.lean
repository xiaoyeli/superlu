import SluProofs.Lemmas.ArrayBasic
import SluProofs.Lemmas.SumBasic
/-
Steps that add something to the entries of a work array (`Adds`): a store (`set`), a gather (`setSum`), a scatter,
a fold of such steps (`Adds.foldl`, the one induction behind all of them), a step skipped when it would add nothing.
The loops of `[sdcz]gsrfs` (Lemmas/RefineResid, RefineDenom) and the column pass of `sp_[sdcz]gemv` (Lemmas/Gemv)
are composed of them.
-/
namespace Slu

section accumulate
variable {M α : Type} [AddCommMonoid M]

def Adds (f : Array M → Array M) (d : Nat → M) : Prop :=
  ∀ y, (f y).size = y.size ∧ ∀ i < y.size, (f y).getD i 0 = y.getD i 0 + d i

namespace Adds

theorem congr {f : Array M → Array M} {d d' : Nat → M} (h : Adds f d) (hd : ∀ i, d i = d' i) : Adds f d' :=
  fun y => ⟨(h y).1, fun i hi => hd i ▸ (h y).2 i hi⟩

theorem foldl {step : Array M → α → Array M} {d : α → Nat → M} (h : ∀ a, Adds (step · a) (d a)) (l : List α) :
    Adds (l.foldl step) fun i => (l.map (d · i)).sum := by
  induction l with
  | nil => exact fun y => ⟨rfl, fun i _ => (add_zero _).symm⟩
  | cons a t ih =>
    intro y
    obtain ⟨hs, hv⟩ := h a y
    obtain ⟨hs2, hv2⟩ := ih (step y a)
    refine ⟨hs2.trans hs, fun i hi => ?_⟩
    beta_reduce at hv hv2 ⊢
    rw [List.foldl_cons, hv2 i (hs ▸ hi), hv i hi, List.map_cons, List.sum_cons, add_assoc]

/-- the store `y[k] += v` (ignored when `k` is out of range, as no entry `i < y.size` is then `k`) -/
theorem set (k : Nat) (v : M) : Adds (fun y => y.setIfInBounds k (y.getD k 0 + v)) fun i => if k = i then v else 0 := by
  refine fun y => ⟨Array.size_setIfInBounds, fun i hi => ?_⟩
  beta_reduce
  rw [getD_setIfInBounds]
  by_cases h : k = i
  · subst h; rw [if_pos ⟨rfl, hi⟩, if_pos rfl]
  · rw [if_neg (fun c => h c.1), if_neg h, add_zero]

theorem setSum {β : Type} (k : Nat) (l : List β) (g : β → M) :
    Adds (fun y => y.setIfInBounds k (y.getD k 0 + (l.map g).sum)) fun i => (l.map fun e => if k = i then g e else 0).sum :=
  (set k _).congr fun i => by
    by_cases h : k = i
    · simp only [h, if_true]
    · simp only [h, if_false, List.sum_map_zero]

theorem scatter (ix : α → Nat) (g : α → M) (l : List α) :
    Adds (l.foldl fun y a => y.setIfInBounds (ix a) (y.getD (ix a) 0 + g a)) fun i =>
      (l.map fun a => if ix a = i then g a else 0).sum :=
  foldl (fun a => set (ix a) (g a)) l

/-- a step that would add nothing may be skipped (`sp_gemv` skips the columns with `x_j = 0`) -/
theorem skip {f : Array M → Array M} {d : Nat → M} (c : Prop) [Decidable c] (h : Adds f d) (hc : c → ∀ i, d i = 0) :
    Adds (fun y => if c then y else f y) d := by
  intro y
  beta_reduce
  by_cases hh : c
  · rw [if_pos hh]; exact ⟨rfl, fun i _ => by rw [hc hh i, add_zero]⟩
  · rw [if_neg hh]; exact h y

end Adds
end accumulate

end Slu
