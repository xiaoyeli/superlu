import Slu.Model.ArgSpec
/-
For C18 (argument-screening chains): one level of a chain against one documented precondition (`cascade`), the four
precisions from the chain of s read at shifted tags (`four_precisions_of`), and the three tactic abbreviations with
which Props/C18.lean walks a chain.  No Mathlib; `argchain_same` calls `argchain_gen_unfold`, the `simp only` over
the enumerators and chain definitions that tools/argchain.py prints at the end of Slu/Gen/ArgChains.lean.
-/
namespace Slu.ArgSpec
open Slu.ArgChains

/-- one level of a first-match chain (`if c then x else r`) against one level of "first violated
precondition" (`if p then r' else x`): the test is exactly the negation of the precondition and the
continuations agree. -/
theorem cascade {c p : Prop} [Decidable c] [Decidable p] {x r r' : Int}
    (h : c ↔ ¬p) (hr : ¬c → p → r = r') : (if c then x else r) = (if p then r' else x) := by
  by_cases hc : c
  · have : ¬p := h.mp hc
    simp [hc, this]
  · have hp : p := Classical.byContradiction fun hn => hc (h.mpr hn)
    simp [hc, hp, hr hc hp]

/-- `cascade` for continuations that agree outright, whatever the outcome of the test: the form the chain
walk applies -/
theorem cascade0 {c p : Prop} [Decidable c] [Decidable p] {x r r' : Int}
    (h : c ↔ ¬p) (hr : r = r') : (if c then x else r) = (if p then r' else x) :=
  cascade h (fun _ _ => hr)

/-- unfold the vocabulary of `ArgSpec` down to linear integer facts (the enumerators it leaves are unfolded next, on
both sides, by the generated `argchain_gen_unfold`).  `retag` is unfolded on its own first, since `simp` does not
rewrite the `Decidable` instances it occurs in and `decide_eq_true_eq` has to match them. -/
macro "argchain_unfold" : tactic => `(tactic| (
    unfold retag at *
    simp only [firstViolated, denseB, denseX, factorL, factorU, tags, squareNonneg, transEnumOk, optionsOk,
      rowEquilibrated, colEquilibrated, letter, lower, max0, gsisx_agrees, sp_trsv_agrees, decide_eq_true_eq,
      chN, chR, chC, chB, chL, chU, chT, chI, chO, ch1] at *))

/-- walk down a chain and a precondition list level by level: at each level the chain's test is the
negation of the precondition (propositional structure over linear integer facts, left to `grind`), and both end in
the same value -/
macro "argchain_cascade" : tactic => `(tactic| (
    repeat (refine cascade0 (by grind) ?_)
    rfl))

/-! ### the four precisions

The chains of the precisions d, c, z are the chain of s read at tags shifted by 1, 2, 3
(`argchain_types_agree_<routine>`).  So a routine's chain need only be compared with its preconditions for s,
provided the comparison is made at every shift `k`: the s chain at `a` against what is documented for tag `k`
at `retag k a`. -/

theorem shift_eq (x k : Int) : (x + k = k) ↔ x = 0 := by omega

/-- `check_s<r> a = check_d<r> (retag 1 a) ∧ …`: with `retag` and the chains unfolded, a test of the tag
`x + k ≠ k` read as `x ≠ 0` (`shift_eq`) makes the chain on the right the text of the chain on the left.
`retag` is unfolded first so that the `Decidable` instances are rewritten along with the tests. -/
macro "argchain_same" : tactic => `(tactic| (
    unfold retag
    argchain_gen_unfold
    simp only [ne_eq, shift_eq, and_self]))

theorem retag_zero (a : Args) : retag 0 a = a := by
  cases a; simp only [retag, Int.add_zero]

theorem retag_neg (k : Int) (a : Args) : retag k (retag (-k) a) = a := by
  cases a; simp only [retag, Int.neg_add_cancel_right]

/-- `cs`, `cd`, `cc`, `cz`: the chains of one routine; `spec dt`: what is documented for the precision with
tag `dt`; `ok dt`: the calls on which chain and documentation are claimed to agree.  Every record is
`retag k` of one (`retag_neg`), which is where `hs` is used.  The generated `SLU_S`, `SLU_D`, `SLU_C`, `SLU_Z` have to
be the numerals 0, 1, 2, 3 up to unfolding (`shift 0 … : ok 0 a → …` is given where `ok SLU_S a → …` is asked for):
were the enumeration of SRC/supermatrix.h to change, this proof would stop checking. -/
theorem four_precisions_of {cs cd cc cz : Args → Int} {spec : Int → Args → Int} {ok : Int → Args → Prop}
    (hc : ∀ a, cs a = cd (retag 1 a) ∧ cs a = cc (retag 2 a) ∧ cs a = cz (retag 3 a))
    (hs : ∀ k a, ok k (retag k a) → cs a = spec k (retag k a)) (a : Args) :
    (ok SLU_S a → cs a = spec SLU_S a) ∧ (ok SLU_D a → cd a = spec SLU_D a) ∧
    (ok SLU_C a → cc a = spec SLU_C a) ∧ (ok SLU_Z a → cz a = spec SLU_Z a) := by
  have shift {c' : Args → Int} (k : Int) (h : ∀ a, cs a = c' (retag k a)) : ok k a → c' a = spec k a := by
    rw [← retag_neg k a, ← h]
    exact hs k _
  exact ⟨shift 0 fun a => by rw [retag_zero], shift 1 fun a => (hc a).1, shift 2 fun a => (hc a).2.1,
    shift 3 fun a => (hc a).2.2⟩

theorem four_precisions {cs cd cc cz : Args → Int} {spec : Int → Args → Int}
    (hc : ∀ a, cs a = cd (retag 1 a) ∧ cs a = cc (retag 2 a) ∧ cs a = cz (retag 3 a))
    (hs : ∀ k a, cs a = spec k (retag k a)) (a : Args) :
    cs a = spec SLU_S a ∧ cd a = spec SLU_D a ∧ cc a = spec SLU_C a ∧ cz a = spec SLU_Z a := by
  simpa only [true_imp_iff] using four_precisions_of (ok := fun _ _ => True) hc (fun k a _ => hs k a) a

end Slu.ArgSpec
