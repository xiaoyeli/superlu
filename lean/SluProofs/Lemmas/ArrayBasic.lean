/-
What the model's loops over arrays need again and again and core Lean states only for `getElem?` / `getElem`.
Reads are stated once through `getD` with any default, with the `[·]!` forms beside them; loops come as a few
rules: an invariant for a fold (indexed by the rounds done, possibly with a failure flag that sticks), the normal
form of a loop that updates cells (`foldl_set_cells`), and a fuel loop with invariant and variant.  Core Lean only,
so every proof module can import it.
-/
namespace Slu

section reads
variable {α : Type}

theorem getD_setIfInBounds (a : Array α) (i k : Nat) (v d : α) :
    (a.setIfInBounds i v).getD k d = if i = k ∧ i < a.size then v else a.getD k d := by
  simp only [Array.getD_eq_getD_getElem?, Array.getElem?_setIfInBounds]
  by_cases h : i = k
  · subst h; by_cases h2 : i < a.size <;> simp [h2]
  · simp [h]

theorem getElem!_setIfInBounds [Inhabited α] (a : Array α) (i k : Nat) (v : α) :
    (a.setIfInBounds i v)[k]! = if i = k ∧ i < a.size then v else a[k]! := by
  simp only [Array.getElem!_eq_getD]; exact getD_setIfInBounds a i k v default

theorem getElem!_setIfInBounds_ne [Inhabited α] (a : Array α) {i k : Nat} (v : α) (h : i ≠ k) :
    (a.setIfInBounds i v)[k]! = a[k]! := by
  rw [getElem!_setIfInBounds, if_neg (fun c => h c.1)]

theorem getElem!_setIfInBounds_self [Inhabited α] (a : Array α) {i : Nat} (v : α) (h : i < a.size) :
    (a.setIfInBounds i v)[i]! = v := by
  rw [getElem!_setIfInBounds, if_pos ⟨rfl, h⟩]

theorem getD_setIfInBounds_self (a : Array α) {i : Nat} (v d : α) (h : i < a.size) :
    (a.setIfInBounds i v).getD i d = v := by
  rw [getD_setIfInBounds, if_pos ⟨rfl, h⟩]

theorem getD_setIfInBounds_ne (a : Array α) {i k : Nat} (v d : α) (h : i ≠ k) :
    (a.setIfInBounds i v).getD k d = a.getD k d := by
  rw [getD_setIfInBounds, if_neg (fun c => h c.1)]

theorem getD_push (a : Array α) (x d : α) (k : Nat) :
    (a.push x).getD k d = if k < a.size then a.getD k d else if k = a.size then x else d := by
  simp only [Array.getD_eq_getD_getElem?, Array.getElem?_push]
  by_cases h : k = a.size
  · subst h; simp
  · rw [if_neg h, if_neg h]
    by_cases h2 : k < a.size
    · rw [if_pos h2]
    · rw [if_neg h2, Array.getElem?_eq_none (by omega)]; rfl

theorem forall_getD_push {a : Array α} {j : Nat} (hs : a.size = j) (x d : α) (Q : Nat → α → Prop)
    (h : ∀ k < j, Q k (a.getD k d)) (hx : Q j x) : ∀ k < j + 1, Q k ((a.push x).getD k d) := by
  intro k hk
  rw [getD_push, hs]
  by_cases hkj : k < j
  · rw [if_pos hkj]; exact h k hkj
  · obtain rfl : k = j := by omega
    rw [if_neg hkj, if_pos rfl]; exact hx

theorem getElem!_push_lt [Inhabited α] (a : Array α) (v : α) {k : Nat} (h : k < a.size) :
    (a.push v)[k]! = a[k]! := by
  simp only [Array.getElem!_eq_getD, Array.getD_eq_getD_getElem?, Array.getElem?_push]
  rw [if_neg (by omega)]

theorem getElem!_push_size [Inhabited α] (a : Array α) (v : α) : (a.push v)[a.size]! = v := by
  simp

theorem getElem!_eq_default [Inhabited α] (a : Array α) {p : Nat} (h : a.size ≤ p) : a[p]! = default := by
  simp only [Array.getElem!_eq_getD, Array.getD_eq_getD_getElem?]
  rw [Array.getElem?_eq_none h]; rfl

theorem getElem!_of_size_le [Inhabited α] (a b : Array α) (h : a.size = b.size) (p : Nat) (hp : b.size ≤ p) :
    a[p]! = b[p]! := by
  rw [getElem!_eq_default a (h ▸ hp), getElem!_eq_default b hp]

theorem getD_eq_of_lt (a : Array α) (k : Nat) (hk : k < a.size) (d d' : α) : a.getD k d = a.getD k d' := by
  rw [Array.getD_eq_getD_getElem?, Array.getD_eq_getD_getElem?, Array.getElem?_eq_getElem hk]; rfl

theorem toArray_getD (l : List α) (i : Nat) (d : α) : l.toArray.getD i d = l.getD i d := by
  simp [List.getD_eq_getElem?_getD]

theorem list_getD_eq_getElem (l : List α) (t : Nat) (h : t < l.length) (d : α) : l.getD t d = l[t] := by
  rw [List.getD_eq_getElem?_getD, List.getElem?_eq_getElem h, Option.getD_some]

theorem getD_map_of_lt {β : Type} (f : α → β) (a : Array α) (k : Nat) (hk : k < a.size) (d : α) (d' : β) :
    (a.map f).getD k d' = f (a.getD k d) := by
  rw [Array.getD_eq_getD_getElem?, Array.getD_eq_getD_getElem?, Array.getElem?_map, Array.getElem?_eq_getElem hk]; rfl

theorem list_getD_map_of_lt {β : Type} (f : α → β) (l : List α) (r : Nat) (hr : r < l.length) (d : β) :
    (l.map f).getD r d = f l[r] := by
  rw [list_getD_eq_getElem _ r (by rw [List.length_map]; exact hr), List.getElem_map]

theorem getD_map_arrayRange (n : Nat) (g : Nat → α) (d : α) {c : Nat} (hc : c < n) :
    ((Array.range n).map g).getD c d = g c := by
  simp [Array.getD, hc]

theorem getElem!_map_range [Inhabited α] (n : Nat) (f : Nat → α) (k : Nat) (hk : k < n) :
    ((Array.range n).map f)[k]! = f k := by
  rw [Array.getElem!_eq_getD]; exact getD_map_arrayRange n f _ hk

theorem range_map_get [Inhabited α] (n : Nat) (f : Nat → α) (i : Nat) (h : i < n) : ((List.range n).map f)[i]! = f i := by
  rw [getElem!_pos _ i (by rw [List.length_map, List.length_range]; exact h), List.getElem_map, List.getElem_range]

theorem map_map_cancel {β : Type} {f : α → β} {g : β → α} (h : ∀ x, g (f x) = x) (a : Array α) :
    (a.map f).map g = a := by
  rw [Array.map_map, (funext h : g ∘ f = id), Array.map_id]

theorem ext_getD (a b : Array α) (d : α) (hs : a.size = b.size)
    (h : ∀ k, k < a.size → a.getD k d = b.getD k d) : a = b := by
  apply Array.ext hs
  intro k hk1 hk2
  have := h k hk1
  simpa [Array.getD, hk1, hk2] using this

theorem ext_getElem! [Inhabited α] (a b : Array α) (hs : a.size = b.size)
    (h : ∀ k, k < a.size → a[k]! = b[k]!) : a = b :=
  ext_getD a b default hs (by simpa only [Array.getElem!_eq_getD] using h)

theorem setIfInBounds_getElem!_self [Inhabited α] (a : Array α) (k : Nat) : a.setIfInBounds k a[k]! = a := by
  refine ext_getElem! _ _ (Array.size_setIfInBounds ..) fun p _ => ?_
  rw [getElem!_setIfInBounds]; split
  · next h => rw [h.1]
  · rfl

theorem eq_toArray_of_getD [Inhabited α] (a : Array α) (l : List α) (d : α) (hs : a.size = l.length)
    (h : ∀ i, i < l.length → a[i]! = l.getD i d) : a = l.toArray := by
  refine ext_getElem! _ _ (by simpa using hs) (fun k hk => ?_)
  rw [h k (by omega)]
  simp [List.getD, getElem!_pos, show k < l.length by omega]

theorem extract_eq_toArray_of_getD {α : Type} [Inhabited α] (a : Array α) (s : Nat) (l : List α) (d : α)
    (hs : s + l.length ≤ a.size) (h : ∀ i, i < l.length → a[s + i]! = l.getD i d) :
    a.extract s (s + l.length) = l.toArray := by
  refine eq_toArray_of_getD _ l d (by rw [Array.size_extract]; omega) (fun i hi => ?_)
  rw [← h i hi]
  simp only [Array.getElem!_eq_getD, Array.getD_eq_getD_getElem?, Array.getElem?_extract]
  rw [if_pos (by omega)]

end reads

section folds
variable {α β : Type}

theorem foldl_inv (P : β → Prop) (f : β → α → β) (l : List α) (b : β)
    (h0 : P b) (hstep : ∀ s x, x ∈ l → P s → P (f s x)) : P (l.foldl f b) := by
  induction l generalizing b with
  | nil => exact h0
  | cons x xs ih =>
    simp only [List.foldl_cons]
    exact ih _ (hstep _ _ List.mem_cons_self h0) (fun s y hy hs => hstep s y (List.mem_cons_of_mem _ hy) hs)

theorem foldl_congr_inv (P : β → Prop) (f g : β → α → β) (l : List α) (b : β) (h0 : P b)
    (hP : ∀ s a, a ∈ l → P s → P (g s a)) (hfg : ∀ s a, a ∈ l → P s → f s a = g s a) : l.foldl f b = l.foldl g b := by
  induction l generalizing b with
  | nil => rfl
  | cons a l ih =>
    rw [List.foldl_cons, List.foldl_cons, hfg b a List.mem_cons_self h0]
    exact ih _ (hP b a List.mem_cons_self h0) (fun s a' ha' => hP s a' (List.mem_cons_of_mem _ ha'))
      (fun s a' ha' => hfg s a' (List.mem_cons_of_mem _ ha'))

theorem foldl_congr_mem (f g : β → α → β) (l : List α) (b : β)
    (h : ∀ a ∈ l, ∀ acc, f acc a = g acc a) : l.foldl f b = l.foldl g b :=
  foldl_congr_inv (fun _ => True) f g l b trivial (fun _ _ _ _ => trivial) fun s a ha _ => h a ha s

theorem foldl_range_succ (f : β → Nat → β) (b : β) (n : Nat) :
    (List.range (n + 1)).foldl f b = f ((List.range n).foldl f b) n := by
  rw [List.range_succ, List.foldl_append]; rfl

/-- `ok` is lost for good once it is lost (`hstuck`); a run that ends `ok` was `ok` after every round, so the invariant
only has to be carried through rounds that start and end `ok` -/
theorem foldl_range_ok (ok : β → Prop) (P : Nat → β → Prop) (f : β → Nat → β) (n : Nat) (b : β)
    (hstuck : ∀ s i, ¬ ok s → ¬ ok (f s i)) (h0 : P 0 b)
    (hstep : ∀ s i, i < n → P i s → ok s → ok (f s i) → P (i + 1) (f s i))
    (h : ok ((List.range n).foldl f b)) :
    P n ((List.range n).foldl f b) ∧ ∀ k, k ≤ n → ok ((List.range k).foldl f b) := by
  induction n with
  | zero => exact ⟨h0, fun k hk => by rwa [Nat.le_zero.mp hk]⟩
  | succ n ih =>
    rw [foldl_range_succ] at h ⊢
    have hn : ok ((List.range n).foldl f b) := Classical.byContradiction fun hc => hstuck _ n hc h
    obtain ⟨i1, i2⟩ := ih (fun s i hi => hstep s i (Nat.lt_succ_of_lt hi)) hn
    refine ⟨hstep _ n (Nat.lt_succ_self n) i1 hn h, fun k hk => ?_⟩
    rcases Nat.lt_succ_iff_lt_or_eq.mp (Nat.lt_succ_of_le hk) with hlt | rfl
    · exact i2 k (Nat.le_of_lt_succ hlt)
    · rwa [foldl_range_succ]

theorem foldl_range_inv (P : Nat → β → Prop) (f : β → Nat → β) (n : Nat) (b : β)
    (h0 : P 0 b) (hstep : ∀ s i, i < n → P i s → P (i+1) (f s i)) : P n ((List.range n).foldl f b) :=
  (foldl_range_ok (fun _ => True) P f n b (fun _ _ h => absurd trivial h) h0
    (fun s i hi hp _ _ => hstep s i hi hp) trivial).1

theorem foldl_range_stuck (f : β → Nat → β) (bad : β → Prop) (hbad : ∀ s j, bad s → f s j = s) (b : β)
    {k n : Nat} (hk : k ≤ n) (h : bad ((List.range k).foldl f b)) :
    (List.range n).foldl f b = (List.range k).foldl f b := by
  obtain ⟨d, rfl⟩ := Nat.exists_eq_add_of_le hk
  induction d with
  | zero => rfl
  | succ d ih => rw [← Nat.add_assoc, foldl_range_succ, ih (Nat.le_add_right k d), hbad _ _ h]

end folds

/-! `foldl_set_cells` is the normal form: the loop acts on every cell by the fold of the rounds that hit it, and the
`foldl_ite_*` lemmas say what such a fold of guarded steps is.  `foldl_stores` is the case of values that do not read
the array, `foldl_store_spec` the case of values that read all of it. -/

section cells
variable {α β : Type}

theorem foldl_set_cells (d : α) (pos : β → Nat) (f : β → α → α) (L : List β) (y : Array α) :
    (L.foldl (fun y b => y.setIfInBounds (pos b) (f b (y.getD (pos b) d))) y).size = y.size ∧
    ∀ p, (L.foldl (fun y b => y.setIfInBounds (pos b) (f b (y.getD (pos b) d))) y).getD p d =
      L.foldl (fun v b => if pos b = p ∧ p < y.size then f b v else v) (y.getD p d) := by
  induction L generalizing y with
  | nil => exact ⟨rfl, fun _ => rfl⟩
  | cons b L ih =>
    obtain ⟨h1, h2⟩ := ih (y.setIfInBounds (pos b) (f b (y.getD (pos b) d)))
    rw [Array.size_setIfInBounds] at h1 h2
    refine ⟨h1, fun p => ?_⟩
    rw [List.foldl_cons, List.foldl_cons, h2 p, getD_setIfInBounds]
    by_cases hp : pos b = p ∧ p < y.size
    · rw [if_pos hp, if_pos ⟨hp.1, hp.1 ▸ hp.2⟩, hp.1]
    · rw [if_neg hp, if_neg fun h : pos b = p ∧ pos b < y.size => hp ⟨h.1, h.1 ▸ h.2⟩]

theorem foldl_ite_none (q : β → Prop) [DecidablePred q] (f : β → α → α) (L : List β) (v : α)
    (h : ∀ b ∈ L, ¬ q b) : L.foldl (fun v b => if q b then f b v else v) v = v := by
  induction L with
  | nil => rfl
  | cons b L ih =>
    rw [List.foldl_cons, if_neg (h b List.mem_cons_self)]
    exact ih fun c hc => h c (List.mem_cons_of_mem _ hc)

theorem foldl_ite_unique (q : β → Prop) [DecidablePred q] (f : β → α → α) (L : List β) (v : α) (b : β)
    (hb : b ∈ L) (hq : q b) (huniq : L.Pairwise fun a c => ¬ (q a ∧ q c)) :
    L.foldl (fun v c => if q c then f c v else v) v = f b v := by
  induction L generalizing v with
  | nil => cases hb
  | cons a L ih =>
    obtain ⟨h1, h2⟩ := List.pairwise_cons.mp huniq
    rw [List.foldl_cons]
    rcases List.mem_cons.mp hb with rfl | hb
    · rw [if_pos hq, foldl_ite_none q f L _ fun c hc hqc => h1 c hc ⟨hq, hqc⟩]
    · rw [if_neg fun hqa => h1 b hb ⟨hqa, hq⟩]; exact ih v hb h2

theorem foldl_ite_const (q : β → Prop) [DecidablePred q] (w : β → α) (L : List β) :
    ∀ (v : α) (b : β), b ∈ L → q b → (∀ c ∈ L, q c → w c = w b) →
      L.foldl (fun v c => if q c then w c else v) v = w b := by
  induction L with
  | nil => intro _ _ hb; cases hb
  | cons a L ih =>
    intro v b hb hq hcons
    rw [List.foldl_cons]
    by_cases hL : ∃ c ∈ L, q c
    · obtain ⟨c, hc, hqc⟩ := hL
      rw [ih _ c hc hqc fun e he hqe => (hcons e (List.mem_cons_of_mem _ he) hqe).trans
        (hcons c (List.mem_cons_of_mem _ hc) hqc).symm]
      exact hcons c (List.mem_cons_of_mem _ hc) hqc
    · rw [foldl_ite_none q (fun c _ => w c) L _ fun c hc hqc => hL ⟨c, hc, hqc⟩]
      rcases List.mem_cons.mp hb with rfl | hb
      · rw [if_pos hq]
      · exact absurd ⟨b, hb, hq⟩ hL

/-- A loop of stores `a[pos b] := val b`.  The stores to one cell have to agree: distinct positions, or a value
determined by the position. -/
theorem foldl_stores (pos : β → Nat) (val : β → α) (d : α) (L : List β) (a : Array α) :
    (L.foldl (fun a b => a.setIfInBounds (pos b) (val b)) a).size = a.size ∧
    (∀ b ∈ L, pos b < a.size → (∀ b' ∈ L, pos b' = pos b → val b' = val b) →
      (L.foldl (fun a b => a.setIfInBounds (pos b) (val b)) a).getD (pos b) d = val b) ∧
    ∀ p, (∀ b ∈ L, pos b ≠ p) → (L.foldl (fun a b => a.setIfInBounds (pos b) (val b)) a).getD p d = a.getD p d := by
  obtain ⟨h1, h2⟩ := foldl_set_cells d pos (fun b _ => val b) L a
  refine ⟨h1, fun b hb hlt hag => ?_, fun p hp => ?_⟩
  · rw [h2]
    exact foldl_ite_const _ val L _ b hb ⟨rfl, hlt⟩ fun c hc hqc => hag c hc hqc.1
  · rw [h2]
    exact foldl_ite_none _ _ L _ fun b hb hq => hp b hb hq.1

/-- **A loop that stores one cell per round**, `for j < n: x[P j] := val j x`, at distinct positions, the value
reading the whole array.  `z j` is the value round `j` is known to store when the earlier rounds have stored theirs and
nothing else has moved.  Stores out of range are ignored, so nothing is assumed about `P j < x.size`. -/
theorem foldl_store_spec [Inhabited α] (n : Nat) (P : Nat → Nat) (val : Nat → Array α → α) (z : Nat → α)
    (x : Array α) (hinj : ∀ i j, i < n → j < n → P i = P j → i = j)
    (hval : ∀ j, j < n → ∀ x' : Array α, x'.size = x.size → (∀ i, i < j → P i < x.size → x'[P i]! = z i) →
      (∀ p, (∀ i, i < j → P i ≠ p) → x'[p]! = x[p]!) → val j x' = z j) :
    ((List.range n).foldl (fun (x : Array α) j => x.setIfInBounds (P j) (val j x)) x).size = x.size ∧
    (∀ j, j < n → P j < x.size →
      ((List.range n).foldl (fun (x : Array α) j => x.setIfInBounds (P j) (val j x)) x)[P j]! = z j) ∧
    (∀ p, (∀ i, i < n → P i ≠ p) →
      ((List.range n).foldl (fun (x : Array α) j => x.setIfInBounds (P j) (val j x)) x)[p]! = x[p]!) := by
  refine foldl_range_inv (fun m (r : Array α) => r.size = x.size ∧ (∀ j, j < m → P j < x.size → r[P j]! = z j) ∧
    ∀ p, (∀ i, i < m → P i ≠ p) → r[p]! = x[p]!) _ n x
    ⟨rfl, fun _ h => absurd h (Nat.not_lt_zero _), fun _ _ => rfl⟩ ?_
  rintro r j hj ⟨h1, h2, h3⟩
  rw [hval j hj r h1 h2 h3]
  refine ⟨by rw [Array.size_setIfInBounds, h1], fun i hi hb => ?_, fun p hp => ?_⟩
  · by_cases hij : i = j
    · rw [hij] at hb ⊢; exact getElem!_setIfInBounds_self _ _ (h1 ▸ hb)
    · rw [getElem!_setIfInBounds_ne _ _ (fun h => hij (hinj i j (by omega) hj h.symm)),
        h2 i (Nat.lt_of_le_of_ne (Nat.le_of_lt_succ hi) hij) hb]
  · rw [getElem!_setIfInBounds_ne _ _ (hp j (Nat.lt_succ_self j)), h3 p (fun i hi => hp i (Nat.lt_succ_of_lt hi))]

theorem storeRange_spec [Inhabited α] (n q : Nat) (v : Nat → α) (a : Array α) :
    ((List.range n).foldl (fun (a : Array α) s => a.setIfInBounds (q + s) (v s)) a).size = a.size ∧
    ∀ p, ((List.range n).foldl (fun (a : Array α) s => a.setIfInBounds (q + s) (v s)) a)[p]! =
      if q ≤ p ∧ p < q + n ∧ p < a.size then v (p - q) else a[p]! := by
  obtain ⟨h1, h2, h3⟩ := foldl_store_spec n (q + ·) (fun s _ => v s) v a (fun i j _ _ h => by omega)
    fun _ _ _ _ _ _ => rfl
  refine ⟨h1, fun p => ?_⟩
  by_cases hc : q ≤ p ∧ p < q + n
  · obtain ⟨s, rfl⟩ : ∃ s, p = q + s := ⟨p - q, by omega⟩
    by_cases hs : q + s < a.size
    · rw [if_pos ⟨hc.1, hc.2, hs⟩, h2 s (by omega) hs, Nat.add_sub_cancel_left]
    · rw [if_neg (fun h => hs h.2.2), getElem!_eq_default _ (by omega), getElem!_eq_default _ (by omega)]
  · rw [if_neg (fun h => hc ⟨h.1, h.2.1⟩)]
    exact h3 p fun i hi he => hc ⟨by omega, by omega⟩

end cells

/-- `loop` is any function with the two equations of `while c do body` run on fuel (for a model function both hold
by `rfl`).  An invariant holds at the end; if the variant `μ` fits into the fuel, the loop has ended because `c`
failed, not because the fuel was spent. -/
theorem fuel_while {σ : Type} (loop : Nat → σ → σ) (c : σ → Prop) [DecidablePred c] (body : σ → σ)
    (h0 : ∀ s, loop 0 s = s) (hs : ∀ f s, loop (f + 1) s = if c s then loop f (body s) else s)
    (I : σ → Prop) (μ : σ → Nat) (hI : ∀ s, I s → c s → I (body s) ∧ μ (body s) < μ s) :
    ∀ f s, I s → I (loop f s) ∧ (μ s ≤ f → ¬ c (loop f s)) := by
  intro f
  induction f with
  | zero =>
    intro s hi
    rw [h0]
    exact ⟨hi, fun hμ hc => absurd (hI s hi hc).2 (by omega)⟩
  | succ f ih =>
    intro s hi
    rw [hs]
    by_cases hc : c s
    · rw [if_pos hc]
      obtain ⟨a, b⟩ := ih (body s) (hI s hi hc).1
      exact ⟨a, fun hμ => b (by have := (hI s hi hc).2; omega)⟩
    · rw [if_neg hc]; exact ⟨hi, fun _ => hc⟩

theorem nodup_lt_length {l : List Nat} {n : Nat} (hnd : l.Nodup) (hlt : ∀ t ∈ l, t < n) : l.length ≤ n := by
  have hsub : l ⊆ List.range n := fun t ht => List.mem_range.mpr (hlt t ht)
  simpa using hnd.length_le_of_subset hsub

end Slu
