import Slu.Model.Bridge
/-
Lemmas for C20 about `Slu/Model/Bridge.lean`.  The handle table: `find` is the library's `find?` on the key and `erase` a
`filter`, so what is needed of them is read off core's lemmas about those.  What each operation of the bridge does
(`step_factor`, `step_solve`, `step_free`); live handles stay below `next` over any run (`WF`).  The refinement: the bridge
state is a FUNCTION of the state of the specification machine (`ofSpec`: every matrix replaced by its factorization, the
ledger holding the owned blocks of every handle), and a step, hence a run, of the bridge from `ofSpec sp` is that of the
specification under `ofSpec`, with the same outputs (`step_ofSpec`, `run_ofSpec`); every reachable state is an `ofSpec sp`,
where `LedgerInv` holds by construction.  Core Lean only.
-/
namespace Slu.Bridge

variable {V F B : Type}

theorem find_cons {α : Type} (h k : Handle) (v : α) (t : List (Handle × α)) :
    find h ((k, v) :: t) = if k = h then some v else find h t := rfl

theorem find_eq_find? {α : Type} (h : Handle) (l : List (Handle × α)) : find h l = (l.find? (·.1 == h)).map (·.2) := by
  induction l with
  | nil => rfl
  | cons p t ih =>
    obtain ⟨k, v⟩ := p
    rw [find_cons, List.find?_cons, ih]
    by_cases e : k = h
    · simp [e]
    · simp [e, beq_eq_false_iff_ne.2 e]

theorem find_mem {α : Type} {h : Handle} {l : List (Handle × α)} {v : α} (hf : find h l = some v) : (h, v) ∈ l := by
  rw [find_eq_find?, Option.map_eq_some_iff] at hf
  obtain ⟨p, hp, rfl⟩ := hf
  have e := List.find?_some hp
  exact beq_iff_eq.1 e ▸ List.mem_of_find?_eq_some hp

theorem find_erase_ne {α : Type} (h k : Handle) (l : List (Handle × α)) (hk : k ≠ h) :
    find h (erase k l) = find h l := by
  rw [find_eq_find?, find_eq_find?, erase, List.find?_filter]
  congr 2
  funext p
  by_cases e : p.1 = h <;> simp [e, hk.symm]

theorem find_map {α β : Type} (f : α → β) (h : Handle) (l : List (Handle × α)) :
    find h (l.map fun p => (p.1, f p.2)) = (find h l).map f := by
  rw [find_eq_find?, find_eq_find?, List.find?_map, Option.map_map, Option.map_map]
  rfl

theorem erase_map {α β : Type} (f : α → β) (h : Handle) (l : List (Handle × α)) :
    erase h (l.map fun p => (p.1, f p.2)) = (erase h l).map fun p => (p.1, f p.2) := by
  unfold erase
  rw [List.filter_map]
  rfl

theorem erase_flatMap {α β : Type} (h : Handle) (bs : List β) (l : List (Handle × α)) :
    erase h (l.flatMap fun p => bs.map fun b => (p.1, b)) = (erase h l).flatMap fun p => bs.map fun b => (p.1, b) := by
  unfold erase
  induction l with
  | nil => rfl
  | cons p t ih =>
    have hp : ∀ q ∈ bs.map fun b => (p.1, b), (q.1 != h) = (p.1 != h) := fun q hq => by
      obtain ⟨b, -, rfl⟩ := List.mem_map.1 hq; rfl
    rw [List.flatMap_cons, List.filter_append, ih, List.filter_cons]
    cases e : p.1 != h
    · rw [List.filter_eq_nil_iff.2 fun q hq => by rw [hp q hq, e]; exact Bool.false_ne_true]; rfl
    · rw [List.filter_eq_self.2 fun q hq => by rw [hp q hq, e]]; rfl

/-- what a handle made from `A` points to -/
def entryOf (N : Num V F B) (A : FMat V) : Entry F := { tok := (N.factor (toC A)).1, info := (N.factor (toC A)).2 }

theorem step_factor (N : Num V F B) (st : St F) (A : FMat V) :
    step N st (Op.factor A : Op V B) =
      ({ live := (st.next, entryOf N A) :: st.live,
         ledger := owned.map (fun b => (st.next, b)) ++ st.ledger, next := st.next + 1 },
       Out.factored st.next (N.factor (toC A)).2 A) := rfl

theorem step_solve (N : Num V F B) (st : St F) (h : Handle) (b : B) :
    step N st (Op.solve h b : Op V B) =
      (st, match find h st.live with
           | some e => if e.info = 0 then Out.solved (N.solve e.tok b) else Out.err
           | none => Out.err) := by
  simp only [step]
  cases find h st.live with
  | none => rfl
  | some e => exact (apply_ite (Prod.mk st) (e.info = 0) _ _).symm

theorem step_free (N : Num V F B) (st : St F) (h : Handle) :
    step N st (Op.free h : Op V B) =
      if (find h st.live).isSome then ({ live := erase h st.live, ledger := erase h st.ledger, next := st.next }, Out.freed)
      else (st, Out.err) := by
  simp only [step]
  split <;> simp [*]

theorem run_append (N : Num V F B) (st : St F) (a b : List (Op V B)) :
    (run N st (a ++ b)).1 = (run N (run N st a).1 b).1 := by
  induction a generalizing st with
  | nil => rfl
  | cons op a ih => exact ih _

def WF (st : St F) : Prop := ∀ p ∈ st.live, p.1 < st.next

theorem wf_init : WF (init : St F) := nofun

theorem wf_step (N : Num V F B) (st : St F) (op : Op V B) (h : WF st) : WF (step N st op).1 := by
  cases op with
  | factor A =>
    intro p hp
    rcases List.mem_cons.mp hp with rfl | hp
    · exact Nat.lt_succ_self _
    · exact Nat.lt_succ_of_lt (h p hp)
  | solve k b => rwa [step_solve]
  | free k =>
    rw [step_free]
    split
    · exact fun p hp => h p (List.mem_filter.mp hp).1
    · exact h

theorem wf_run (N : Num V F B) (st : St F) (ops : List (Op V B)) (h : WF st) : WF (run N st ops).1 := by
  induction ops generalizing st with
  | nil => exact h
  | cons op ops ih => exact ih _ (wf_step N st op h)

/-- the ledger holds exactly the owned blocks of the live handles -/
def LedgerInv (st : St F) : Prop := st.ledger = st.live.flatMap fun p => owned.map fun b => (p.1, b)

def ofSpec (N : Num V F B) (sp : Spec V) : St F :=
  let live := sp.mats.map fun p => (p.1, entryOf N p.2)
  { live, ledger := live.flatMap fun p => owned.map fun b => (p.1, b), next := sp.next }

theorem ledgerInv_ofSpec (N : Num V F B) (sp : Spec V) : LedgerInv (ofSpec N sp) := rfl

theorem ofSpec_specInit (N : Num V F B) : ofSpec N specInit = init := rfl

theorem step_ofSpec (N : Num V F B) (sp : Spec V) (op : Op V B) :
    step N (ofSpec N sp) op = (ofSpec N (specStep N sp op).1, (specStep N sp op).2) := by
  cases op with
  | factor A => rfl
  | solve k b =>
    simp only [step_solve, specStep, ofSpec, find_map, gssv]
    cases find k sp.mats with
    | none => rfl
    | some A => by_cases hi : (N.factor (toC A)).2 = 0 <;> simp [hi, entryOf]
  | free k =>
    simp only [step_free, specStep, ofSpec, find_map]
    cases find k sp.mats with
    | none => rfl
    | some A => rw [erase_flatMap k owned, erase_map]; rfl

theorem run_ofSpec (N : Num V F B) (sp : Spec V) (ops : List (Op V B)) :
    run N (ofSpec N sp) ops = (ofSpec N (specRun N sp ops).1, (specRun N sp ops).2) := by
  induction ops generalizing sp with
  | nil => rfl
  | cons op ops ih => simp only [run, specRun, step_ofSpec, ih]

/-- the sequence "free every handle that is still live" (each exactly once, in table order); by fuel, because the
recursion continues on `erase h t`, which is not a structural part of the table -/
def freeAll : (fuel : Nat) → List (Handle × Entry F) → List (Op V B)
  | 0, _ => []
  | _, [] => []
  | fuel + 1, (h, _) :: t => Op.free h :: freeAll fuel (erase h t)

theorem run_freeAll (N : Num V F B) (fuel : Nat) (st : St F) (hfuel : st.live.length ≤ fuel) :
    (run N st (freeAll (V := V) (B := B) fuel st.live)).1.live = [] := by
  generalize hl : st.live = l at hfuel ⊢
  fun_induction freeAll (V := V) (B := B) fuel l generalizing st with
  | case1 l => exact hl.trans (List.eq_nil_of_length_eq_zero (Nat.le_zero.mp hfuel))
  | case2 fuel => exact hl
  | case3 fuel h e t ih =>
    -- the head of the table is found and erased; the run goes on from a table `erase h t`, which is no longer than `t`
    refine ih (step N st (Op.free h)).1 ?_ (Nat.le_trans (List.length_filter_le _ _) (Nat.le_of_succ_le_succ hfuel))
    rw [step_free, hl, find_cons, if_pos rfl, if_pos (by rfl), erase, List.filter_cons_of_neg (by simp)]
    rfl

end Slu.Bridge
