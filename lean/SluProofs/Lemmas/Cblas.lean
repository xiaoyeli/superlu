import Slu.Model.Cblas
import SluProofs.Lemmas.RatBasic
import SluProofs.Lemmas.CxRat
import SluProofs.Lemmas.Kernels
import Mathlib.Algebra.Order.Field.Rat
import Mathlib.Tactic.Ring
import Mathlib.Tactic.FieldSimp
import Mathlib.Tactic.Linarith
/-
What the level-1 theorems of Props/C14.lean rest on: a hand-unrolled loop (`unrolled`, clean-up loop plus blocks, as
in the f2c text) is the plain loop; the f2c position formula `spos` is `Kernels.vpos`, so strided positions are
distinct; a strided in-place loop satisfies `StridedUpd`; the `i?amax` scan finds the first maximum; `ssqStep`
(the inlined `?lassq` recurrence) keeps `scale² * ssq` equal to the sum of squares.
-/
namespace Slu.Cblas
open Finset

section loops
variable {T : Type}

theorem loop_zero (f : T → Nat → T) (t : T) : loop 0 f t = t := by simp [loop]

theorem loop_succ (n : Nat) (f : T → Nat → T) (t : T) : loop (n + 1) f t = f (loop n f t) n :=
  foldl_range_succ f t n

def steps (f : T → Nat → T) (t : T) (b k : Nat) : T := loop k (fun t j => f t (b + j)) t

theorem steps_zero (f : T → Nat → T) (t : T) (b : Nat) : steps f t b 0 = t := loop_zero _ _

theorem steps_succ (f : T → Nat → T) (t : T) (b k : Nat) : steps f t b (k + 1) = f (steps f t b k) (b + k) :=
  loop_succ _ _ _

theorem loop_add (a k : Nat) (f : T → Nat → T) (t : T) : loop (a + k) f t = steps f (loop a f t) a k := by
  simp only [loop, steps, List.range_add, List.foldl_append, List.foldl_map]

/-- no algebraic law is used: the unrolling is invisible at `Float` as well as at `Rat` -/
theorem unrolled_eq_loop (k n : Nat) (f blk : T → Nat → T) (t : T)
    (hblk : ∀ t b, blk t b = steps f t b k) : unrolled k n f blk t = loop n f t := by
  unfold unrolled
  have key : ∀ q, loop q (fun t g => blk t (n % k + k * g)) (loop (n % k) f t) = loop (n % k + k * q) f t := by
    intro q
    induction q with
    | zero => simp [loop_zero]
    | succ q ih =>
      rw [loop_succ, ih, hblk, Nat.mul_succ, ← Nat.add_assoc]
      exact (loop_add _ _ _ _).symm
  rw [key, Nat.mod_add_div]

theorem loop_congr (n : Nat) (f g : T → Nat → T) (t : T) (h : ∀ t i, i < n → f t i = g t i) :
    loop n f t = loop n g t :=
  foldl_congr_mem f g _ t fun i hi t => h t i (List.mem_range.mp hi)

/-- the unit-stride branch (`c`) of a level-1 routine is its general loop -/
theorem unit_branch_eq_loop (c : Prop) [Decidable c] (k n : Nat) (f blk g : T → Nat → T) (t : T)
    (hblk : ∀ t b, blk t b = steps f t b k) (hfg : c → ∀ t i, f t i = g t i) :
    (if c then unrolled k n f blk t else loop n g t) = loop n g t := by
  by_cases h : c
  · rw [if_pos h, unrolled_eq_loop k n f blk t hblk]
    exact loop_congr _ _ _ _ fun t i _ => hfg h t i
  · rw [if_neg h]

end loops

theorem spos_one (n i : Nat) : spos n 1 i = i := by simp [spos]
theorem spos_zero (n : Nat) (inc : Int) (h : 0 ≤ inc) : spos n inc 0 = 0 := by
  have : ¬ inc < 0 := by omega
  simp [spos, this]

theorem spos_eq_vpos (n : Nat) (inc : Int) (i : Nat) : spos n inc i = Kernels.vpos n inc i := by
  unfold spos Kernels.vpos
  by_cases hp : inc > 0
  · obtain ⟨k, rfl⟩ := Int.eq_ofNat_of_zero_le (le_of_lt hp)
    rw [if_neg (by omega), if_pos hp, zero_add, ← Nat.cast_mul, Int.toNat_natCast, Int.toNat_natCast]
  · obtain ⟨k, hk⟩ := Int.eq_ofNat_of_zero_le (show 0 ≤ -inc by omega)
    -- `inc = -k`: both formulas are `(n - 1 - i) * k`, cut off at zero
    have e : (if inc < 0 then (1 - (n : Int)) * inc else 0) + (i : Int) * inc = ((n : Int) - 1 - i) * k := by
      by_cases h0 : inc = 0
      · rw [if_neg (by omega), ← hk, h0]; ring
      · rw [if_pos (by omega), ← hk]; ring
    rw [if_neg hp, hk, Int.toNat_natCast, e]
    by_cases hi : i + 1 ≤ n
    · rw [show (n : Int) - 1 - i = ((n - 1 - i : Nat) : Int) by omega, ← Nat.cast_mul, Int.toNat_natCast]
    · rw [show n - 1 - i = 0 by omega, Nat.zero_mul, Int.toNat_eq_zero]
      exact mul_nonpos_iff.mpr (Or.inr ⟨by omega, by omega⟩)

theorem spos_inj (n : Nat) (inc : Int) (hinc : inc ≠ 0) (i j : Nat) (hi : i < n) (hj : j < n)
    (h : spos n inc i = spos n inc j) : i = j :=
  Kernels.vpos_inj n inc hinc i j hi hj (by rwa [spos_eq_vpos, spos_eq_vpos] at h)

section upd
variable {K : Type}

def updG (d : K) (pos : Nat → Nat) (f : Nat → K → K) (y : Array K) (m : Nat) : Array K :=
  loop m (fun (y : Array K) i => y.setIfInBounds (pos i) (f i (y.getD (pos i) d))) y

theorem updG_spec (d : K) (n : Nat) (pos : Nat → Nat) (f : Nat → K → K) (y : Array K)
    (hinj : ∀ i j, i < n → j < n → pos i = pos j → i = j) (hb : ∀ i, i < n → pos i < y.size) :
    (updG d pos f y n).size = y.size ∧
    (∀ i, i < n → (updG d pos f y n).getD (pos i) d = f i (y.getD (pos i) d)) ∧
    (∀ p, (∀ i, i < n → pos i ≠ p) → (updG d pos f y n).getD p d = y.getD p d) := by
  have := @Slu.Kernels.foldl_upd_spec K ⟨d⟩ n pos f y hinj
  simp only [Array.getElem!_eq_getD] at this
  exact ⟨this.1, fun i hi => this.2.1 i hi (hb i hi), this.2.2⟩

end upd

def StridedUpd {K : Type} (d : K) (N : Nat) (inc : Int) (y r : Array K) (val : Nat → K) : Prop :=
  r.size = y.size ∧ (∀ i, i < N → r.getD (spos N inc i) d = val i) ∧
  (∀ p, (∀ i, i < N → spos N inc i ≠ p) → r.getD p d = y.getD p d)

theorem updG_strided {K : Type} (d : K) (N : Nat) (inc : Int) (hinc : inc ≠ 0) (f : Nat → K → K) (y : Array K)
    (hb : ∀ i, i < N → spos N inc i < y.size) :
    StridedUpd d N inc y (updG d (spos N inc) f y N) (fun i => f i (y.getD (spos N inc i) d)) :=
  updG_spec d N (spos N inc) f y (spos_inj N inc hinc) hb

section sums
variable {K : Type} [AddCommMonoid K]

theorem loop_add_eq_sum (n : Nat) (g : Nat → K) (a : K) :
    loop n (fun t i => t + g i) a = a + ∑ i ∈ range n, g i :=
  foldl_add_range n g a

theorem loop_add_zero_eq_sum (n : Nat) (g : Nat → K) : loop n (fun t i => t + g i) 0 = ∑ i ∈ range n, g i :=
  (loop_add_eq_sum n g 0).trans (zero_add _)

end sums

def amaxScan (key : Nat → Rat) (m : Nat) : Int × Rat :=
  loop m (fun (s : Int × Rat) k => if key (k + 1) ≤ s.2 then s else (((k + 2 : Nat) : Int), key (k + 1))) ((1 : Int), key 0)

theorem amaxScan_spec (key : Nat → Rat) (m : Nat) :
    ∃ r : Nat, (amaxScan key m).1 = ((r + 1 : Nat) : Int) ∧ r ≤ m ∧ (amaxScan key m).2 = key r ∧
      (∀ i, i ≤ m → key i ≤ key r) ∧ (∀ i, i < r → key i < key r) := by
  induction m with
  | zero => exact ⟨0, by simp [amaxScan, loop_zero]⟩
  | succ m ih =>
    obtain ⟨r, h1, h2, h3, h4, h5⟩ := ih
    have hs : amaxScan key (m + 1) =
        (if key (m + 1) ≤ (amaxScan key m).2 then amaxScan key m else (((m + 2 : Nat) : Int), key (m + 1))) := by
      simp [amaxScan, loop_succ]
    rw [hs]
    by_cases hle : key (m + 1) ≤ (amaxScan key m).2
    · rw [if_pos hle]
      refine ⟨r, h1, by omega, h3, ?_, h5⟩
      intro i hi
      by_cases him : i = m + 1
      · subst him; rw [← h3]; exact hle
      · exact h4 i (by omega)
    · rw [if_neg hle]
      rw [h3] at hle
      have hlt : key r < key (m + 1) := lt_of_not_ge hle
      refine ⟨m + 1, by push_cast; ring, le_refl _, rfl, ?_, ?_⟩
      · intro i hi
        by_cases him : i = m + 1
        · subst him; exact le_refl _
        · exact le_trans (h4 i (by omega)) (le_of_lt hlt)
      · intro i hi
        exact lt_of_le_of_lt (h4 i (by omega)) hlt

theorem amax_first (key : Nat → Rat) (n : Int) (hn : 1 ≤ n) :
    ∃ r : Nat, (if n = 1 then (1 : Int) else (amaxScan key (n.toNat - 1)).1) = ((r + 1 : Nat) : Int) ∧ r < n.toNat ∧
      (∀ i, i < n.toNat → key i ≤ key r) ∧ (∀ i, i < r → key i < key r) := by
  by_cases h1 : n = 1
  · subst h1
    exact ⟨0, by simp, by simp, fun i hi => by rw [show i = 0 by simpa using hi],
      fun i hi => absurd hi (Nat.not_lt_zero i)⟩
  · obtain ⟨r, e1, e2, -, e4, e5⟩ := amaxScan_spec key (n.toNat - 1)
    exact ⟨r, by rw [if_neg h1, e1], by omega, fun i hi => e4 i (by omega), e5⟩

/-! at `Rat` the promotions of the single-precision text are the identity and `f2cabs` is `|·|` -/

@[simp] theorem up_rat (x : Rat) : (Widen.up x : Rat) = x := rfl
@[simp] theorem down_rat (x : Rat) : (Widen.down x : Rat) = x := rfl

theorem f2cabs_rat (x : Rat) : f2cabs x = |x| := by
  unfold f2cabs
  by_cases h : x ≥ 0
  · rw [if_pos h, abs_of_nonneg h]
  · rw [if_neg h, abs_of_neg (lt_of_not_ge h)]

theorem isZero_rat (x : Rat) : IsZero.isZero x = decide (x = 0) := by
  show (x == 0) = decide (x = 0)
  by_cases h : x = 0 <;> simp [h]

/-- the pair `(scale, ssq)` of the `?lassq` recurrence stands for the sum of squares `S` -/
def Ssq (s : Rat × Rat) (S : Rat) : Prop := 0 ≤ s.1 ∧ 1 ≤ s.2 ∧ s.1 ^ 2 * s.2 = S

theorem Ssq.step {s : Rat × Rat} {S : Rat} (h : Ssq s S) (v : Rat) :
    Ssq (ssqStep s v) (S + v ^ 2) ∧ s.1 ≤ (ssqStep s v).1 ∧ |v| ≤ (ssqStep s v).1 := by
  obtain ⟨h0, h1, hS⟩ := h
  unfold Ssq ssqStep
  rw [isZero_rat, f2cabs_rat]
  by_cases hv : v = 0
  · subst hv; simp [h0, h1, hS]
  · simp only [hv, decide_false, Bool.false_eq_true, if_false]
    have hav : 0 < |v| := abs_pos.mpr hv
    by_cases hlt : s.1 < |v|
    · simp only [hlt, if_true]
      refine ⟨⟨le_of_lt hav, ?_, ?_⟩, le_of_lt hlt, le_refl _⟩
      · have : 0 ≤ s.2 * (s.1 / |v| * (s.1 / |v|)) := mul_nonneg (by linarith) (mul_self_nonneg _)
        linarith
      · have : |v| ^ 2 = v ^ 2 := sq_abs v
        field_simp
        rw [this, ← hS]; ring
    · simp only [hlt, if_false]
      have hge : |v| ≤ s.1 := le_of_not_gt hlt
      have hs : 0 < s.1 := lt_of_lt_of_le hav hge
      refine ⟨⟨h0, ?_, ?_⟩, le_refl _, hge⟩
      · have : 0 ≤ |v| / s.1 * (|v| / s.1) := mul_self_nonneg _
        linarith
      · have : |v| ^ 2 = v ^ 2 := sq_abs v
        have hne : s.1 ≠ 0 := ne_of_gt hs
        field_simp
        rw [this, ← hS]

theorem ssq_loop_spec (v : Nat → Rat) (m : Nat) :
    Ssq (loop m (fun s i => ssqStep s (v i)) (0, 1)) (∑ i ∈ range m, v i ^ 2) ∧
    ∀ i, i < m → |v i| ≤ (loop m (fun s i => ssqStep s (v i)) ((0 : Rat), (1 : Rat))).1 := by
  induction m with
  | zero => simp [loop_zero, Ssq]
  | succ m ih =>
    rw [loop_succ, Finset.sum_range_succ]
    obtain ⟨g, g3, g4⟩ := ih.1.step (v m)
    refine ⟨g, fun i hi => ?_⟩
    by_cases him : i = m
    · subst him; exact g4
    · exact le_trans (ih.2 i (by omega)) g3

/-- the complex recurrence is two real steps -/
theorem ssq2_loop_spec (v w : Nat → Rat) (m : Nat) :
    Ssq (loop m (fun s i => ssqStep (ssqStep s (v i)) (w i)) (0, 1)) (∑ i ∈ range m, (v i ^ 2 + w i ^ 2)) := by
  induction m with
  | zero => simp [loop_zero, Ssq]
  | succ m ih =>
    rw [loop_succ, Finset.sum_range_succ, ← add_assoc]
    exact ((ih.step (v m)).1.step (w m)).1

theorem copyG_eq_updG {K : Type} [Zero K] (N : Nat) (x : Array K) (incx : Int) (y : Array K) (incy : Int) :
    copyG N x incx y incy = updG 0 (spos N incy) (fun i _ => x.getD (spos N incx i) 0) y N := rfl

theorem swapG_eq {K : Type} [Zero K] (N : Nat) (x : Array K) (incx : Int) (y : Array K) (incy : Int)
    (hx : incx ≠ 0) (hy : incy ≠ 0) (m : Nat) (hm : m ≤ N) :
    loop m (fun (s : Array K × Array K) i =>
        let ix := spos N incx i; let iy := spos N incy i
        let tmp := s.1.getD ix 0
        let x1 := s.1.setIfInBounds ix (s.2.getD iy 0)
        (x1, s.2.setIfInBounds iy tmp)) (x, y) =
      (updG 0 (spos N incx) (fun i _ => y.getD (spos N incy i) 0) x m,
       updG 0 (spos N incy) (fun i _ => x.getD (spos N incx i) 0) y m) := by
  induction m with
  | zero => simp [updG, loop_zero]
  | succ m ih =>
    rw [loop_succ, ih (by omega)]
    -- position `m` of either vector has not been written yet
    have fresh : ∀ (inc : Int), inc ≠ 0 → ∀ (v : Nat → K) (z : Array K),
        (updG 0 (spos N inc) (fun i _ => v i) z m).getD (spos N inc m) 0 = z.getD (spos N inc m) 0 := fun inc hinc v z =>
      (foldl_stores (spos N inc) v 0 (List.range m) z).2.2 _ fun i hi h => by
        have := List.mem_range.mp hi
        have := spos_inj N inc hinc i m (by omega) (by omega) h
        omega
    simp only [fresh incx hx, fresh incy hy]
    simp [updG, loop_succ]

theorem cmulF_eq_mul (a b : Cx Rat) : cmulF a b = a * b := by
  apply Cx.ext'
  · rfl
  · show a.re * b.im + a.im * b.re = a.im * b.re + a.re * b.im
    ring

theorem cabs1W_zero_iff (a : Cx Rat) : IsZero.isZero (cabs1W a : Rat) = decide (a = 0) := by
  rw [isZero_rat]
  unfold cabs1W
  simp only [up_rat, f2cabs_rat]
  by_cases h : a = 0
  · subst h
    show decide (|(0 : Rat)| + |(0 : Rat)| = 0) = decide ((0 : Cx Rat) = 0)
    simp
  · simp only [h, decide_false, decide_eq_false_iff_not]
    intro hc
    have h1 : |a.re| = 0 := by linarith [abs_nonneg a.re, abs_nonneg a.im]
    have h2 : |a.im| = 0 := by linarith [abs_nonneg a.re, abs_nonneg a.im]
    exact h (Cx.ext' (abs_eq_zero.mp h1) (abs_eq_zero.mp h2))

theorem loop_list {α β : Type} (l : List α) (d : α) (f : β → α → β) (b : β) (n : Nat) (hn : n ≤ l.length) :
    loop n (fun t i => f t (l.getD i d)) b = (l.take n).foldl f b := by
  induction n with
  | zero => simp [loop_zero]
  | succ n ih =>
    have hlt : n < l.length := by omega
    rw [loop_succ, ih (by omega), List.take_add_one, List.foldl_append]
    simp [List.getD, List.getElem?_eq_getElem hlt]

theorem loop_getD_eq_foldl {α β : Type} (x : Array α) (d : α) (f : β → α → β) (b : β) :
    loop x.size (fun t i => f t (x.getD i d)) b = x.foldl f b := by
  have h1 := loop_list x.toList d f b x.size (by simp)
  have h2 : List.take x.size x.toList = x.toList := by simp
  rw [h2, Array.foldl_toList] at h1
  simpa using h1

end Slu.Cblas
