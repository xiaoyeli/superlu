import Slu.Model.Cblas2
import SluProofs.Lemmas.Cblas
import SluProofs.Lemmas.Gemv
/-
The level-2 reference BLAS mirrors of Slu/Model/Cblas2.lean: `denseCSC` stores every row of every column, so
`opEntry` on it is the array entry `opA` (this is what lets `gemv_spec` follow from `sp_gemv_spec`); and three of the
four branches of `?trsv_` as sweeps whose strided result is a forward substitution (`sweepUT`, `sweepLT`, `colStepLN`;
the `uplo = U, trans = N` branch is the `colStepLN` loop on the reversed indexing, `trsv_upper_notrans_eq_sweep` in
Props/C14.lean).
-/
namespace Slu.Cblas
open Finset Slu.Kernels

section dense
variable {K : Type} [Inhabited K]

theorem dense_colptr (m n lda : Nat) (a : Array K) (j : Nat) (hj : j ≤ n) :
    (denseCSC m n lda a).colptr[j]! = j * m := by
  simp [denseCSC, Nat.lt_succ_of_le hj]

theorem dense_col (m n lda : Nat) (a : Array K) (j : Nat) (hj : j < n) :
    (denseCSC m n lda a).col j = (List.range m).map fun i => (i, a[i + j * lda]!) := by
  unfold CSC.col
  rw [dense_colptr m n lda a (j + 1) (by omega), dense_colptr m n lda a j (by omega)]
  have : (j + 1) * m - j * m = m := by rw [Nat.succ_mul]; omega
  rw [this]
  apply List.map_congr_left
  intro d hd
  have hd' : d < m := by simpa using hd
  have hlt : j * m + d < m * n := by
    calc j * m + d < j * m + m := by omega
      _ = (j + 1) * m := by rw [Nat.succ_mul]
      _ ≤ n * m := Nat.mul_le_mul_right m (by omega)
      _ = m * n := Nat.mul_comm _ _
  have hmod : (j * m + d) % m = d := by rw [Nat.mul_comm, Nat.mul_add_mod, Nat.mod_eq_of_lt hd']
  have hdiv : (j * m + d) / m = j := by
    rw [Nat.mul_comm, Nat.mul_add_div (by omega), Nat.div_eq_of_lt hd']; simp
  simp [denseCSC, hlt, hmod, hdiv]

end dense

section spec
variable {K : Type} [Field K] [Conj K] [Inhabited K]

omit [Conj K] [Inhabited K] in
theorem foldl_dense (m : Nat) (g : Nat → K) (h : K → K) (i : Nat) :
    ((List.range m).map (fun r => (r, g r))).foldl (fun acc (e : Nat × K) => if e.1 = i then acc + h e.2 else acc) 0 =
      if i < m then h (g i) else 0 := by
  rw [List.foldl_map, foldl_ite_add (fun r => r = i) (fun r => h (g r)), zero_add, sum_filter_range, Finset.sum_ite_eq']
  simp only [mem_range]

def opA (tr : Tr) (a : Array K) (lda : Nat) (i j : Nat) : K :=
  if tr == Tr.N then a[i + j * lda]! else cj tr a[j + i * lda]!

theorem lenY_dense (tr : Tr) (m n lda : Nat) (a : Array K) :
    lenY tr (denseCSC m n lda a) = if tr == Tr.N then m else n := rfl

theorem lenX_dense (tr : Tr) (m n lda : Nat) (a : Array K) :
    lenX tr (denseCSC m n lda a) = if tr == Tr.N then n else m := rfl

theorem dense_opEntry (tr : Tr) (m n lda : Nat) (a : Array K) (i j : Nat)
    (hi : i < lenY tr (denseCSC m n lda a)) (hj : j < lenX tr (denseCSC m n lda a)) :
    opEntry tr (denseCSC m n lda a) i j = opA tr a lda i j := by
  rw [lenY_dense] at hi
  rw [lenX_dense] at hj
  unfold opEntry opA
  by_cases h : (tr == Tr.N) = true
  · rw [if_pos h] at hi hj ⊢
    rw [if_pos h, dense_col m n lda a j hj]
    exact (foldl_dense m (fun r => a[r + j * lda]!) id i).trans (if_pos hi)
  · rw [if_neg h] at hi hj ⊢
    rw [if_neg h, dense_col m n lda a i hi, foldl_dense m (fun r => a[r + i * lda]!) (cj tr) j, if_pos hj]

end spec
/-! ### the sweeps of `?trsv_`

The two `trans = T/C` branches are row sweeps (`rowSweep_spec`), the `uplo = L` one on the reversed indexing
`t ↦ n-1-t` (`sweepLT_eq_sweepUT`); the `uplo = L, trans = N` branch is a column sweep (`Sweep.run` with `Sweep.step1`).  The specifications
speak of the first `m ≤ n` steps: the strided entries written so far are the forward substitution `fwdSub` of the
system the branch solves (for `sweepLT` its row equations), the others are untouched or partly eliminated.  The row sweeps
speak of stage `m` of `fwdSub` (the stages agree below `m`, `fwdSub_stable`), which is what `fwdSub_rows_rev` takes for the
reversed system; the column sweep of stage `n`, because a `Sweep` has one solution `y` for all its states. -/
section trsv
variable {K : Type} [Field K] [Conj K] [Inhabited K]

omit [Field K] [Conj K] [Inhabited K] in
theorem rev_inj {P : Nat → Nat} {n : Nat} (hinj : ∀ i j, i < n → j < n → P i = P j → i = j) :
    ∀ i j, i < n → j < n → P (n - 1 - i) = P (n - 1 - j) → i = j := fun i j hi hj h => by
  have := hinj _ _ (by omega) (by omega) h
  omega

omit [Conj K] [Inhabited K] in
theorem diag_ne_zero (nounit : Bool) (d : K) (hd : nounit = true → d ≠ 0) : (if nounit then d else 1) ≠ 0 := by
  cases hnu : nounit
  · exact one_ne_zero
  · exact hd hnu

/-- the sweep of the `uplo = U, trans = T/C` branch of `?trsv_` (dtrsv.c:253-284, ztrsv.c:279-359) -/
def sweepUT (P : Nat → Nat) (c : Nat → Nat → K) (dg : Nat → K) (nounit : Bool) (x : Array K) (m : Nat) : Array K :=
  loop m (fun (x : Array K) j =>
    let temp := loop j (fun (t : K) i => t - c i j * x[P i]!) x[P j]!
    let temp := if nounit then temp / dg j else temp
    x.setIfInBounds (P j) temp) x

omit [Conj K] in
theorem sweepUT_spec (n : Nat) (P : Nat → Nat) (c : Nat → Nat → K) (dg : Nat → K) (nounit : Bool) (x : Array K)
    (hinj : ∀ i j, i < n → j < n → P i = P j → i = j) (hb : ∀ i, i < n → P i < x.size) (m : Nat) (hm : m ≤ n) :
    (sweepUT P c dg nounit x m).size = x.size ∧
    (∀ j, j < m → (sweepUT P c dg nounit x m)[P j]! =
      (fwdSub (fun j i => c i j) (fun j => if nounit then dg j else 1) (fun i => x[P i]!) m).getD j 0) ∧
    (∀ j, m ≤ j → j < n → (sweepUT P c dg nounit x m)[P j]! = x[P j]!) ∧
    (∀ p, (∀ i, i < n → P i ≠ p) → (sweepUT P c dg nounit x m)[p]! = x[p]!) := by
  have h := rowSweep_spec m P
    (fun j x => if nounit then (List.range j).foldl (fun (t : K) i => t - c i j * x[P i]!) x[P j]! / dg j
      else (List.range j).foldl (fun (t : K) i => t - c i j * x[P i]!) x[P j]!)
    (fun j => (fwdSub (fun j i => c i j) (fun j => if nounit then dg j else 1) (fun i => x[P i]!) m).getD j 0) x
    (fun i j hi hj => hinj i j (hi.trans_le hm) (hj.trans_le hm)) (fun i hi => hb i (hi.trans_le hm))
    (fun j hj x' _ g1 g2 => by
      rw [fwd_rec _ _ _ m j hj, foldl_sub_range, g2 _ fun i hi h => by have := hinj i j (by omega) (hj.trans_le hm) h; omega,
        Finset.sum_congr rfl fun i hi => by rw [g1 i (Finset.mem_range.mp hi)]]
      cases nounit
      · exact (div_one _).symm
      · rfl) m (le_refl _)
  exact ⟨h.size, fun j hj => h.done j (mem_range.mpr hj),
    fun j hmj hjn => h.lazy _ fun i hi hc => by
      have := mem_range.mp hi
      have := hinj i j (by omega) hjn hc
      omega,
    fun p hp => h.lazy p fun i hi => hp i ((mem_range.mp hi).trans_le hm)⟩

/-- the sweep of the `uplo = L, trans = T/C` branch of `?trsv_` (dtrsv.c:285-318, ztrsv.c:360-442):
columns `n-1` down to `0`, inner index `i = n-1, ..., j+1` -/
def sweepLT (n : Nat) (P : Nat → Nat) (c : Nat → Nat → K) (dg : Nat → K) (nounit : Bool) (x : Array K) (m : Nat) : Array K :=
  loop m (fun (x : Array K) jj =>
    let j := n - 1 - jj
    let temp := loop (n - 1 - j) (fun (t : K) ii => let i := n - 1 - ii; t - c i j * x[P i]!) x[P j]!
    let temp := if nounit then temp / dg j else temp
    x.setIfInBounds (P j) temp) x

omit [Conj K] in
theorem sweepLT_eq_sweepUT (n : Nat) (P : Nat → Nat) (c : Nat → Nat → K) (dg : Nat → K) (nounit : Bool) (x : Array K)
    (m : Nat) (hm : m ≤ n) :
    sweepLT n P c dg nounit x m =
      sweepUT (fun t => P (n - 1 - t)) (fun s t => c (n - 1 - s) (n - 1 - t)) (fun t => dg (n - 1 - t)) nounit x m :=
  loop_congr _ _ _ _ fun X t ht => by
    dsimp only
    rw [show n - 1 - (n - 1 - t) = t by omega]

omit [Conj K] in
theorem sweepLT_spec (n : Nat) (P : Nat → Nat) (c : Nat → Nat → K) (dg : Nat → K) (nounit : Bool) (x : Array K)
    (hinj : ∀ i j, i < n → j < n → P i = P j → i = j) (hb : ∀ i, i < n → P i < x.size)
    (hd : nounit = true → ∀ j, j < n → dg j ≠ 0) (m : Nat) (hm : m ≤ n) :
    (sweepLT n P c dg nounit x m).size = x.size ∧
    (∀ j, n - m ≤ j → j < n →
      (∑ ii ∈ range (n - 1 - j), c (n - 1 - ii) j * (sweepLT n P c dg nounit x m)[P (n - 1 - ii)]!) +
        (if nounit then dg j else 1) * (sweepLT n P c dg nounit x m)[P j]! = x[P j]!) ∧
    (∀ j, j < n - m → (sweepLT n P c dg nounit x m)[P j]! = x[P j]!) ∧
    (∀ p, (∀ i, i < n → P i ≠ p) → (sweepLT n P c dg nounit x m)[p]! = x[p]!) := by
  obtain ⟨h1, h2, h3, h4⟩ := sweepUT_spec n (fun t => P (n - 1 - t)) (fun s t => c (n - 1 - s) (n - 1 - t))
    (fun t => dg (n - 1 - t)) nounit x (rev_inj hinj)
    (fun i hi => hb _ (by omega)) m hm
  rw [← sweepLT_eq_sweepUT n P c dg nounit x m hm] at h1 h2 h3 h4
  refine ⟨h1, fun j hj hjn => ?_, fun j hj => ?_, fun p hp => h4 p fun i hi => hp _ (by omega)⟩
  · exact fwdSub_rows_rev (fun j i => c i j) (fun j => if nounit then dg j else 1) (fun i => x[P i]!) n m
      (fun i => (sweepLT n P c dg nounit x m)[P i]!) h2 j hjn (by omega) (diag_ne_zero nounit _ fun h => hd h j hjn)
  · have := h3 (n - 1 - j) (by omega) (by omega)
    rwa [show n - 1 - (n - 1 - j) = j by omega] at this

end trsv

section trsvN
variable {K : Type} [Field K] [Inhabited K]

/-- one column of the `trans = N, uplo = L` sweep (dtrsv.c:214-248) -/
def colStepLN [BEq K] (n : Nat) (P : Nat → Nat) (M : Nat → Nat → K) (nounit : Bool) (x : Array K) (j : Nat) : Array K :=
  if x[P j]! == 0 then x else
  let x := if nounit then x.setIfInBounds (P j) (x[P j]! / M j j) else x
  let temp := x[P j]!
  loop (n - 1 - j) (fun (x : Array K) ii => let i := j + 1 + ii
    x.setIfInBounds (P i) (x[P i]! - temp * M i j)) x

variable [BEq K] [LawfulBEq K]

/-- the `x_j = 0` skip of the C text is invisible: the skipped column would subtract zeros -/
theorem colStepLN_spec (n : Nat) (P : Nat → Nat) (M : Nat → Nat → K) (nounit : Bool) (X : Array K) (j : Nat)
    (hinj : ∀ i j, i < n → j < n → P i = P j → i = j) (hb : ∀ i, i < n → P i < X.size) (hj : j < n) :
    (colStepLN n P M nounit X j).size = X.size ∧
    (colStepLN n P M nounit X j)[P j]! = (if nounit then X[P j]! / M j j else X[P j]!) ∧
    (∀ i, j < i → i < n → (colStepLN n P M nounit X j)[P i]! =
      X[P i]! - (if nounit then X[P j]! / M j j else X[P j]!) * M i j) ∧
    (∀ p, (∀ i, j ≤ i → i < n → P i ≠ p) → (colStepLN n P M nounit X j)[p]! = X[p]!) := by
  unfold colStepLN
  by_cases hz : X[P j]! = 0
  · rw [if_pos (by simpa using hz), hz]
    exact ⟨rfl, by simp, fun i _ _ => by simp, fun _ _ => rfl⟩
  · -- with or without the division the column starts by storing the quotient `v` at `P j`
    rw [if_neg (by simpa using hz), show (if nounit then X.setIfInBounds (P j) (X[P j]! / M j j) else X) =
      X.setIfInBounds (P j) (if nounit then X[P j]! / M j j else X[P j]!) by
        cases nounit
        · exact (setIfInBounds_getElem!_self X _).symm
        · rfl]
    generalize (if nounit then X[P j]! / M j j else X[P j]!) = v
    have hv : (X.setIfInBounds (P j) v)[P j]! = v := getElem!_setIfInBounds_self _ _ (hb j hj)
    simp only [hv]
    obtain ⟨u1, u2, u3⟩ := foldl_upd_spec (n - 1 - j) (fun ii => P (j + 1 + ii)) (fun ii w => w - v * M (j + 1 + ii) j)
      (X.setIfInBounds (P j) v) (fun a b ha hb' h => by have := hinj _ _ (by omega) (by omega) h; omega)
    refine ⟨u1.trans Array.size_setIfInBounds, ?_, fun i hji hin => ?_, fun p hp => ?_⟩
    · exact (u3 _ fun ii hii h => by have := hinj _ _ (by omega) hj h; omega).trans hv
    · have := u2 (i - j - 1) (by omega) (by rw [Array.size_setIfInBounds]; exact hb _ (by omega))
      rwa [show j + 1 + (i - j - 1) = i by omega,
        getElem!_setIfInBounds_ne _ _ fun h => by have := hinj _ _ hj hin h; omega] at this
    · exact (u3 p fun ii hii => hp _ (by omega) (by omega)).trans (getElem!_setIfInBounds_ne _ _ (hp j (le_refl _) hj))

theorem sweepLN_spec (n : Nat) (P : Nat → Nat) (M : Nat → Nat → K) (nounit : Bool) (x : Array K)
    (hinj : ∀ i j, i < n → j < n → P i = P j → i = j) (hb : ∀ i, i < n → P i < x.size) (m : Nat) (hm : m ≤ n) :
    (loop m (colStepLN n P M nounit) x).size = x.size ∧
    (∀ j, j < m → (loop m (colStepLN n P M nounit) x)[P j]! =
      (fwdSub M (fun j => if nounit then M j j else 1) (fun i => x[P i]!) n).getD j 0) ∧
    (∀ i, m ≤ i → i < n → (loop m (colStepLN n P M nounit) x)[P i]! =
      x[P i]! - ∑ j ∈ range m, M i j * (fwdSub M (fun j => if nounit then M j j else 1) (fun i => x[P i]!) n).getD j 0) ∧
    (∀ p, (∀ i, i < n → P i ≠ p) → (loop m (colStepLN n P M nounit) x)[p]! = x[p]!) := by
  -- column `j` finishes unknown `j`
  have h := Sweep.run (P := P) (A := M) (n := n) (x0 := x)
    (y := fun j => (fwdSub M (fun j => if nounit then M j j else 1) (fun i => x[P i]!) n).getD j 0)
    range (fun j X => colStepLN n P M nounit X j) m Finset.range_zero fun j hj X h => by
      obtain ⟨s1, s2, s3, s4⟩ := colStepLN_spec n P M nounit X j hinj (fun i hi => by rw [h.size]; exact hb i hi) (by omega)
      have hzt : (if nounit then X[P j]! / M j j else X[P j]!) =
          (fwdSub M (fun j => if nounit then M j j else 1) (fun i => x[P i]!) n).getD j 0 := by
        rw [h.todo j Finset.notMem_range_self (by omega), fwd_rec _ _ _ n j (by omega)]
        cases nounit
        · exact (div_one _).symm
        · rfl
      rw [Finset.range_add_one]
      exact h.step1 Finset.notMem_range_self s1 (s2.trans hzt)
        (fun i hi => s4 _ fun a ha han hc => by
          have := Finset.mem_range.mp hi
          have := hinj _ _ han (by omega) hc
          omega)
        (fun i hi hij hin => by rw [s3 i (by rw [Finset.mem_range] at hi; omega) hin, hzt, mul_comm])
        fun p hp => s4 p fun i _ hin => hp i hin
  exact ⟨h.size, fun j hj => h.done j (Finset.mem_range.mpr hj),
    fun i hmi hin => h.todo i (by rw [Finset.mem_range]; omega) hin, h.frame⟩

end trsvN
end Slu.Cblas
