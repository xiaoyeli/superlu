import Slu.Model.ColBmod
import SluProofs.Lemmas.MyBlas2
/-
The `[sdcz]column_bmod` mirror (Slu/Model/ColBmod.lean) in exact arithmetic.  The four size cases of a
U-segment share one conclusion, `SegPost`, reached through one frame lemma (`segPost_of_update`), and the three hand-written
ones translate the addresses of the C text by four laws (`addr_below`, `addr_diag`, `addr_left`, `addr_down`); the segment
loop performs a `SegStep` per listed supernode (`colSegments_chain`); the column's own supernode is
`colTail_spec'` for every `fpanelc`, of which `snode_bmod` is the instance `fpanelc = 0`.
The primed theorems hold for ANY `z` with `z s = dense[row s] − Σ_{r<s} z r · L(s,r)` (`SegSol`, as in
`lsolveG_spec`); Props/C01.lean puts `fwdSub` there (`colBmod_segment_spec`, `colBmod_spec`, `snodeBmod_spec`), the
segment cases and `colTail` have no unprimed twin.
-/
namespace Slu.ColBmod
open Finset Slu.Kernels Slu.MyBlas2

variable {K : Type} [Field K] [Inhabited K]

omit [Field K] in
theorem segGather_spec (lsub : Array Nat) (isub n : Nat) (dense tempv : Array K) :
    (segGather lsub isub n dense tempv).size = tempv.size ∧
    ∀ p, (segGather lsub isub n dense tempv)[p]! =
      if 0 ≤ p ∧ p < 0 + n ∧ p < tempv.size then dense[lsub[isub + (p - 0)]!]! else tempv[p]! :=
  storeRange_spec n 0 (fun i => dense[lsub[isub + i]!]!) tempv

theorem zeroPrefix_spec (n : Nat) (tempv : Array K) :
    (zeroPrefix n tempv).size = tempv.size ∧
    ∀ p, (zeroPrefix n tempv)[p]! = if 0 ≤ p ∧ p < 0 + n ∧ p < tempv.size then 0 else tempv[p]! :=
  storeRange_spec n 0 (fun _ => (0 : K)) tempv

omit [Field K] in
theorem segScatterU_spec (lsub : Array Nat) (isub n : Nat) (tempv dense : Array K)
    (hinj : ∀ t u, t < n → u < n → lsub[isub + t]! = lsub[isub + u]! → t = u) :
    (segScatterU lsub isub n tempv dense).size = dense.size ∧
    (∀ t, t < n → lsub[isub + t]! < dense.size → (segScatterU lsub isub n tempv dense)[lsub[isub + t]!]! = tempv[t]!) ∧
    (∀ p, (∀ t, t < n → lsub[isub + t]! ≠ p) → (segScatterU lsub isub n tempv dense)[p]! = dense[p]!) :=
  foldl_upd_spec n (fun i => lsub[isub + i]!) (fun i _ => tempv[i]!) dense hinj

theorem segScatterL_spec (lsub : Array Nat) (isub n : Nat) (y dense : Array K)
    (hinj : ∀ t u, t < n → u < n → lsub[isub + t]! = lsub[isub + u]! → t = u) :
    (segScatterL lsub isub n y dense).size = dense.size ∧
    (∀ t, t < n → lsub[isub + t]! < dense.size →
      (segScatterL lsub isub n y dense)[lsub[isub + t]!]! = dense[lsub[isub + t]!]! - y[t]!) ∧
    (∀ p, (∀ t, t < n → lsub[isub + t]! ≠ p) → (segScatterL lsub isub n y dense)[p]! = dense[p]!) :=
  foldl_upd_spec n (fun i => lsub[isub + i]!) (fun i x => x - y[i]!) dense hinj

/-- the three facts about the integers (`hg1`, `hg2`, `hpos`) follow from the position of the representative:
`segGeom_arith` (Props/C01.lean) -/
structure SegOK (lsub : Array Nat) (g : Seg) (dense : Array K) : Prop where
  hg1 : g.noZeros + g.segsze = g.nsupc
  hg2 : g.cnt = g.nrow
  hpos : 1 ≤ g.segsze
  hinj : ∀ t u, t < g.segsze + g.nrow → u < g.segsze + g.nrow →
    lsub[g.lptr + g.noZeros + t]! = lsub[g.lptr + g.noZeros + u]! → t = u
  hrow : ∀ t, t < g.segsze + g.nrow → lsub[g.lptr + g.noZeros + t]! < dense.size

/-- `z` is the unit lower solve of the segment: rows `kfnz..krep` of the supernode's diagonal block (its cell
(kfnz, kfnz) is stored at `g.luptr + (g.nsupr * g.noZeros + g.noZeros)`) against the gathered `dense` -/
def SegSol (lsub : Array Nat) (g : Seg) (lusup dense : Array K) (z : Nat → K) : Prop :=
  ∀ s, s < g.segsze → z s = dense[lsub[g.lptr + g.noZeros + s]!]! -
    ∑ q ∈ range s, z q * lusup[g.luptr + (g.nsupr * g.noZeros + g.noZeros) + (q * g.nsupr + s)]!

def SegPost (lsub : Array Nat) (g : Seg) (lusup dense : Array K) (z : Nat → K) (r : Array K) : Prop :=
  r.size = dense.size ∧
  (∀ s, s < g.segsze → r[lsub[g.lptr + g.noZeros + s]!]! = z s) ∧
  (∀ i, i < g.nrow → r[lsub[g.lptr + g.noZeros + (g.segsze + i)]!]! =
    dense[lsub[g.lptr + g.noZeros + (g.segsze + i)]!]! -
      ∑ q ∈ range g.segsze, lusup[g.luptr + (g.nsupr * g.noZeros + g.noZeros) + (q * g.nsupr + (g.segsze + i))]! * z q) ∧
  (∀ p, (∀ t, t < g.segsze + g.nrow → lsub[g.lptr + g.noZeros + t]! ≠ p) → r[p]! = dense[p]!)

/-- the frame argument of all four cases: a `dense` whose segment rows already hold `z` (and which is otherwise
untouched), followed by the loop `d[row (segsze + t)] -= c t` with `c t` the matrix-vector product.  The trip count
`n`, the subscripts `idx` and the products `c` come with equations because the three hand-written cases loop `g.cnt`
times, address the rows as `lptr + nsupc + t` and spell the product out: each case hands in its own text. -/
theorem segPost_of_update (lsub : Array Nat) (g : Seg) (lusup dense : Array K) (z : Nat → K) (ok : SegOK lsub g dense)
    (n : Nat) (hn : n = g.nrow) (idx : Nat → Nat) (c : Nat → K) (d1 : Array K)
    (hidx : ∀ t, t < g.nrow → idx t = lsub[g.lptr + g.noZeros + (g.segsze + t)]!)
    (hc : ∀ t, t < g.nrow → c t =
      ∑ q ∈ range g.segsze, lusup[g.luptr + (g.nsupr * g.noZeros + g.noZeros) + (q * g.nsupr + (g.segsze + t))]! * z q)
    (h1 : d1.size = dense.size)
    (hU : ∀ s, s < g.segsze → d1[lsub[g.lptr + g.noZeros + s]!]! = z s)
    (hF : ∀ p, (∀ s, s < g.segsze → lsub[g.lptr + g.noZeros + s]! ≠ p) → d1[p]! = dense[p]!) :
    SegPost lsub g lusup dense z
      ((List.range n).foldl (fun (d : Array K) t => d.setIfInBounds (idx t) (d[idx t]! - c t)) d1) := by
  subst hn
  have hne : ∀ s t, s < g.segsze → t < g.nrow → lsub[g.lptr + g.noZeros + s]! ≠ idx t := fun s t hs ht he => by
    rw [hidx t ht] at he
    have := ok.hinj _ _ (by omega) (by omega) he
    omega
  obtain ⟨r1, r2, r3⟩ := foldl_upd_spec g.nrow idx (fun t x => x - c t) d1 (fun t u ht hu he => by
    rw [hidx t ht, hidx u hu] at he
    have := ok.hinj _ _ (by omega) (by omega) he
    omega)
  refine ⟨r1.trans h1, fun s hs => ?_, fun i hi => ?_, fun p hp => ?_⟩
  · rw [r3 _ (fun t ht he => hne s t hs ht he.symm), hU s hs]
  · rw [← hidx i hi, r2 i hi (by rw [hidx i hi, h1]; exact ok.hrow _ (by omega)),
      hF _ (fun s hs he => hne s i hs hi he), hc i hi]
  · rw [r3 p (fun t ht he => hp (g.segsze + t) (by omega) (by rw [← hidx t ht]; exact he)), hF p (fun s hs => hp s (by omega))]

/-- dcolumn_bmod.c:195-259 (`segsze ≥ 4` in the routine; the statement needs `segsze ≥ 1` only, `SegOK.hpos`) -/
theorem segN_spec' (cplx : Bool) (lsub : Array Nat) (g : Seg) (lusup dense tempv : Array K) (z : Nat → K)
    (ok : SegOK lsub g dense)
    (htv : g.segsze + g.nrow ≤ tempv.size) (htz : ∀ i, i < g.segsze + g.nrow → tempv[i]! = 0)
    (hz : SegSol lsub g lusup dense z) :
    SegPost lsub g lusup dense z (segN cplx lsub g lusup dense tempv).1 ∧
    (segN cplx lsub g lusup dense tempv).2.size = tempv.size ∧
    (∀ p : Nat, (segN cplx lsub g lusup dense tempv).2[p]! = tempv[p]!) := by
  unfold segN lsolve
  dsimp only
  obtain ⟨g1, g2⟩ := segGather_spec lsub (g.lptr + g.noZeros) g.segsze dense tempv
  generalize segGather lsub (g.lptr + g.noZeros) g.segsze dense tempv = tv1 at g1 g2 ⊢
  obtain ⟨l1, l2, l3⟩ := lsolveG_spec cplx g.nsupr g.segsze (fun _ i => lusup[g.luptr + (g.nsupr * g.noZeros + g.noZeros) + i]!) 0 tv1
    (fun i j => lusup[g.luptr + (g.nsupr * g.noZeros + g.noZeros) + (j * g.nsupr + i)]!) z (by omega)
    (fun _ _ _ _ _ _ => rfl) (fun i hi => by rw [g2 (0 + i), if_pos ⟨by omega, by omega, by omega⟩, hz i hi, Nat.zero_add, Nat.sub_zero])
  generalize lsolveG cplx g.nsupr g.segsze (fun _ i => lusup[g.luptr + (g.nsupr * g.noZeros + g.noZeros) + i]!) tv1 0 = tv2
    at l1 l2 l3 ⊢
  simp only [Nat.zero_add] at l2
  have tvrest : ∀ p, g.segsze ≤ p → tv2[p]! = tempv[p]! := fun p hp => by
    rw [l3 p (Or.inr (by omega)), g2 p, if_neg (by omega)]
  obtain ⟨-, m2, -⟩ := matvec_spec' cplx g.nsupr g.nrow g.segsze lusup (g.luptr + (g.nsupr * g.noZeros + g.noZeros) + g.segsze)
    tv2 0 (tv2.extract g.segsze tv2.size) (by simp; omega)
  generalize matvec cplx g.nsupr g.nrow g.segsze lusup (g.luptr + (g.nsupr * g.noZeros + g.noZeros) + g.segsze)
      tv2 0 (tv2.extract g.segsze tv2.size) = y at m2 ⊢
  obtain ⟨u1, u2, u3⟩ := segScatterU_spec lsub (g.lptr + g.noZeros) g.segsze tv2 dense
    (fun t u ht hu => ok.hinj t u (by omega) (by omega))
  have z1 := zeroPrefix_spec (g.segsze + g.nrow) tv2
  refine ⟨segPost_of_update lsub g lusup dense z ok g.nrow rfl _ _ _ (fun t _ => by rw [Nat.add_assoc]) (fun t ht => ?_) u1
      (fun s hs => by rw [u2 s hs (ok.hrow s (by omega)), l2 s hs]) u3, by rw [z1.1, l1, g1], fun p => ?_⟩
  · rw [m2 t ht, getElem!_extract_tail tv2 g.segsze t (by omega), tvrest _ (by omega), htz _ (by omega), zero_add]
    refine Finset.sum_congr rfl (fun j hj => ?_)
    rw [Nat.zero_add, l2 j (mem_range.mp hj)]
    congr 2; omega
  · rw [z1.2 p]
    by_cases hc : 0 ≤ p ∧ p < 0 + (g.segsze + g.nrow) ∧ p < tv2.size
    · rw [if_pos hc, htz p (by omega)]
    · rw [if_neg hc]
      by_cases hp : g.segsze ≤ p
      · exact tvrest p hp
      · omega

/-- The addresses of the hand-written cases in the coordinates of `SegPost` (row `s` of the segment at `l + z + s`; entry
(row `i`, column `q`) of the block at `b + (q * n + i)`): the rows below a segment of `k` rows; the diagonal cell of `krep`, the
last of `k + 1` columns; the same row one column to the left; the cells below a cell.  They are stated here, about variables:
inside the proofs below an `omega` also works through every equation with a truncated subtraction that is in the context. -/
theorem addr_below (l z k t : Nat) : l + (z + k) + t = l + z + (k + t) := by omega

theorem addr_diag (u n z k : Nat) : u + (n * (z + (k + 1) - 1) + (z + (k + 1)) - 1) = u + (n * z + z) + (k * n + k) := by
  show u + (n * (z + k) + (z + k)) = _
  rw [Nat.mul_add, Nat.mul_comm n k]; omega

theorem addr_left (b q n i : Nat) : b + ((q + 1) * n + i) - n = b + (q * n + i) := by
  rw [Nat.succ_mul]; omega

theorem addr_down (b x i t : Nat) : b + (x + i) + 1 + t = b + (x + (i + 1 + t)) := by omega

/-- dcolumn_bmod.c:150-159 (`segsze == 1`) -/
theorem seg1_spec' (lsub : Array Nat) (g : Seg) (lusup dense : Array K) (z : Nat → K)
    (ok : SegOK lsub g dense) (h1 : g.segsze = 1)
    (hz : SegSol lsub g lusup dense z) :
    SegPost lsub g lusup dense z (seg1 lsub g lusup dense) := by
  obtain ⟨lptr, luptr, nsupr, nsupc, nrow, segsze, noZeros, cnt⟩ := g
  obtain rfl : segsze = 1 := h1
  obtain rfl : noZeros + 1 = nsupc := ok.hg1
  simp only [SegSol] at hz
  have e0 : lptr + (noZeros + 1) - 1 = lptr + noZeros + 0 := rfl
  have e2 : ∀ t, luptr + (nsupr * (noZeros + 1 - 1) + (noZeros + 1)) + t =
      luptr + (nsupr * noZeros + noZeros) + (0 * nsupr + (1 + t)) := fun t => by rw [Nat.add_sub_cancel]; omega
  have z0 : z 0 = dense[lsub[lptr + noZeros + 0]!]! := by rw [hz 0 (by omega), Finset.sum_range_zero, sub_zero]
  unfold seg1
  simp only [e0, addr_below lptr noZeros 1, e2, ← z0]
  exact segPost_of_update lsub _ lusup dense z ok cnt ok.hg2 _ _ dense
    (fun _ _ => rfl)
    (fun t _ => by simp only [Finset.sum_range_one]; exact mul_comm _ _) rfl
    (fun s hs => by obtain rfl : s = 0 := Nat.lt_one_iff.mp hs; exact z0.symm) (fun _ _ => rfl)

/-- dcolumn_bmod.c:160-175 (`segsze == 2`) -/
theorem seg2_spec' (lsub : Array Nat) (g : Seg) (lusup dense : Array K) (z : Nat → K)
    (ok : SegOK lsub g dense) (h2 : g.segsze = 2)
    (hz : SegSol lsub g lusup dense z) :
    SegPost lsub g lusup dense z (seg2 lsub g lusup dense) := by
  obtain ⟨lptr, luptr, nsupr, nsupc, nrow, segsze, noZeros, cnt⟩ := g
  obtain rfl : segsze = 2 := h2
  obtain rfl : noZeros + 2 = nsupc := ok.hg1
  simp only [SegSol] at hz
  have e0 : lptr + (noZeros + 2) - 1 = lptr + noZeros + 1 := rfl
  have e0' : lptr + noZeros + 1 - 1 = lptr + noZeros + 0 := rfl
  have z0 : z 0 = dense[lsub[lptr + noZeros + 0]!]! := by rw [hz 0 (by omega), Finset.sum_range_zero, sub_zero]
  have z1 : z 1 = dense[lsub[lptr + noZeros + 1]!]! - z 0 * lusup[luptr + (nsupr * noZeros + noZeros) + (0 * nsupr + 1)]! := by
    rw [hz 1 (by omega), Finset.sum_range_one]
  have hinj := ok.hinj
  have hrow := ok.hrow
  simp only at hinj hrow
  unfold seg2
  simp only [e0, e0', addr_below lptr noZeros 2, addr_diag luptr nsupr noZeros 1, addr_left _ 0 nsupr 1, addr_down _ _ 1, ← z0, ← z1]
  clear e0 e0'
  refine segPost_of_update lsub _ lusup dense z ok cnt ok.hg2 _ _ _ (fun _ _ => rfl)
    (fun t _ => by simp only [Finset.sum_range_succ, Finset.sum_range_zero]; ring) (Array.size_setIfInBounds ..)
    (fun s hs => ?_) (fun p hp => getElem!_setIfInBounds_ne _ _ (hp 1 Nat.one_lt_two))
  obtain rfl | rfl : s = 0 ∨ s = 1 := by simp only at hs; omega
  · rw [getElem!_setIfInBounds_ne _ _ (fun he => absurd (hinj 1 0 (by omega) (by omega) he) Nat.one_ne_zero), z0]
  · exact getElem!_setIfInBounds_self _ _ (hrow 1 (by omega))

/-- dcolumn_bmod.c:160-165, 176-191 (`segsze == 3`); zcolumn_bmod.c:163-168, 182-207 -/
theorem seg3_spec' (cplx : Bool) (lsub : Array Nat) (g : Seg) (lusup dense : Array K) (z : Nat → K)
    (ok : SegOK lsub g dense) (h3 : g.segsze = 3)
    (hz : SegSol lsub g lusup dense z) :
    SegPost lsub g lusup dense z (seg3 cplx lsub g lusup dense) := by
  obtain ⟨lptr, luptr, nsupr, nsupc, nrow, segsze, noZeros, cnt⟩ := g
  obtain rfl : segsze = 3 := h3
  obtain rfl : noZeros + 3 = nsupc := ok.hg1
  simp only [SegSol] at hz
  have e0 : lptr + (noZeros + 3) - 1 = lptr + noZeros + 2 := rfl
  have e0' : lptr + noZeros + 2 - 1 = lptr + noZeros + 1 := rfl
  have e0'' : lptr + noZeros + 2 - 2 = lptr + noZeros + 0 := rfl
  have a2 : ∀ b : Nat, b + (0 * nsupr + 2) - 1 = b + (0 * nsupr + 1) := fun _ => rfl
  have z0 : z 0 = dense[lsub[lptr + noZeros + 0]!]! := by rw [hz 0 (by omega), Finset.sum_range_zero, sub_zero]
  have z1 : z 1 = dense[lsub[lptr + noZeros + 1]!]! - z 0 * lusup[luptr + (nsupr * noZeros + noZeros) + (0 * nsupr + 1)]! := by
    rw [hz 1 (by omega), Finset.sum_range_one]
  have z2 : z 2 = dense[lsub[lptr + noZeros + 2]!]! -
      (z 0 * lusup[luptr + (nsupr * noZeros + noZeros) + (0 * nsupr + 2)]! +
       z 1 * lusup[luptr + (nsupr * noZeros + noZeros) + (1 * nsupr + 2)]!) := by
    rw [hz 2 (by omega), Finset.sum_range_succ, Finset.sum_range_one]
  have hinj := ok.hinj
  have hrow := ok.hrow
  simp only at hinj hrow
  unfold seg3
  simp only [e0, e0', e0'', addr_below lptr noZeros 3, addr_diag luptr nsupr noZeros 2, addr_left _ 1 nsupr 2, addr_left _ 0 nsupr 2,
    a2, addr_down _ _ 2, ← z0, ← z1]
  clear e0 e0' e0''
  -- the complex files compute `ukj - (ukj1*l1 + ukj2*l2)` (zcolumn_bmod.c:188-191), the real ones
  -- `ukj - ukj1*l1 - ukj2*l2` (dcolumn_bmod.c:180)
  have hu : (if cplx = true then
        dense[lsub[lptr + noZeros + 2]!]! -
          (z 1 * lusup[luptr + (nsupr * noZeros + noZeros) + (1 * nsupr + 2)]! +
            z 0 * lusup[luptr + (nsupr * noZeros + noZeros) + (0 * nsupr + 2)]!)
      else
        dense[lsub[lptr + noZeros + 2]!]! - z 1 * lusup[luptr + (nsupr * noZeros + noZeros) + (1 * nsupr + 2)]! -
          z 0 * lusup[luptr + (nsupr * noZeros + noZeros) + (0 * nsupr + 2)]!) = z 2 := by
    rw [z2]; split <;> ring
  rw [hu]
  have ne : ∀ s t, s < 3 → t < 3 → s ≠ t → lsub[lptr + noZeros + s]! ≠ lsub[lptr + noZeros + t]! :=
    fun s t hs ht hst he => hst (hinj s t (by omega) (by omega) he)
  refine segPost_of_update lsub _ lusup dense z ok cnt ok.hg2 _ _ _ (fun _ _ => rfl)
    (fun t _ => by simp only [Finset.sum_range_succ, Finset.sum_range_zero]; ring)
    (by rw [Array.size_setIfInBounds, Array.size_setIfInBounds])
    (fun s hs => ?_) (fun p hp => by
      rw [getElem!_setIfInBounds_ne _ _ (hp 1 (by decide : 1 < 3)), getElem!_setIfInBounds_ne _ _ (hp 2 (by decide : 2 < 3))])
  obtain rfl | rfl | rfl : s = 0 ∨ s = 1 ∨ s = 2 := by simp only at hs; omega
  · rw [getElem!_setIfInBounds_ne _ _ (ne 1 0 (by omega) (by omega) (by omega)),
      getElem!_setIfInBounds_ne _ _ (ne 2 0 (by omega) (by omega) (by omega)), z0]
  · exact getElem!_setIfInBounds_self _ _ (by rw [Array.size_setIfInBounds]; exact hrow 1 (by omega))
  · rw [getElem!_setIfInBounds_ne _ _ (ne 1 2 (by omega) (by omega) (by omega))]
    exact getElem!_setIfInBounds_self _ _ (hrow 2 (by omega))

/-- dcolumn_bmod.c:150, 160, 166, 195 (the dispatch on `segsze`) -/
theorem segUpdate_spec' (cplx : Bool) (lsub : Array Nat) (g : Seg) (lusup dense tempv : Array K) (z : Nat → K)
    (ok : SegOK lsub g dense)
    (htv : 4 ≤ g.segsze → g.segsze + g.nrow ≤ tempv.size) (htz : 4 ≤ g.segsze → ∀ i, i < g.segsze + g.nrow → tempv[i]! = 0)
    (hz : SegSol lsub g lusup dense z) :
    SegPost lsub g lusup dense z (segUpdate cplx lsub g lusup dense tempv).1 ∧
    (segUpdate cplx lsub g lusup dense tempv).2.size = tempv.size ∧
    (∀ p : Nat, (segUpdate cplx lsub g lusup dense tempv).2[p]! = tempv[p]!) := by
  unfold segUpdate
  by_cases h1 : g.segsze = 1
  · rw [if_pos h1]; exact ⟨seg1_spec' lsub g lusup dense z ok h1 hz, rfl, fun _ => rfl⟩
  · rw [if_neg h1]
    by_cases h3 : g.segsze ≤ 3
    · rw [if_pos h3]
      by_cases h2 : g.segsze = 2
      · rw [if_pos h2]; exact ⟨seg2_spec' lsub g lusup dense z ok h2 hz, rfl, fun _ => rfl⟩
      · rw [if_neg h2]
        have := ok.hpos
        exact ⟨seg3_spec' cplx lsub g lusup dense z ok (by omega) hz, rfl, fun _ => rfl⟩
    · rw [if_neg h3]
      exact segN_spec' cplx lsub g lusup dense tempv z ok (htv (by omega)) (htz (by omega)) hz

omit [Field K] [Inhabited K] in
theorem SegOK.of_size {lsub : Array Nat} {g : Seg} {d d' : Array K} (ok : SegOK lsub g d) (h : d'.size = d.size) :
    SegOK lsub g d' :=
  ⟨ok.hg1, ok.hg2, ok.hpos, ok.hinj, fun t ht => by rw [h]; exact ok.hrow t ht⟩

/-- what one iteration of the segment loop does to the state (the conclusion of `colBmod_segment_spec`;
a representative of `jcol`'s own supernode leaves the state as it is) -/
def SegStep (jcol fpanelc : Nat) (xsup supno lsub xlsub repfnz : Array Nat) (krep : Nat) (st o : SnodeSt K) : Prop :=
  if supno[jcol]! = supno[krep]! then o = st else
  let g := segGeom fpanelc xsup supno xlsub st.xlusup repfnz krep
  let base := g.luptr + (g.nsupr * g.noZeros + g.noZeros)
  let row := fun t => lsub[g.lptr + g.noZeros + t]!
  let u := fwdSub (fun i r => st.lusup[base + (r * g.nsupr + i)]!) (fun _ => 1) (fun t => st.dense[row t]!) g.segsze
  o.dense.size = st.dense.size ∧
  (∀ s, s < g.segsze → o.dense[row s]! = u.getD s 0) ∧
  (∀ i, i < g.nrow → o.dense[row (g.segsze + i)]! =
    st.dense[row (g.segsze + i)]! - ∑ q ∈ range g.segsze, st.lusup[base + (q * g.nsupr + (g.segsze + i))]! * u.getD q 0) ∧
  (∀ p, (∀ t, t < g.segsze + g.nrow → row t ≠ p) → o.dense[p]! = st.dense[p]!) ∧
  o.tempv.size = st.tempv.size ∧ (∀ p : Nat, o.tempv[p]! = st.tempv[p]!) ∧
  o.lusup = st.lusup ∧ o.xlusup = st.xlusup

def SegHyp (jcol fpanelc : Nat) (xsup supno lsub xlsub repfnz : Array Nat) (krep : Nat) (st : SnodeSt K) : Prop :=
  supno[jcol]! ≠ supno[krep]! →
    SegOK lsub (segGeom fpanelc xsup supno xlsub st.xlusup repfnz krep) st.dense ∧
    (4 ≤ (segGeom fpanelc xsup supno xlsub st.xlusup repfnz krep).segsze →
      (segGeom fpanelc xsup supno xlsub st.xlusup repfnz krep).segsze + (segGeom fpanelc xsup supno xlsub st.xlusup repfnz krep).nrow
        ≤ st.tempv.size ∧
      ∀ i, i < (segGeom fpanelc xsup supno xlsub st.xlusup repfnz krep).segsze +
        (segGeom fpanelc xsup supno xlsub st.xlusup repfnz krep).nrow → st.tempv[i]! = 0)

theorem colSegment_own (cplx segOps : Bool) (jcol fpanelc : Nat) (xsup supno lsub xlsub repfnz : Array Nat)
    (krep : Nat) (st : SnodeSt K) (he : supno[jcol]! = supno[krep]!) :
    colSegment cplx segOps jcol fpanelc xsup supno lsub xlsub repfnz krep st = st :=
  if_neg (not_not.mpr he)

theorem colSegment_step (cplx segOps : Bool) (jcol fpanelc : Nat) (xsup supno lsub xlsub repfnz : Array Nat)
    (krep : Nat) (st : SnodeSt K) (H : SegHyp jcol fpanelc xsup supno lsub xlsub repfnz krep st) :
    SegStep jcol fpanelc xsup supno lsub xlsub repfnz krep st
      (colSegment cplx segOps jcol fpanelc xsup supno lsub xlsub repfnz krep st) := by
  unfold SegStep
  by_cases he : supno[jcol]! = supno[krep]!
  · rw [if_pos he, colSegment_own _ _ _ _ _ _ _ _ _ _ _ he]
  unfold colSegment
  rw [if_neg he, if_pos he]
  obtain ⟨ok, htvz⟩ := H he
  dsimp only
  -- from here on the integers of the segment are a variable
  generalize segGeom fpanelc xsup supno xlsub st.xlusup repfnz krep = g at ok htvz ⊢
  obtain ⟨⟨p1, p2, p3, p4⟩, t1, t2⟩ := segUpdate_spec' cplx lsub g st.lusup st.dense st.tempv _ ok
    (fun h => (htvz h).1) (fun h => (htvz h).2)
    (fwdSub_unit_rec (fun i r => st.lusup[g.luptr + (g.nsupr * g.noZeros + g.noZeros) + (r * g.nsupr + i)]!)
      (fun t => st.dense[lsub[g.lptr + g.noZeros + t]!]!) g.segsze)
  exact ⟨p1, p2, p3, p4, t1, t2, rfl, rfl⟩

def segsUpTo (cplx segOps : Bool) (jcol nseg fpanelc : Nat) (segrep repfnz xsup supno lsub xlsub : Array Nat)
    (st : SnodeSt K) (k : Nat) : SnodeSt K :=
  (List.range k).foldl (fun (st : SnodeSt K) ksub =>
    colSegment cplx segOps jcol fpanelc xsup supno lsub xlsub repfnz segrep[nseg - 1 - ksub]! st) st

theorem colSegments_eq_segsUpTo (cplx segOps : Bool) (jcol nseg fpanelc : Nat) (segrep repfnz xsup supno lsub xlsub : Array Nat)
    (st : SnodeSt K) : colSegments cplx segOps jcol nseg fpanelc segrep repfnz xsup supno lsub xlsub st =
      segsUpTo cplx segOps jcol nseg fpanelc segrep repfnz xsup supno lsub xlsub st nseg := rfl

theorem segsUpTo_succ (cplx segOps : Bool) (jcol nseg fpanelc : Nat) (segrep repfnz xsup supno lsub xlsub : Array Nat)
    (st : SnodeSt K) (k : Nat) :
    segsUpTo cplx segOps jcol nseg fpanelc segrep repfnz xsup supno lsub xlsub st (k + 1) =
      colSegment cplx segOps jcol fpanelc xsup supno lsub xlsub repfnz segrep[nseg - 1 - k]!
        (segsUpTo cplx segOps jcol nseg fpanelc segrep repfnz xsup supno lsub xlsub st k) :=
  foldl_range_succ _ _ k

theorem SegStep.frame {jcol fpanelc : Nat} {xsup supno lsub xlsub repfnz : Array Nat} {krep : Nat} {st o : SnodeSt K}
    (h : SegStep jcol fpanelc xsup supno lsub xlsub repfnz krep st o) :
    o.lusup = st.lusup ∧ o.xlusup = st.xlusup ∧ o.dense.size = st.dense.size ∧ o.tempv.size = st.tempv.size ∧
    ∀ p : Nat, o.tempv[p]! = st.tempv[p]! := by
  unfold SegStep at h
  by_cases he : supno[jcol]! = supno[krep]!
  · rw [if_pos he] at h; subst h; exact ⟨rfl, rfl, rfl, rfl, fun _ => rfl⟩
  · rw [if_neg he] at h
    obtain ⟨a, _, _, _, b, c, d, e⟩ := h
    exact ⟨d, e, a, b, c⟩

/-- the per-segment hypotheses are stated on the INITIAL state: they involve only `xlusup`, the size of `dense` and the
zero prefix of `tempv`, which no iteration changes -/
theorem colSegments_chain (cplx segOps : Bool) (jcol nseg fpanelc : Nat) (segrep repfnz xsup supno lsub xlsub : Array Nat)
    (st : SnodeSt K)
    (H : ∀ k, k < nseg → SegHyp jcol fpanelc xsup supno lsub xlsub repfnz segrep[nseg - 1 - k]! st) (k : Nat) (hk : k ≤ nseg) :
    ((segsUpTo cplx segOps jcol nseg fpanelc segrep repfnz xsup supno lsub xlsub st k).lusup = st.lusup ∧
     (segsUpTo cplx segOps jcol nseg fpanelc segrep repfnz xsup supno lsub xlsub st k).xlusup = st.xlusup ∧
     (segsUpTo cplx segOps jcol nseg fpanelc segrep repfnz xsup supno lsub xlsub st k).dense.size = st.dense.size ∧
     (segsUpTo cplx segOps jcol nseg fpanelc segrep repfnz xsup supno lsub xlsub st k).tempv.size = st.tempv.size ∧
     ∀ p : Nat, (segsUpTo cplx segOps jcol nseg fpanelc segrep repfnz xsup supno lsub xlsub st k).tempv[p]! = st.tempv[p]!) ∧
    ∀ j, j < k → SegStep jcol fpanelc xsup supno lsub xlsub repfnz segrep[nseg - 1 - j]!
      (segsUpTo cplx segOps jcol nseg fpanelc segrep repfnz xsup supno lsub xlsub st j)
      (segsUpTo cplx segOps jcol nseg fpanelc segrep repfnz xsup supno lsub xlsub st (j + 1)) := by
  induction k with
  | zero => exact ⟨⟨rfl, rfl, rfl, rfl, fun _ => rfl⟩, fun j hj => by omega⟩
  | succ k ih =>
    obtain ⟨⟨i1, i2, i3, i4, i5⟩, steps⟩ := ih (by omega)
    have hyp : SegHyp jcol fpanelc xsup supno lsub xlsub repfnz segrep[nseg - 1 - k]!
        (segsUpTo cplx segOps jcol nseg fpanelc segrep repfnz xsup supno lsub xlsub st k) := by
      intro hne
      obtain ⟨ok, tv⟩ := H k (by omega) hne
      rw [i2]
      refine ⟨ok.of_size i3, fun h4 => ?_⟩
      obtain ⟨a, b⟩ := tv h4
      exact ⟨by rw [i4]; exact a, fun i hi => by rw [i5]; exact b i hi⟩
    have step := colSegment_step cplx segOps jcol fpanelc xsup supno lsub xlsub repfnz segrep[nseg - 1 - k]! _ hyp
    rw [← segsUpTo_succ] at step
    obtain ⟨f1, f2, f3, f4, f5⟩ := step.frame
    refine ⟨⟨by rw [f1, i1], by rw [f2, i2], by rw [f3, i3], by rw [f4, i4], fun p => by rw [f5, i5]⟩, fun j hj => ?_⟩
    by_cases hjk : j = k
    · subst hjk; exact step
    · exact steps j (by omega)

theorem colTail_eq_snodeBmod (cplx : Bool) (jcol fpanelc : Nat) (xsup supno lsub xlsub : Array Nat) (st : SnodeSt K)
    (h : fpanelc ≤ xsup[supno[jcol]!]!) :
    colTail cplx jcol fpanelc xsup supno lsub xlsub st = snodeBmod cplx jcol xsup[supno[jcol]!]! lsub xlsub st := by
  unfold colTail snodeBmod
  simp only [Nat.max_eq_left h, Nat.sub_self, Nat.add_zero, Nat.sub_zero]

/-- the column's own supernode (dcolumn_bmod.c:266-351), for every `fpanelc`: the panel may start inside it.
The integers the routine derives come in as variables with their defining equations `e0..e5`, so that after one
rewriting no `omega` and no `rw` meets an `xlsub[…]!` or `xlusup[…]!` term. -/
theorem colTail_spec' (cplx : Bool) (jcol fpanelc : Nat) (xsup supno lsub xlsub : Array Nat) (st : SnodeSt K)
    (fsupc fstCol d istart nsupr ucol luptr nsupc : Nat)
    (e0 : fsupc = xsup[supno[jcol]!]!) (ef : fstCol = max fsupc fpanelc) (ed : d = fstCol - fsupc)
    (e1 : istart = xlsub[fsupc]!) (e2 : nsupr = xlsub[fsupc + 1]! - istart)
    (e3 : ucol = st.xlusup[jcol]!) (e4 : luptr = st.xlusup[fstCol]! + d) (e5 : nsupc = jcol - fstCol)
    (hle : fstCol ≤ jcol)
    (hinj : ∀ t u, t < nsupr → u < nsupr → lsub[istart + t]! = lsub[istart + u]! → t = u)
    (hrow : ∀ t, t < nsupr → lsub[istart + t]! < st.dense.size)
    (hcol : ucol + nsupr ≤ st.lusup.size) (hwid : d + nsupc ≤ nsupr)
    (hbefore : luptr + nsupc * nsupr ≤ ucol + d)
    (htv : nsupr - d - nsupc ≤ st.tempv.size) (htz : ∀ i, i < nsupr - d - nsupc → st.tempv[i]! = 0)
    (z : Nat → K)
    (hz : ∀ i, i < nsupc → z i = st.dense[lsub[istart + (d + i)]!]! - ∑ j ∈ range i, z j * st.lusup[luptr + (j * nsupr + i)]!) :
    (colTail cplx jcol fpanelc xsup supno lsub xlsub st).lusup.size = st.lusup.size ∧
    (∀ t, t < d → (colTail cplx jcol fpanelc xsup supno lsub xlsub st).lusup[ucol + t]! = st.dense[lsub[istart + t]!]!) ∧
    (∀ t, t < nsupc → (colTail cplx jcol fpanelc xsup supno lsub xlsub st).lusup[ucol + (d + t)]! = z t) ∧
    (∀ i, d + nsupc ≤ i → i < nsupr → (colTail cplx jcol fpanelc xsup supno lsub xlsub st).lusup[ucol + i]! =
      st.dense[lsub[istart + i]!]! - ∑ r ∈ range nsupc, st.lusup[luptr + (r * nsupr + (i - d))]! * z r) ∧
    (∀ p, (p < ucol ∨ ucol + nsupr ≤ p) → (colTail cplx jcol fpanelc xsup supno lsub xlsub st).lusup[p]! = st.lusup[p]!) ∧
    (colTail cplx jcol fpanelc xsup supno lsub xlsub st).dense.size = st.dense.size ∧
    (∀ t, t < nsupr → (colTail cplx jcol fpanelc xsup supno lsub xlsub st).dense[lsub[istart + t]!]! = 0) ∧
    (∀ r, (∀ t, t < nsupr → lsub[istart + t]! ≠ r) → (colTail cplx jcol fpanelc xsup supno lsub xlsub st).dense[r]! = st.dense[r]!) ∧
    (colTail cplx jcol fpanelc xsup supno lsub xlsub st).tempv.size = st.tempv.size ∧
    (∀ i : Nat, (colTail cplx jcol fpanelc xsup supno lsub xlsub st).tempv[i]! = st.tempv[i]!) ∧
    (colTail cplx jcol fpanelc xsup supno lsub xlsub st).xlusup = st.xlusup.setIfInBounds (jcol + 1) (ucol + nsupr) := by
  have hX : ∀ c, c ≤ jcol → ∀ v : Nat, (st.xlusup.setIfInBounds (jcol + 1) v)[c]! = st.xlusup[c]! :=
    fun c hc v => getElem!_setIfInBounds_ne _ _ (Nat.ne_of_gt (Nat.lt_succ_of_le hc))
  obtain ⟨s1, s2, hcell, hout, s4, s5⟩ := snodeScatter_spec lsub istart nsupr ucol st.lusup st.dense hinj hrow hcol
  generalize ho : colTail cplx jcol fpanelc xsup supno lsub xlsub st = o
  unfold colTail at ho
  dsimp only at ho
  rw [← e0, ← ef, hX fstCol hle, hX jcol (le_refl _), ← e1, ← e2, ← e3, ← ed, ← e4, ← e5] at ho
  clear hX e0 ef e1 e2 e3 e4 ed
  generalize snodeScatter lsub istart nsupr ucol st.lusup st.dense = P at s1 s2 hcell hout s4 s5 ho
  -- `nrow` as a variable: with `e0 .. ed` cleared no `omega` below meets a `max` or a truncated subtraction
  generalize hn : nsupr - d - nsupc = nrow at htv htz ho
  replace hn : d + nsupc + nrow = nsupr := by omega
  have hblk : ∀ j i, j < nsupc → i + d < nsupr → luptr + (j * nsupr + i) < ucol := by
    intro j i hj hi
    have := Nat.mul_le_mul_right nsupr (Nat.succ_le_of_lt hj)
    rw [Nat.succ_mul] at this
    omega
  by_cases hlt : fstCol < jcol
  · rw [if_pos hlt] at ho
    clear e5 hle hlt
    -- the `lsolve` / `matvec` / unload sequence of the routine is `colUpdate` by definition
    generalize hQ : snodeUnload (K := K) _ _ _ _ = Q at ho
    have hspec := colUpdate_spec cplx nsupr nsupc nrow luptr (ucol + d) P.1 st.tempv z
      (by omega) (fun j i hj hi => by have := hblk j i hj (by omega); omega) htv htz
      (fun i hi => by
        rw [hz i hi, Nat.add_assoc, hcell (d + i) (by omega)]
        exact congrArg _ (Finset.sum_congr rfl fun j hj => by
          rw [hout _ (Or.inl (hblk j i (by have := mem_range.mp hj; omega) (by omega)))]))
    rw [show colUpdate cplx nsupr nsupc nrow luptr (ucol + d) P.1 st.tempv = Q from hQ] at hspec
    obtain ⟨c1, c2, c3, c4, c5, c6⟩ := hspec
    subst ho
    refine ⟨c1.trans s1, fun t ht => ?_, fun t ht => ?_, fun i hi hin => ?_, fun p hp => ?_, s2, s4, s5, c5, c6, rfl⟩
    · rw [c4 _ (Or.inl (by omega)), hcell t (by omega)]
    · rw [← Nat.add_assoc]; exact c2 t ht
    · obtain ⟨k, rfl⟩ : ∃ k, i = d + nsupc + k := ⟨i - (d + nsupc), by omega⟩
      rw [← Nat.add_assoc, ← Nat.add_assoc, c3 k (by omega), Nat.add_assoc ucol, Nat.add_assoc ucol, hcell _ hin,
        show d + nsupc + k - d = nsupc + k by omega]
      exact congrArg _ (Finset.sum_congr rfl fun r hr => by rw [hout _ (Or.inl (hblk r (nsupc + k) (mem_range.mp hr) (by omega)))])
    · rw [c4 p (by omega), hout p hp]
  · rw [if_neg hlt] at ho
    subst ho
    obtain rfl : nsupc = 0 := by omega
    refine ⟨s1, fun t ht => hcell t (by omega), fun t ht => absurd ht (by omega), fun i _ hin => ?_, hout, s2, s4, s5, rfl,
      fun _ => rfl, rfl⟩
    exact (hcell i hin).trans (by rw [Finset.sum_range_zero, sub_zero])

end Slu.ColBmod

namespace Slu.MyBlas2
open Finset Slu.Kernels Slu.ColBmod
variable {K : Type} [Field K] [Inhabited K]

/-- `colTail` reads `fsupc` through `xsup[supno[jcol]]` only: one-entry tables put any `fsupc` there -/
theorem colTail_single (cplx : Bool) (jcol fsupc : Nat) (lsub xlsub : Array Nat) (st : SnodeSt K) :
    colTail cplx jcol 0 #[fsupc] #[] lsub xlsub st = snodeBmod cplx jcol fsupc lsub xlsub st := by
  rw [colTail_eq_snodeBmod cplx jcol 0 #[fsupc] #[] lsub xlsub st (Nat.zero_le _)]
  simp

theorem snodeBmod_spec' (cplx : Bool) (jcol fsupc : Nat) (lsub xlsub : Array Nat) (st : SnodeSt K)
    (istart nsupr ufirst luptr nsupc : Nat)
    (e1 : istart = xlsub[fsupc]!) (e2 : nsupr = xlsub[fsupc + 1]! - istart)
    (e3 : ufirst = st.xlusup[jcol]!) (e4 : luptr = st.xlusup[fsupc]!) (e5 : nsupc = jcol - fsupc)
    (hle : fsupc ≤ jcol)
    (hinj : ∀ t u, t < nsupr → u < nsupr → lsub[istart + t]! = lsub[istart + u]! → t = u)
    (hrow : ∀ t, t < nsupr → lsub[istart + t]! < st.dense.size)
    (hcol : ufirst + nsupr ≤ st.lusup.size) (hwid : nsupc ≤ nsupr)
    (hbefore : luptr + nsupc * nsupr ≤ ufirst)
    (htv : nsupr - nsupc ≤ st.tempv.size) (htz : ∀ i, i < nsupr - nsupc → st.tempv[i]! = 0)
    (z : Nat → K)
    (hz : ∀ i, i < nsupc → z i = st.dense[lsub[istart + i]!]! - ∑ j ∈ range i, z j * st.lusup[luptr + (j * nsupr + i)]!) :
    (snodeBmod cplx jcol fsupc lsub xlsub st).lusup.size = st.lusup.size ∧
    (∀ t, t < nsupc → (snodeBmod cplx jcol fsupc lsub xlsub st).lusup[ufirst + t]! = z t) ∧
    (∀ i, nsupc ≤ i → i < nsupr → (snodeBmod cplx jcol fsupc lsub xlsub st).lusup[ufirst + i]! =
      st.dense[lsub[istart + i]!]! - ∑ r ∈ range nsupc, st.lusup[luptr + (r * nsupr + i)]! * z r) ∧
    (∀ p, (p < ufirst ∨ ufirst + nsupr ≤ p) → (snodeBmod cplx jcol fsupc lsub xlsub st).lusup[p]! = st.lusup[p]!) ∧
    (snodeBmod cplx jcol fsupc lsub xlsub st).dense.size = st.dense.size ∧
    (∀ t, t < nsupr → (snodeBmod cplx jcol fsupc lsub xlsub st).dense[lsub[istart + t]!]! = 0) ∧
    (∀ r, (∀ t, t < nsupr → lsub[istart + t]! ≠ r) → (snodeBmod cplx jcol fsupc lsub xlsub st).dense[r]! = st.dense[r]!) ∧
    (snodeBmod cplx jcol fsupc lsub xlsub st).tempv.size = st.tempv.size ∧
    (∀ i : Nat, (snodeBmod cplx jcol fsupc lsub xlsub st).tempv[i]! = st.tempv[i]!) ∧
    (snodeBmod cplx jcol fsupc lsub xlsub st).xlusup = st.xlusup.setIfInBounds (jcol + 1) (ufirst + nsupr) := by
  rw [← colTail_single]
  obtain ⟨a1, -, a3, a4, a5⟩ := colTail_spec' cplx jcol 0 #[fsupc] #[] lsub xlsub st fsupc fsupc 0 istart nsupr ufirst luptr nsupc
    (by simp) (Nat.max_eq_left (Nat.zero_le _)).symm (Nat.sub_self _).symm e1 e2 e3 e4 e5 hle hinj hrow hcol (by omega) hbefore
    htv htz z (fun i hi => by rw [Nat.zero_add]; exact hz i hi)
  simp only [Nat.zero_add, Nat.sub_zero] at a3 a4
  exact ⟨a1, a3, a4, a5⟩

end Slu.MyBlas2
