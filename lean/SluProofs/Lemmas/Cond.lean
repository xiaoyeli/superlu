import Slu.Model.Cond
import SluProofs.Lemmas.Fold
import SluProofs.Lemmas.ArrayBasic
namespace Slu.Cond
open Slu

/-! `CSC.get` adds up the stored entries of a column that carry the wanted row: with distinct rows that is the one
stored value, or zero. -/

theorem csc_get_of_not_mem (A : CSC Rat) {i j : Nat} (h : ∀ e ∈ A.col j, e.1 ≠ i) : A.get i j = 0 :=
  foldl_ite_none (fun e : Nat × Rat => e.1 = i) (fun e acc => acc + e.2) _ 0 h

theorem csc_get_of_mem (A : CSC Rat) {i j : Nat} {v : Rat} (hnd : ((A.col j).map Prod.fst).Nodup)
    (hmem : (i, v) ∈ A.col j) : A.get i j = v :=
  (foldl_ite_unique (fun e : Nat × Rat => e.1 = i) (fun e acc => acc + e.2) _ 0 (i, v) hmem rfl
    ((List.pairwise_map.mp hnd).imp fun hne hq => hne (hq.1.trans hq.2.symm))).trans (zero_add v)

/-- the spec: largest magnitude of column `j` of the decoded U (rows `0..j`) -/
def colMaxUspec (F : LUFac Rat) (j : Nat) : Rat :=
  (List.range (j + 1)).foldl (fun m i => max m (rabs (decodeUg F i j))) 0

/-- the storage of column `j`, as the scan of supernode `f` with `d = j - f` assumes it: the column's slice of
the supernodal rectangle starts where the scan looks, and the rows of U's column `j` in column storage are
distinct and lie above the supernode -/
structure ColLayout (F : LUFac Rat) (j f luptr nsupr d : Nat) : Prop where
  fsupc : F.L.fsupc j = f
  xlusup : F.L.xlusup[j]! = luptr + d * nsupr
  nsupr : F.L.nsupr j = nsupr
  nodup : ((F.U.col j).map Prod.fst).Nodup
  above : ∀ e ∈ F.U.col j, e.1 < f

theorem colMaxU_eq (F : LUFac Rat) {j f luptr nsupr d : Nat} (h : ColLayout F j f luptr nsupr d)
    (hfj : f ≤ j) (hd : d = j - f) : colMaxU (R := Rat) F j luptr nsupr d = colMaxUspec F j := by
  obtain ⟨hf, hx, hn, hnd, habove⟩ := h
  have hval : ∀ p, F.L.lusup.getD (luptr + d * nsupr + p) default = F.L.valAt j p := by
    intro p; unfold SNode.valAt; rw [hx]
    simp only [Array.getD_eq_getD_getElem?, getElem!_def]
    generalize F.L.lusup[luptr + d * nsupr + p]? = o
    cases o <;> rfl
  -- the decoded column: rows above the supernode are read from column storage, the others from the rectangle
  have dec_lo : ∀ i, i < f → decodeUg F i j = F.U.get i j := by
    intro i hi; simp only [decodeUg, hf, hi, if_true]
  have dec_hi : ∀ i, f ≤ i → i ≤ j → decodeUg F i j = if i - f < nsupr then F.L.valAt j (i - f) else 0 := by
    intro i h1 h2; simp only [decodeUg, hf, not_lt.mpr h1, if_false, h2, if_true, hn]
  have hz : ∀ {c : Rat}, 0 ≤ c → rabs 0 ≤ c := fun h => by rwa [rabs_eq_abs, abs_zero]
  unfold colMaxU colMaxUspec colMaxAbs
  simp only [smax_eq_max, hval]
  -- two running maxima with the same upper bounds
  refine eq_of_forall_ge_iff fun c => ?_
  rw [foldl_max_le_iff, foldl_max_le_iff, foldl_max_le_iff]
  constructor
  · rintro ⟨⟨h0, hU⟩, hL⟩
    refine ⟨h0, fun i hi => ?_⟩
    have hij : i ≤ j := Nat.lt_succ_iff.mp (List.mem_range.mp hi)
    by_cases hlo : i < f
    · rw [dec_lo i hlo]
      by_cases hex : ∃ e ∈ F.U.col j, e.1 = i
      · obtain ⟨e, he, rfl⟩ := hex
        rw [csc_get_of_mem F.U hnd he]; exact hU e he
      · rw [csc_get_of_not_mem F.U fun e he h => hex ⟨e, he, h⟩]; exact hz h0
    · rw [dec_hi i (not_lt.mp hlo) hij]
      split
      · exact hL (i - f) (List.mem_range.mpr (lt_min (by omega) ‹_›))
      · exact hz h0
  · rintro ⟨h0, hS⟩
    refine ⟨⟨h0, fun e he => ?_⟩, fun p hp => ?_⟩
    · have hlt := habove e he
      have := hS e.1 (List.mem_range.mpr (by omega))
      rwa [dec_lo _ hlt, csc_get_of_mem F.U hnd he] at this
    · obtain ⟨hp1, hp2⟩ := lt_min_iff.mp (List.mem_range.mp hp)
      have := hS (f + p) (List.mem_range.mpr (by omega))
      rwa [dec_hi _ (by omega) (by omega), Nat.add_sub_cancel_left, if_pos hp2] at this

/-- A loop over blocks `[b k, b (k+1))` of columns with an early `break`: block `k` handles its columns below
`ncols` with `step` and raises the flag only when `ncols` has been reached.  The columns `0 .. min (b N) ncols - 1`
are visited once each, in order. -/
theorem foldl_break_flat {β : Type} (b : Nat → Nat) (ncols : Nat) (sup : β → Nat → β × Bool) (step : β → Nat → β)
    (r0 : β) (N : Nat) (h0 : b 0 = 0) (hinc : ∀ k, k < N → b k < b (k + 1))
    (hsup : ∀ k, k < N → ∀ r,
      (sup r k).1 = ((List.range (min (b (k + 1)) ncols - b k)).map (b k + ·)).foldl step r ∧
      ((sup r k).2 = true → ncols ≤ b (k + 1))) :
    ((List.range N).foldl (fun (st : β × Bool) k => if st.2 then st else sup st.1 k) (r0, false)).1 =
      (List.range (min (b N) ncols)).foldl step r0 := by
  refine (foldl_range_inv
    (fun M (st : β × Bool) => st.1 = (List.range (min (b M) ncols)).foldl step r0 ∧ (st.2 = true → ncols ≤ b M))
    _ N _ ⟨by rw [h0, Nat.zero_min]; rfl, fun h => absurd h Bool.false_ne_true⟩ fun st M hM ⟨i1, i2⟩ => ?_).1
  have hlt := hinc M hM
  by_cases hfl : st.2 = true
  · -- already stopped: `ncols ≤ b M`, nothing left to visit
    have hn := i2 hfl
    rw [if_pos hfl]
    exact ⟨by rw [i1, Nat.min_eq_right hn, Nat.min_eq_right (by omega)], fun _ => by omega⟩
  · obtain ⟨s1, s2⟩ := hsup M hM st.1
    rw [if_neg hfl]
    refine ⟨?_, s2⟩
    rw [s1, i1, ← List.foldl_append]
    by_cases hc : b M ≤ ncols
    · rw [Nat.min_eq_left hc, ← List.range_add, Nat.add_sub_cancel' (by omega)]
    · rw [Nat.min_eq_right (by omega), Nat.min_eq_right (by omega), Nat.sub_eq_zero_of_le (by omega),
        List.range_zero, List.map_nil, List.append_nil]

theorem pgSuper_flag (ncols : Nat) (A : CSC Rat) (inv : Array Nat) (F : LUFac Rat) (rpg : Rat) (k : Nat)
    (hlt : F.L.xsup.getD k 0 < F.L.xsup.getD (k + 1) 0) (h : (pgSuper (R := Rat) ncols A inv F rpg k).2 = true) :
    ncols ≤ F.L.xsup.getD (k + 1) 0 := by
  -- the second component of `pgSuper` is the test `j >= ncols` on the loop variable after the inner loop
  -- (`hi` if the loop ran, else `fsupc`): the definition, with its `let`s unfolded
  have : (pgSuper (R := Rat) ncols A inv F rpg k).2 =
      decide ((if F.L.xsup.getD k 0 < min (F.L.xsup.getD (k + 1) 0) ncols then min (F.L.xsup.getD (k + 1) 0) ncols
        else F.L.xsup.getD k 0) ≥ ncols) := rfl
  rw [this, decide_eq_true_eq] at h
  split at h <;> omega

end Slu.Cond
