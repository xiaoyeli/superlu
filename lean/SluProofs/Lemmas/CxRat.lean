import Slu.Model.CxRat
import Mathlib.Algebra.Field.Basic
import Mathlib.Algebra.Order.Field.Rat
import Mathlib.Tactic.Ring
import Mathlib.Tactic.FieldSimp
import Mathlib.Tactic.Linarith
import Mathlib.Tactic.Positivity
/-
The Gaussian rationals `Cx Rat` with the operations of `Slu/Model/CxRat.lean` form a field, so every
C14 / C15 theorem stated for an arbitrary field applies to complex data (every finite complex float
is a Gaussian rational).
-/
namespace Slu.Cx

@[ext] theorem ext' {a b : Cx Rat} (h1 : a.re = b.re) (h2 : a.im = b.im) : a = b := by
  cases a; cases b; simp_all

theorem normSq_pos {w : Cx Rat} (h : w ≠ 0) : 0 < w.re * w.re + w.im * w.im := by
  by_cases hr : w.re = 0
  · exact add_pos_of_nonneg_of_pos (mul_self_nonneg _) (mul_self_pos.mpr fun hi => h (ext' hr hi))
  · exact add_pos_of_pos_of_nonneg (mul_self_pos.mpr hr) (mul_self_nonneg _)

/-- the laws are those of `Rat`, component by component: sums and differences unfold by `rfl`, products after
`mul_def` -/
instance : CommRing (Cx Rat) where
  add := (· + ·)
  add_assoc a b c := ext' (add_assoc a.re b.re c.re) (add_assoc a.im b.im c.im)
  zero := 0
  zero_add a := ext' (zero_add a.re) (zero_add a.im)
  add_zero a := ext' (add_zero a.re) (add_zero a.im)
  add_comm a b := ext' (add_comm a.re b.re) (add_comm a.im b.im)
  mul := (· * ·)
  left_distrib a b c := by apply ext' <;> simp only [mul_def, add_def] <;> ring
  right_distrib a b c := by apply ext' <;> simp only [mul_def, add_def] <;> ring
  zero_mul a := by apply ext' <;> simp only [mul_def, zero_def] <;> ring
  mul_zero a := by apply ext' <;> simp only [mul_def, zero_def] <;> ring
  mul_assoc a b c := by apply ext' <;> simp only [mul_def] <;> ring
  one := 1
  one_mul a := by apply ext' <;> simp only [mul_def, one_def] <;> ring
  mul_one a := by apply ext' <;> simp only [mul_def, one_def] <;> ring
  neg := fun a => -a
  sub := (· - ·)
  sub_eq_add_neg a b := ext' (sub_eq_add_neg a.re b.re) (sub_eq_add_neg a.im b.im)
  neg_add_cancel a := ext' (neg_add_cancel a.re) (neg_add_cancel a.im)
  mul_comm a b := by apply ext' <;> simp only [mul_def] <;> ring
  nsmul := nsmulRec
  zsmul := zsmulRec

instance : Field (Cx Rat) where
  inv := fun a => a⁻¹
  div := (· / ·)
  div_eq_mul_inv a b := rfl
  exists_pair_ne := ⟨0, 1, fun h => zero_ne_one (congrArg Cx.re h)⟩
  mul_inv_cancel a ha := by
    have hne : a.re * a.re + a.im * a.im ≠ 0 := ne_of_gt (normSq_pos ha)
    apply ext' <;> simp only [mul_def, inv_def, one_def]
    · rw [show a.re * (a.re / (a.re * a.re + a.im * a.im)) - a.im * (-a.im / (a.re * a.re + a.im * a.im)) =
        (a.re * a.re + a.im * a.im) / (a.re * a.re + a.im * a.im) by ring, div_self hne]
    · ring
  inv_zero := ext' (zero_div _) ((congrArg (· / _) neg_zero).trans (zero_div _))
  nnqsmul := _
  nnqsmul_def := fun _ _ => rfl
  qsmul := _
  qsmul_def := fun _ _ => rfl

instance : LawfulBEq (Cx Rat) where
  eq_of_beq {a b} h := by
    cases a; cases b
    simp only [BEq.beq] at h
    simp_all [instBEqCx.beq]
  rfl {a} := by
    cases a
    simp [BEq.beq, instBEqCx.beq]

theorem conj_zero : Conj.conj (0 : Cx Rat) = 0 := by apply ext' <;> simp [conj_def, zero_def]

theorem conj_ne_zero {z : Cx Rat} (h : z ≠ 0) : Conj.conj z ≠ 0 := by
  intro hc
  apply h
  have h1 := congrArg Cx.re hc
  have h2 := congrArg Cx.im hc
  simp only [conj_def, zero_def] at h1 h2
  apply ext'
  · simpa [zero_def] using h1
  · simp only [zero_def]; linarith

end Slu.Cx
