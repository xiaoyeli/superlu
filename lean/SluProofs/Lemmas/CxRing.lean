import Slu.Model.Cx
import SluProofs.Lemmas.CxRat
import Mathlib.Algebra.Ring.Defs
import Mathlib.Algebra.Order.Field.Rat
import Mathlib.Tactic.Ring
/-
Real and imaginary parts of the library's complex operations (`zz_mult`, `z_add`, `z_sub`, `zz_conj`: the macros of
slu_dcomplex.h as modelled in Slu/Model/Cx.lean) at `Cx Rat`, as `simp` lemmas; all hold by `rfl`.  The ring and
field structure is in Lemmas/CxRat.lean.
-/
namespace Slu.Cx

@[simp] theorem add_re (a b : Cx Rat) : (a + b).re = a.re + b.re := rfl
@[simp] theorem add_im (a b : Cx Rat) : (a + b).im = a.im + b.im := rfl
@[simp] theorem sub_re (a b : Cx Rat) : (a - b).re = a.re - b.re := rfl
@[simp] theorem sub_im (a b : Cx Rat) : (a - b).im = a.im - b.im := rfl
@[simp] theorem neg_re (a : Cx Rat) : (-a).re = -a.re := rfl
@[simp] theorem neg_im (a : Cx Rat) : (-a).im = -a.im := rfl
@[simp] theorem mul_re (a b : Cx Rat) : (a * b).re = a.re * b.re - a.im * b.im := rfl
@[simp] theorem mul_im (a b : Cx Rat) : (a * b).im = a.im * b.re + a.re * b.im := rfl
@[simp] theorem zero_re : (0 : Cx Rat).re = 0 := rfl
@[simp] theorem zero_im : (0 : Cx Rat).im = 0 := rfl
@[simp] theorem one_re : (1 : Cx Rat).re = 1 := rfl
@[simp] theorem one_im : (1 : Cx Rat).im = 0 := rfl

@[simp] theorem conj_re (a : Cx Rat) : (Cx.conj a).re = a.re := rfl
@[simp] theorem conj_im (a : Cx Rat) : (Cx.conj a).im = -a.im := rfl

end Slu.Cx
