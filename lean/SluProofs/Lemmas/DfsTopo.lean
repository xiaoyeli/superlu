import SluProofs.Lemmas.LUSchedule
import SluProofs.Lemmas.Fold
import Slu.Model.Dfs
import Mathlib.Logic.Relation
import Mathlib.Data.List.Nodup
import Mathlib.Data.List.Range
import Mathlib.Data.List.Flatten
/-
Part 1.  On a graph whose edges go forward and stay below `j` (`adj k` only holds `r` with `k < r < j`) the
depth-first search of `Slu/Model/Dfs.lean` is a topological sort of the reach of its roots: no node twice, a node
is listed iff reachable, every node before its successors (`DfsStep`).  For any graph: with a successor-closed set
counted as visited the search is the fresh search with that set dropped (`dfsList_filter`).

Part 2.  A duplicate free order that contains the columns hit by the nonzero rows of the column, is closed under
the dependency edges `L_a(piv b) ≠ 0` and lists every edge source before its target is a valid elimination schedule
(`ValidSchedule`, LUSchedule.lean), however it is cut into blocks; the reverse postorder of the search is one.

Part 3.  The same when the search runs on supernode representatives and each reached supernode is applied as one
block `repfnz[s]..s`.
-/
namespace Slu.LU
open Slu List

/-! ### Part 1: the search is a topological sort of the reach -/

def Reach (adj : Nat → List Nat) : Nat → Nat → Prop := Relation.ReflTransGen (fun x y => y ∈ adj x)
def TopoClosed (adj : Nat → List Nat) : List Nat → Prop
  | [] => True
  | k :: B => (∀ r ∈ adj k, r ∈ B) ∧ TopoClosed adj B

theorem Reach.le {adj : Nat → List Nat} {j : Nat} (hadj : ∀ k, ∀ r ∈ adj k, k < r ∧ r < j) {a b : Nat}
    (h : Reach adj a b) : a ≤ b := by
  induction h with
  | refl => exact Nat.le_refl _
  | tail _ hbc ih => exact Nat.le_trans ih (Nat.le_of_lt (hadj _ _ hbc).1)

theorem Reach.lt_bound {adj : Nat → List Nat} {j : Nat} (hadj : ∀ k, ∀ r ∈ adj k, k < r ∧ r < j) {a b : Nat}
    (ha : a < j) (h : Reach adj a b) : b < j := by
  induction h with
  | refl => exact ha
  | tail _ hbc _ => exact (hadj _ _ hbc).2

theorem TopoClosed.closed {adj : Nat → List Nat} {post : List Nat} (h : TopoClosed adj post) :
    ∀ k ∈ post, ∀ r ∈ adj k, r ∈ post := by
  induction post with
  | nil => intro k hk; simp at hk
  | cons c B ih =>
    intro k hk r hr
    rcases mem_cons.mp hk with rfl | hk
    · exact mem_cons_of_mem _ (h.1 r hr)
    · exact mem_cons_of_mem _ (ih h.2 k hk r hr)

theorem closed_reach {adj : Nat → List Nat} {V : List Nat} (hV : ∀ x ∈ V, ∀ r ∈ adj x, r ∈ V) {a b : Nat} (ha : a ∈ V)
    (hr : Reach adj a b) : b ∈ V := by
  induction hr with
  | refl => exact ha
  | tail _ hbc ih => exact hV _ ih _ hbc

theorem TopoClosed.reach {adj : Nat → List Nat} {post : List Nat} (h : TopoClosed adj post) {a b : Nat}
    (ha : a ∈ post) (hr : Reach adj a b) : b ∈ post :=
  closed_reach h.closed ha hr

/-- in a successor-closed list with every successor behind its node, EVERYTHING reachable from a node
in at least one step is behind it -/
theorem TopoClosed.sublist_trans {adj : Nat → List Nat} {post : List Nat} (h : TopoClosed adj post) :
    ∀ k ∈ post, ∀ r, Relation.TransGen (fun x y => y ∈ adj x) k r → [k, r] <+ post := by
  induction post with
  | nil => intro k hk; simp at hk
  | cons c B ih =>
    intro k hk r hr
    rcases mem_cons.mp hk with rfl | hk
    · obtain ⟨m, hm, hmr⟩ := Relation.TransGen.head'_iff.mp hr
      exact Sublist.cons_cons _ (singleton_sublist.mpr (h.2.reach (h.1 m hm) hmr))
    · exact (ih h.2 k hk r hr).cons _

theorem TopoClosed.sublist {adj : Nat → List Nat} {post : List Nat} (h : TopoClosed adj post)
    (k : Nat) (hk : k ∈ post) (r : Nat) (hr : r ∈ adj k) : [k, r] <+ post :=
  h.sublist_trans k hk r (Relation.TransGen.single hr)

section
variable {adj : Nat → List Nat}

theorem dfsList_cons (f r : Nat) (rs post : List Nat) :
    dfsList adj f (r :: rs) post = dfsList adj f rs (dfsVisit adj f r post) := rfl

theorem dfsList_append (f : Nat) (r1 r2 post : List Nat) :
    dfsList adj f (r1 ++ r2) post = dfsList adj f r2 (dfsList adj f r1 post) := foldl_append

theorem dfsVisit_succ (f k : Nat) (post : List Nat) :
    dfsVisit adj (f + 1) k post = if k ∈ post then post else k :: dfsList adj f (adj k) post := rfl

theorem dfsVisit_mem (f k : Nat) {post : List Nat} (h : k ∈ post) : dfsVisit adj f k post = post := by
  cases f
  · rfl
  · rw [dfsVisit_succ, if_pos h]

/-- the fold the array-level loops are compared with -/
theorem dfsList_map {α : Type} (f : Nat) (g : α → Nat) (l : List α) (post : List Nat) :
    dfsList adj f (l.map g) post = l.foldl (fun acc a => dfsVisit adj f (g a) acc) post := foldl_map

/-- `dfsVisit` and `dfsList` call each other: this is the list half of an induction on the fuel, with the statement
about a visit at the same fuel as `ih` (likewise `dfsList_step_of`, `dfsList_filter_of`) -/
theorem dfsList_new_of {f : Nat} (ih : ∀ k A, ∃ new, dfsVisit adj f k A = new ++ A ∧ ∀ x ∈ new, Reach adj k x) :
    ∀ rs A, ∃ new, dfsList adj f rs A = new ++ A ∧ ∀ x ∈ new, ∃ s ∈ rs, Reach adj s x
  | [], A => ⟨[], rfl, by simp⟩
  | r :: rs, A => by
    obtain ⟨n1, e1, h1⟩ := ih r A
    obtain ⟨n2, e2, h2⟩ := dfsList_new_of ih rs (n1 ++ A)
    refine ⟨n2 ++ n1, by rw [dfsList_cons, e1, e2, append_assoc], fun x hx => ?_⟩
    rcases mem_append.mp hx with hx | hx
    · obtain ⟨s, hs, hsx⟩ := h2 x hx; exact ⟨s, mem_cons_of_mem _ hs, hsx⟩
    · exact ⟨r, mem_cons_self, h1 x hx⟩

theorem dfsVisit_new : ∀ f k A, ∃ new, dfsVisit adj f k A = new ++ A ∧ ∀ x ∈ new, Reach adj k x
  | 0, _, A => ⟨[], rfl, by simp⟩
  | f + 1, k, A => by
    rw [dfsVisit_succ]; split
    · exact ⟨[], rfl, by simp⟩
    · obtain ⟨n, en, rn⟩ := dfsList_new_of (dfsVisit_new f) (adj k) A
      refine ⟨k :: n, by rw [en]; rfl, fun x hx => ?_⟩
      rcases mem_cons.mp hx with rfl | hx
      · exact Relation.ReflTransGen.refl
      · obtain ⟨s, hs, hsx⟩ := rn x hx
        exact Relation.ReflTransGen.head hs hsx

end

/-- what one call (`dfsVisit`) or a run of calls (`dfsList`) does to the accumulator: it puts new
nodes in front, all reachable from the start nodes, keeps the list duplicate free and
successor-closed, and the start nodes end up inside -/
structure DfsStep (adj : Nat → List Nat) (starts : List Nat) (post res : List Nat) : Prop where
  ext : ∃ new, res = new ++ post ∧ ∀ x ∈ new, ∃ s ∈ starts, Reach adj s x
  nodup : res.Nodup
  topo : TopoClosed adj res
  mem : ∀ s ∈ starts, s ∈ res

theorem DfsStep.mem_iff {adj : Nat → List Nat} {roots L : List Nat} (h : DfsStep adj roots [] L) (x : Nat) :
    x ∈ L ↔ ∃ s ∈ roots, Reach adj s x := by
  constructor
  · intro hx
    obtain ⟨new, e, hr⟩ := h.ext
    rw [e, append_nil] at hx
    exact hr x hx
  · rintro ⟨s, hs, hsx⟩
    exact h.topo.reach (h.mem s hs) hsx

theorem dfsList_step_of {adj : Nat → List Nat} {j fuel : Nat}
    (ih : ∀ k post, k < j → j ≤ k + fuel → post.Nodup → TopoClosed adj post →
      DfsStep adj [k] post (dfsVisit adj fuel k post))
    (rs : List Nat) (post : List Nat) (hrs : ∀ r ∈ rs, r < j ∧ j ≤ r + fuel)
    (hnd : post.Nodup) (htc : TopoClosed adj post) :
    DfsStep adj rs post (dfsList adj fuel rs post) := by
  induction rs generalizing post with
  | nil => exact ⟨⟨[], rfl, by simp⟩, hnd, htc, by simp⟩
  | cons r rs ihl =>
    have h1 := ih r post (hrs r mem_cons_self).1 (hrs r mem_cons_self).2 hnd htc
    have h2 := ihl (dfsVisit adj fuel r post) (fun x hx => hrs x (mem_cons_of_mem _ hx)) h1.nodup h1.topo
    obtain ⟨n2, e2, _⟩ := h2.ext
    refine ⟨dfsList_new_of (dfsVisit_new fuel) (r :: rs) post, h2.nodup, h2.topo, fun s hs => ?_⟩
    rcases mem_cons.mp hs with rfl | hs
    · rw [dfsList_cons, e2]; exact mem_append_right _ (h1.mem _ mem_cons_self)
    · exact h2.mem s hs

theorem dfsVisit_step {adj : Nat → List Nat} {j : Nat} (hadj : ∀ k, ∀ r ∈ adj k, k < r ∧ r < j) (fuel : Nat) :
    ∀ k post, k < j → j ≤ k + fuel → post.Nodup → TopoClosed adj post →
      DfsStep adj [k] post (dfsVisit adj fuel k post) := by
  intro k post
  fun_induction dfsVisit adj fuel k post with
  | case1 k post => intro hk hf; omega
  | case2 fuel k post hmem => exact fun _ _ hnd htc => ⟨⟨[], by simp, by simp⟩, hnd, htc, by simpa using hmem⟩
  | case3 fuel k post hmem ih =>
    intro hk hf hnd htc
    have hl := dfsList_step_of (fun k post => ih post k) (adj k) post
      (fun r hr => ⟨(hadj k r hr).2, by have := (hadj k r hr).1; omega⟩) hnd htc
    obtain ⟨n, en, rn⟩ := hl.ext
    have hkn : k ∉ dfsList adj fuel (adj k) post := by
      rw [en]
      intro h
      rcases mem_append.mp h with h | h
      · obtain ⟨s, hs, hsk⟩ := rn k h
        have := (hadj k s hs).1
        have := hsk.le hadj
        omega
      · exact hmem h
    obtain ⟨m, em, rm⟩ := dfsVisit_new (adj := adj) (fuel + 1) k post
    rw [dfsVisit_succ, if_neg hmem] at em
    exact ⟨⟨m, em, fun x hx => ⟨k, mem_singleton_self k, rm x hx⟩⟩, nodup_cons.mpr ⟨hkn, hl.nodup⟩, ⟨hl.mem, hl.topo⟩, by simp⟩

section graph
variable {adj : Nat → List Nat} {j : Nat}

section revPost
variable (hadj : ∀ k, ∀ r ∈ adj k, k < r ∧ r < j) (roots : List Nat) (hroots : ∀ r ∈ roots, r < j)
include hadj hroots

theorem dfsRevPost_step : DfsStep adj roots [] (dfsRevPost j adj roots) :=
  dfsList_step_of (dfsVisit_step hadj j) roots [] (fun r hr => ⟨hroots r hr, by omega⟩) nodup_nil trivial

theorem dfsRevPost_nodup : (dfsRevPost j adj roots).Nodup :=
  (dfsRevPost_step hadj roots hroots).nodup

theorem mem_dfsRevPost_iff (x : Nat) :
    x ∈ dfsRevPost j adj roots ↔ ∃ s ∈ roots, Reach adj s x :=
  (dfsRevPost_step hadj roots hroots).mem_iff x

theorem dfsRevPost_topo (k : Nat) (hk : k ∈ dfsRevPost j adj roots) (r : Nat) (hr : r ∈ adj k) :
    [k, r] <+ dfsRevPost j adj roots :=
  (dfsRevPost_step hadj roots hroots).topo.sublist k hk r hr

theorem dfsRevPost_lt (x : Nat) (hx : x ∈ dfsRevPost j adj roots) : x < j := by
  obtain ⟨s, hs, hsx⟩ := (mem_dfsRevPost_iff hadj roots hroots x).mp hx
  exact hsx.lt_bound hadj (hroots s hs)

end revPost

theorem dfsPost_nodup (hadj : ∀ k, ∀ r ∈ adj k, k < r ∧ r < j) (roots : List Nat)
    (hroots : ∀ r ∈ roots, r < j) : (dfsPost j adj roots).Nodup :=
  nodup_reverse.mpr (dfsRevPost_nodup hadj roots hroots)

theorem mem_dfsPost_iff (hadj : ∀ k, ∀ r ∈ adj k, k < r ∧ r < j) (roots : List Nat)
    (hroots : ∀ r ∈ roots, r < j) (x : Nat) :
    x ∈ dfsPost j adj roots ↔ ∃ s ∈ roots, Reach adj s x := by
  rw [dfsPost, mem_reverse]; exact mem_dfsRevPost_iff hadj roots hroots x

/-- topological: every successor `r` of a listed node `k` occurs BEFORE `k` in the postorder
(`[r, k] <+ l`: `r` occurs before `k` in `l`) -/
theorem dfsPost_topo (hadj : ∀ k, ∀ r ∈ adj k, k < r ∧ r < j) (roots : List Nat)
    (hroots : ∀ r ∈ roots, r < j) (k : Nat) (hk : k ∈ dfsPost j adj roots) (r : Nat) (hr : r ∈ adj k) :
    [r, k] <+ dfsPost j adj roots :=
  (dfsRevPost_topo hadj roots hroots k (mem_reverse.mp hk) r hr).reverse

theorem dfsPost_topo_reach (hadj : ∀ k, ∀ r ∈ adj k, k < r ∧ r < j) (roots : List Nat)
    (hroots : ∀ r ∈ roots, r < j) (k : Nat) (hk : k ∈ dfsPost j adj roots) (r : Nat) (hr : Reach adj k r)
    (hne : r ≠ k) : [r, k] <+ dfsPost j adj roots :=
  ((dfsRevPost_step hadj roots hroots).topo.sublist_trans k (mem_reverse.mp hk) r
    ((Relation.reflTransGen_iff_eq_or_transGen.mp hr).resolve_left hne)).reverse

end graph

section visited
variable {adj : Nat → List Nat} {V : List Nat} (hV : ∀ x ∈ V, ∀ r ∈ adj x, r ∈ V)
include hV

omit hV in
theorem dfsList_filter_of {f : Nat}
    (ih : ∀ k A, dfsVisit adj f k (A.filter (fun x => decide (x ∉ V)) ++ V) = (dfsVisit adj f k A).filter (fun x => decide (x ∉ V)) ++ V) :
    ∀ rs A, dfsList adj f rs (A.filter (fun x => decide (x ∉ V)) ++ V) = (dfsList adj f rs A).filter (fun x => decide (x ∉ V)) ++ V
  | [], _ => rfl
  | r :: rs, A => by rw [dfsList_cons, dfsList_cons, ih r A]; exact dfsList_filter_of ih rs _

/-- with `V` closed under successors: a visit with `V` counted as visited = a visit afresh with `V` dropped (any graph, any
fuel: if the fuel runs out it does so on both sides) -/
theorem dfsVisit_filter : ∀ f k A,
    dfsVisit adj f k (A.filter (fun x => decide (x ∉ V)) ++ V) = (dfsVisit adj f k A).filter (fun x => decide (x ∉ V)) ++ V
  | 0, _, _ => rfl
  | f + 1, k, A => by
    have hin : k ∈ A.filter (fun x => decide (x ∉ V)) ++ V ↔ k ∈ A ∨ k ∈ V := by
      rw [mem_append, mem_filter, decide_eq_true_eq]; tauto
    rw [dfsVisit_succ, dfsVisit_succ]
    by_cases hA : k ∈ A
    · rw [if_pos (hin.mpr (Or.inl hA)), if_pos hA]
    · rw [if_neg hA]
      by_cases hv : k ∈ V
      · -- everything the fresh visit adds is reachable from `k`, hence in `V`
        obtain ⟨n, en, rn⟩ := dfsList_new_of (dfsVisit_new f) (adj k) A
        have hnil : (k :: n).filter (fun x => decide (x ∉ V)) = [] := filter_eq_nil_iff.mpr fun x hx => by
          have : x ∈ V := by
            rcases mem_cons.mp hx with rfl | hx
            · exact hv
            · obtain ⟨s, hs, hsx⟩ := rn x hx
              exact closed_reach hV (hV _ hv _ hs) hsx
          simpa using this
        rw [if_pos (hin.mpr (Or.inr hv)), en, ← cons_append, filter_append, hnil, nil_append]
      · rw [if_neg (fun h => (hin.mp h).elim hA hv), dfsList_filter_of (dfsVisit_filter f) (adj k) A, filter_cons,
          if_pos (by simpa using hv), cons_append]

theorem dfsList_filter (f : Nat) (rs A : List Nat) :
    dfsList adj f rs (A.filter (fun x => decide (x ∉ V)) ++ V) = (dfsList adj f rs A).filter (fun x => decide (x ∉ V)) ++ V :=
  dfsList_filter_of (dfsVisit_filter hV f) rs A

end visited

theorem scheduleOf_flatten {K : Type} (st : St K) (order : List Nat) :
    (scheduleOf st order).flatten = order.map fun k => (st.piv.getD k 0, st.L.getD k #[]) := by
  induction order with
  | nil => rfl
  | cons k rest ih => exact congrArg (_ :: ·) ih

theorem mem_numAdj {K : Type} [Zero K] [DecidableEq K] (st : St K) (j k r : Nat) :
    r ∈ numAdj st j k ↔ r < j ∧ k < r ∧ (st.L.getD k #[]).get (st.piv.getD r 0) ≠ 0 := by
  simp [numAdj]

theorem mem_numRoots {K : Type} [Zero K] [DecidableEq K] (st : St K) (j : Nat) (w : Vec K) (k : Nat) :
    k ∈ numRoots st j w ↔ k < j ∧ w.get (st.piv.getD k 0) ≠ 0 := by
  simp [numRoots]

section numeric
variable {K : Type} [Zero K] [DecidableEq K] (st : St K) (j : Nat)

/-! the numerically nonzero pattern read off a state meets the four hypotheses of `validSchedule_dfs` -/

theorem numAdj_lt : ∀ k, ∀ r ∈ numAdj st j k, k < r ∧ r < j :=
  fun k r hr => ⟨((mem_numAdj st j k r).mp hr).2.1, ((mem_numAdj st j k r).mp hr).1⟩

theorem numRoots_lt (w : Vec K) : ∀ r ∈ numRoots st j w, r < j :=
  fun r hr => ((mem_numRoots st j w r).mp hr).1

theorem numAdj_complete : ∀ k k', k < k' → k' < j → (st.L.getD k #[]).get (st.piv.getD k' 0) ≠ 0 → k' ∈ numAdj st j k :=
  fun k k' hkk' hk' hne => (mem_numAdj st j k k').mpr ⟨hk', hkk', hne⟩

theorem numRoots_complete (w : Vec K) : ∀ k < j, w.get (st.piv.getD k 0) ≠ 0 → k ∈ numRoots st j w :=
  fun k hk hne => (mem_numRoots st j w k).mpr ⟨hk, hne⟩

end numeric

/-! ### Part 2: a closed topological order is a valid elimination schedule

The unit lower list of previous columns is given as `(List.range j).map f` (column `k` is `f k`), which
is what `prev st j` is by definition; orders are lists of column indices. -/

variable {K : Type} [Field K]

theorem pair_sublist_getElem {α : Type} (L : List α) (i i' : Nat) (h : i < i') (h' : i' < L.length) :
    [L[i], L[i']] <+ L := by
  have : L.Pairwise (fun a b => [a, b] <+ L) := pairwise_iff_forall_sublist.mpr (fun h => h)
  exact pairwise_iff_getElem.mp this i i' (by omega) h' h

theorem pair_sublist_map_range {α : Type} {f : Nat → α} {j : Nat} {a b : α}
    (h : [a, b] <+ (List.range j).map f) : ∃ k k', k < k' ∧ k' < j ∧ a = f k ∧ b = f k' := by
  obtain ⟨l', hl', e⟩ := sublist_map_iff.mp h
  match l', e with
  | [k, k'], e =>
    obtain ⟨rfl, rfl⟩ : a = f k ∧ b = f k' := by simpa using e
    exact ⟨k, k', pairwise_iff_forall_sublist.mp pairwise_lt_range hl', mem_range.mp (hl'.subset (by simp)), rfl, rfl⟩

section sched
variable (f : Nat → Nat × Vec K) (j : Nat) (w : Vec K) (hU : UnitLower ((List.range j).map f))
include hU

/-- **Any closed topological order is a valid schedule.** `order` lists column indices `< j` (each at
most once) such that
* every column whose pivot row is a nonzero row of `w` is listed,
* whenever a listed column `k` has a dependency edge to a later column `k'` (`L_k(piv k') ≠ 0`),
  `k'` is listed too, AFTER `k`.
Then the listed columns in that order, grouped into consecutive blocks in any way, are a valid
schedule for eliminating `w`. -/
theorem validSchedule_of_closedTopo (order : List Nat)
    (hnd : order.Nodup) (hlt : ∀ k ∈ order, k < j)
    (hroots : ∀ k < j, w.get (f k).1 ≠ 0 → k ∈ order)
    (hedges : ∀ k k', k < k' → k' < j → k ∈ order → (f k).2.get (f k').1 ≠ 0 → [k, k'] <+ order)
    (bs : List (List (Nat × Vec K))) (hbs : bs.flatten = order.map f) :
    ValidSchedule ((List.range j).map f) w bs := by
  classical
  have hLnd : ((List.range j).map f).Nodup := hU.nodup
  have hinj : ∀ a < j, ∀ b < j, f a = f b → a = b := fun a ha b hb e =>
    inj_on_of_nodup_map hLnd (mem_range.mpr ha) (mem_range.mpr hb) e
  have hidx : ∀ k < j, f k ∈ order.map f → k ∈ order := by
    intro k hk hm
    obtain ⟨k0, hk0, e⟩ := mem_map.mp hm
    rwa [← hinj k0 (hlt k0 hk0) k hk e]
  have hedge' : ∀ a b, [a, b] <+ (List.range j).map f → a ∈ order.map f → a.2.get b.1 ≠ 0 →
      [a, b] <+ order.map f := by
    intro a b hab ha hne
    obtain ⟨k, k', hkk', hk', rfl, rfl⟩ := pair_sublist_map_range hab
    exact (hedges k k' hkk' hk' (hidx k (by omega) ha) hne).map f
  refine ⟨fun x => decide (x ∈ order.map f), ?_, ?_, ?_⟩
  · rw [hbs]
    refine (perm_ext_iff_of_nodup (hnd.map_on fun a ha b hb => hinj a (hlt a ha) b (hlt b hb))
      (hLnd.filter _)).mpr (fun x => ?_)
    simp only [mem_filter, decide_eq_true_eq, iff_and_self]
    intro hx
    obtain ⟨k, hk, rfl⟩ := mem_map.mp hx
    exact mem_map_of_mem (mem_range.mpr (hlt k hk))
  · rw [hbs]
    intro a b hab hne
    have ha : a ∈ ((List.range j).map f).filter (fun x => decide (x ∈ order.map f)) := hab.subset (by simp)
    exact hedge' a b (hab.trans filter_sublist) (by simpa using (mem_filter.mp ha).2) hne
  · intro e he hk
    by_contra hne
    have := elim_mult_support (· ∈ order.map f) _ w ?_ ?_ e he hne
    · simp [this] at hk
    · intro x hx hw
      obtain ⟨k, hk', rfl⟩ := mem_map.mp hx
      exact mem_map_of_mem (hroots k (mem_range.mp hk') hw)
    · intro a b hab ha hne'
      exact (hedge' a b hab ha hne').subset (by simp)

/-- **The reverse DFS postorder is a valid schedule.** `adj` and `roots` may be any pattern that
contains the numerically nonzero one (`hpat`, `hroots`) and only has edges `k → r` with
`k < r < j`; `bs` is any cutting of the order into blocks. -/
theorem validSchedule_dfs (adj : Nat → List Nat) (roots : List Nat)
    (hadj : ∀ k, ∀ r ∈ adj k, k < r ∧ r < j) (hrootlt : ∀ r ∈ roots, r < j)
    (hpat : ∀ k k', k < k' → k' < j → (f k).2.get (f k').1 ≠ 0 → k' ∈ adj k)
    (hroots : ∀ k < j, w.get (f k).1 ≠ 0 → k ∈ roots)
    (bs : List (List (Nat × Vec K))) (hbs : bs.flatten = (dfsRevPost j adj roots).map f) :
    ValidSchedule ((List.range j).map f) w bs :=
  validSchedule_of_closedTopo f j w hU _ (dfsRevPost_nodup hadj roots hrootlt) (dfsRevPost_lt hadj roots hrootlt)
    (fun k hk hw => (mem_dfsRevPost_iff hadj roots hrootlt k).mpr ⟨k, hroots k hk hw, Relation.ReflTransGen.refl⟩)
    (fun k k' hkk' hk' hk hne => dfsRevPost_topo hadj roots hrootlt k hk k' (hpat k k' hkk' hk' hne))
    bs hbs

end sched

/-- **Restriction of a larger topological order**: `order` is the panel-wide list of [sdcz]panel_dfs, `p` selects
the segments one column of the panel reaches. -/
theorem validSchedule_filter (Ls : List (Nat × Vec K)) (w : Vec K) (order : List Nat) (p : Nat → Bool)
    (f : Nat → Nat × Vec K) (hU : UnitLower Ls)
    (hf : ∀ k (hk : k < Ls.length), f k = Ls[k])
    (hnd : order.Nodup) (hlt : ∀ k ∈ order, k < Ls.length)
    (hroots : ∀ k (hk : k < Ls.length), w.get (Ls[k]).1 ≠ 0 → k ∈ order ∧ p k = true)
    (hclosed : ∀ k k' (_ : k < k') (hk' : k' < Ls.length), k ∈ order → p k = true →
      (Ls[k]).2.get (Ls[k']).1 ≠ 0 → p k' = true ∧ [k, k'] <+ order)
    (bs : List (List (Nat × Vec K))) (hbs : bs.flatten = (order.filter p).map f) :
    ValidSchedule Ls w bs := by
  have hLs : (List.range Ls.length).map f = Ls :=
    ext_getElem (by simp) (fun k h1 h2 => by simpa using hf k h2)
  have := validSchedule_of_closedTopo f Ls.length w (hLs.symm ▸ hU) (order.filter p) (hnd.filter _)
    (fun k hk => hlt k (mem_filter.mp hk).1)
    (fun k hk hw => mem_filter.mpr (hroots k hk (hf k hk ▸ hw)))
    (fun k k' hkk' hk' hk hne => by
      obtain ⟨hk1, hk2⟩ := mem_filter.mp hk
      obtain ⟨h1, h2⟩ := hclosed k k' hkk' hk' hk1 hk2 (hf k (by omega) ▸ hf k' hk' ▸ hne)
      simpa [hk2, h1] using h2.filter p)
    bs hbs
  rwa [hLs] at this

/-! ### Part 3: supernode representatives -/

theorem mem_colSeg (lo hi m : Nat) : m ∈ colSeg lo hi ↔ lo ≤ m ∧ m ≤ hi := by
  rw [colSeg, mem_range'_1]; omega

theorem colSeg_pair (lo hi a b : Nat) (ha : lo ≤ a) (hab : a < b) (hb : b ≤ hi) : [a, b] <+ colSeg lo hi := by
  have hnd : (colSeg lo hi).Nodup := nodup_range' 1
  rcases pair_sublist_or (colSeg lo hi) a b ((mem_colSeg _ _ _).mpr ⟨ha, by omega⟩)
    ((mem_colSeg _ _ _).mpr ⟨by omega, hb⟩) (by omega) with h | h
  · exact h
  · have := pairwise_iff_forall_sublist.mp (pairwise_lt_range' (s := lo) (n := hi + 1 - lo) 1) h
    omega

section snode
variable {rep : Nat → Nat}

theorem snodeFnz_le (hits : List Nat) (s : Nat) : snodeFnz rep hits s ≤ s :=
  foldl_min_le_init id _ s

theorem snodeFnz_le_hit (hits : List Nat) (s h : Nat) (hh : h ∈ hits) (hr : rep h = s) :
    snodeFnz rep hits s ≤ h :=
  foldl_min_le_mem id _ s (mem_filter.mpr ⟨hh, by simpa using hr⟩)

theorem rep_snodeFnz (hits : List Nat) (s : Nat) (hs : rep s = s) : rep (snodeFnz rep hits s) = s := by
  have : snodeFnz rep hits s = s ∨ ∃ e ∈ hits.filter fun k => rep k == s, e = snodeFnz rep hits s :=
    foldl_min_attained id _ s
  rcases this with h | ⟨e, he, rfl⟩
  · rw [h, hs]
  · simpa using (mem_filter.mp he).2

end snode

/-- **The supernodal search gives a valid schedule.**  `rep` maps a column to the representative
(last column) of its supernode — supernodes are runs of consecutive columns: `k ≤ rep k`, `rep` is
monotone and idempotent.  `adjS s` holds columns beyond `s`; it CONTAINS, for every column `k` of
supernode `s`, the later columns `k' > s` with `L_k(piv k') ≠ 0` (`hpat`: all columns of a supernode
share the structure below the diagonal block, and that structure contains the numeric one).
`roots` contains the columns hit by the nonzero rows of `w`.  Then the blocks `repfnz[s]..s`, one per
reached representative in reverse postorder, are a valid schedule. -/
theorem validSchedule_snodeDfs (f : Nat → Nat × Vec K) (j : Nat) (w : Vec K)
    (hU : UnitLower ((List.range j).map f)) (rep : Nat → Nat) (adjS : Nat → List Nat) (roots : List Nat)
    (hge : ∀ k, k ≤ rep k) (hrlt : ∀ k < j, rep k < j)
    (hmono : ∀ k k', k ≤ k' → rep k ≤ rep k') (hidem : ∀ k, rep (rep k) = rep k)
    (hadjS : ∀ s, ∀ r ∈ adjS s, s < r ∧ r < j) (hrootlt : ∀ r ∈ roots, r < j)
    (hpat : ∀ k k', k < k' → k' < j → rep k < k' → (f k).2.get (f k').1 ≠ 0 → k' ∈ adjS (rep k))
    (hroots : ∀ k < j, w.get (f k).1 ≠ 0 → k ∈ roots) :
    ValidSchedule ((List.range j).map f) w ((snodeSegs j rep adjS roots).map fun seg => seg.map f) := by
  set reps := snodeReps j rep adjS roots with hreps
  set hits := roots ++ reps.flatMap adjS with hhits
  set blk : Nat → List Nat := fun s => colSeg (snodeFnz rep hits s) s with hblk
  have hadj : ∀ k, ∀ r ∈ (fun s => (adjS s).map rep) k, k < r ∧ r < j := by
    intro k r hr
    obtain ⟨x, hx, rfl⟩ := mem_map.mp hr
    have := hadjS k x hx
    exact ⟨Nat.lt_of_lt_of_le this.1 (hge x), hrlt x this.2⟩
  have hrl : ∀ r ∈ roots.map rep, r < j := by
    intro r hr
    obtain ⟨x, hx, rfl⟩ := mem_map.mp hr
    exact hrlt x (hrootlt x hx)
  have R1 : reps.Nodup := dfsRevPost_nodup hadj _ hrl
  have R2 : ∀ s ∈ reps, s < j := dfsRevPost_lt hadj _ hrl
  have R3 : ∀ s ∈ reps, rep s = s := by
    intro s hs
    obtain ⟨r, hr, hrs⟩ := (mem_dfsRevPost_iff hadj _ hrl s).mp hs
    cases hrs with
    | refl => obtain ⟨x, _, rfl⟩ := mem_map.mp hr; exact hidem x
    | tail _ hbs => obtain ⟨x, _, rfl⟩ := mem_map.mp hbs; exact hidem x
  have R4 : ∀ s ∈ reps, ∀ r ∈ adjS s, [s, rep r] <+ reps :=
    fun s hs r hr => dfsRevPost_topo hadj _ hrl s hs (rep r) (mem_map_of_mem hr)
  have R5 : ∀ k ∈ roots, rep k ∈ reps := fun k hk =>
    (mem_dfsRevPost_iff hadj _ hrl _).mpr ⟨rep k, mem_map_of_mem hk, Relation.ReflTransGen.refl⟩
  have hblkrep : ∀ s ∈ reps, ∀ m ∈ blk s, rep m = s := by
    intro s hs m hm
    obtain ⟨h1, h2⟩ := (mem_colSeg _ _ _).mp hm
    have a := hmono _ _ h1
    rw [rep_snodeFnz hits s (R3 s hs)] at a
    have b := hmono _ _ h2
    rw [R3 s hs] at b
    omega
  have hhit : ∀ h ∈ hits, h ∈ blk (rep h) := by
    intro h hh
    exact (mem_colSeg _ _ _).mpr ⟨snodeFnz_le_hit hits _ h hh rfl, hge h⟩
  have hbs : (((snodeSegs j rep adjS roots).map fun seg => seg.map f)).flatten = (reps.flatMap blk).map f := by
    simp only [snodeSegs, map_map, flatMap_def, map_flatten]
    rfl
  refine validSchedule_of_closedTopo f j w hU (reps.flatMap blk) ?_ ?_ ?_ ?_ _ hbs
  · rw [nodup_flatMap]
    refine ⟨fun s _ => nodup_range' 1, R1.pairwise_of_forall_ne ?_⟩
    intro s hs s' hs' hne
    show Disjoint (blk s) (blk s')
    intro m hm hm'
    exact hne ((hblkrep s hs m hm).symm.trans (hblkrep s' hs' m hm'))
  · intro m hm
    obtain ⟨s, hs, hms⟩ := mem_flatMap.mp hm
    have := ((mem_colSeg _ _ _).mp hms).2
    have := R2 s hs
    omega
  · intro k hk hw
    have hkr := hroots k hk hw
    exact mem_flatMap.mpr ⟨rep k, R5 k hkr, hhit k (mem_append_left _ hkr)⟩
  · intro k k' hkk' hk' hk hne
    obtain ⟨s, hs, hks⟩ := mem_flatMap.mp hk
    have hrk : rep k = s := hblkrep s hs k hks
    obtain ⟨hlo, hhi⟩ := (mem_colSeg _ _ _).mp hks
    by_cases hc : k' ≤ s
    · exact (colSeg_pair _ _ k k' hlo hkk' hc).trans (by
        rw [flatMap_def]; exact sublist_flatten_of_mem (mem_map_of_mem hs))
    · have hin : k' ∈ adjS s := hrk ▸ hpat k k' hkk' hk' (by omega) hne
      have hk'hits : k' ∈ hits := mem_append_right _ (mem_flatMap.mpr ⟨s, hs, hin⟩)
      have h1 : [k, k'] <+ blk s ++ blk (rep k') :=
        Sublist.append (singleton_sublist.mpr hks) (singleton_sublist.mpr (hhit k' hk'hits))
      have h2 := (R4 s hs k' hin).flatMap blk
      simp only [flatMap_cons, flatMap_nil, append_nil] at h2
      exact h1.trans h2

end Slu.LU
