/-
A dropping rule at the level of lists: `Dropped input kept dropped Keep Drop`.  Both dropping routines of the incomplete LU
(`ilu_?drop_row`, `ilu_?copy_to_ucol`) are proved to meet it — `copy_to_ucol` with the rules of its two loops, `drop_row` with
trivial ones (see `IluDrop.DropInv`); what C15 states of them is read off through the laws below.
Core Lean only.
-/
namespace Slu

theorem set_append_perm {α} (l : List α) (i : Nat) (h : i < l.length) (b : α) :
    (l.set i b ++ [l[i]]).Perm (l ++ [b]) := by
  induction l generalizing i with
  | nil => exact absurd h (Nat.not_lt_zero i)
  | cons a t ih =>
    cases i with
    | zero =>
      exact ((List.perm_append_singleton a t).cons b).trans
        ((List.Perm.swap a b t).trans ((List.perm_append_singleton b t).symm.cons a))
    | succ k => exact (ih k (Nat.lt_of_succ_lt_succ h)).cons a

/-- moving the last of the first `c` entries into position `i < c` and shortening by one removes entry `i` -/
theorem take_set_last_perm {α} (l : List α) (i c : Nat) (hi : i < c) (hc : c ≤ l.length) :
    ((l.set i (l[c - 1]'(by omega))).take (c - 1) ++ [l[i]'(by omega)]).Perm (l.take c) := by
  obtain ⟨d, rfl⟩ : ∃ d, c = d + 1 := ⟨c - 1, by omega⟩
  simp only [Nat.add_sub_cancel]
  rw [List.take_succ_eq_append_getElem hc, List.take_set]
  by_cases hid : i = d
  · subst hid
    rw [List.set_eq_of_length_le (by rw [List.length_take]; omega)]
  · have hl : i < (l.take d).length := by rw [List.length_take]; omega
    have := set_append_perm (l.take d) i hl (l[d])
    rwa [List.getElem_take] at this

/-- a dropping rule has split `input` into `kept` and `dropped` (each in the routine's own order): nothing is invented,
nothing is lost; every kept item satisfies `Keep`, every dropped one `Drop` -/
structure Dropped {ι : Type} (input kept dropped : List ι) (Keep Drop : ι → Prop) : Prop where
  perm : (kept ++ dropped).Perm input
  kept_ok : ∀ e ∈ kept, Keep e
  dropped_ok : ∀ e ∈ dropped, Drop e

namespace Dropped
variable {ι : Type} {input kept dropped k2 d2 : List ι} {Keep Drop K2 D2 : ι → Prop}

theorem refl (l : List ι) (Drop : ι → Prop) : Dropped l l [] (fun _ => True) Drop :=
  ⟨.of_eq (List.append_nil l), fun _ _ => trivial, nofun⟩

theorem count (h : Dropped input kept dropped Keep Drop) : kept.length + dropped.length = input.length :=
  List.length_append ▸ h.perm.length_eq

theorem kept_mem (h : Dropped input kept dropped Keep Drop) {e : ι} (he : e ∈ kept) : e ∈ input :=
  h.perm.subset (List.mem_append_left _ he)

theorem dropped_mem (h : Dropped input kept dropped Keep Drop) {e : ι} (he : e ∈ dropped) : e ∈ input :=
  h.perm.subset (List.mem_append_right _ he)

theorem cases (h : Dropped input kept dropped Keep Drop) {e : ι} (he : e ∈ input) :
    e ∈ kept ∧ Keep e ∨ e ∈ dropped ∧ Drop e :=
  (List.mem_append.mp (h.perm.symm.subset he)).imp (fun hk => ⟨hk, h.kept_ok e hk⟩) fun hd => ⟨hd, h.dropped_ok e hd⟩

theorem nodup (h : Dropped input kept dropped Keep Drop) (hnd : input.Nodup) : kept.Nodup ∧ ∀ e ∈ kept, e ∉ dropped := by
  obtain ⟨a, -, c⟩ := List.nodup_append.mp (h.perm.nodup_iff.mpr hnd)
  exact ⟨a, fun e hk hd => c e hk e hd rfl⟩

theorem mono {K' D' : ι → Prop} (h : Dropped input kept dropped Keep Drop) (hK : ∀ e ∈ kept, Keep e → K' e)
    (hD : ∀ e ∈ dropped, Drop e → D' e) : Dropped input kept dropped K' D' :=
  ⟨h.perm, fun e he => hK e he (h.kept_ok e he), fun e he => hD e he (h.dropped_ok e he)⟩

/-- a second rule applied to what the first one kept -/
theorem trans (h1 : Dropped input kept dropped Keep Drop) (h2 : Dropped kept k2 d2 K2 D2) :
    Dropped input k2 (d2 ++ dropped) (fun e => Keep e ∧ K2 e) (fun e => Drop e ∨ D2 e) :=
  ⟨(List.append_assoc .. ▸ h2.perm.append_right dropped).trans h1.perm,
    fun e he => ⟨h1.kept_ok e (h2.kept_mem he), h2.kept_ok e he⟩,
    fun e he => (List.mem_append.mp he).elim (fun h => Or.inr (h2.dropped_ok e h)) fun h => Or.inl (h1.dropped_ok e h)⟩

theorem keep (h : Dropped input kept dropped Keep Drop) {e : ι} (he : Keep e) :
    Dropped (input ++ [e]) (kept ++ [e]) dropped Keep Drop :=
  ⟨by rw [List.append_assoc, List.singleton_append]
      exact List.perm_middle.trans ((h.perm.cons e).trans (List.perm_append_singleton e input).symm),
    fun x hx => (List.mem_append.mp hx).elim (h.kept_ok x) fun hx => List.mem_singleton.mp hx ▸ he, h.dropped_ok⟩

theorem drop (h : Dropped input kept dropped Keep Drop) {e : ι} (he : Drop e) :
    Dropped (input ++ [e]) kept (e :: dropped) Keep Drop :=
  ⟨List.perm_middle.trans ((h.perm.cons e).trans (List.perm_append_singleton e input).symm), h.kept_ok,
    List.forall_mem_cons.mpr ⟨he, h.dropped_ok⟩⟩

/-- the step of the compaction loops of both routines (`ilu_?drop_row` l.143-178 / 223-258, `ilu_?copy_to_ucol` l.195-220):
the live items are the first `c` of `l`; item `i` is dropped and the last live item takes its place -/
theorem swapRemove {l : List ι} {i c : Nat} (hi : i < c) (hc : c ≤ l.length)
    (h : Dropped input (l.take c) dropped Keep Drop) (hd : Drop (l[i]'(by omega))) :
    Dropped input ((l.set i (l[c - 1]'(by omega))).take (c - 1)) (l[i]'(by omega) :: dropped) Keep Drop := by
  have hp := take_set_last_perm l i c hi hc
  have hp' := hp.append_right dropped
  rw [List.append_assoc, List.singleton_append] at hp'
  exact ⟨hp'.trans h.perm, fun e he => h.kept_ok e (hp.subset (List.mem_append_left _ he)),
    List.forall_mem_cons.mpr ⟨hd, h.dropped_ok⟩⟩

/-- `swapRemove` for the live prefix of an array, as the routines write it: `a[i] = a[c-1]; c--` -/
theorem swapRemoveArray [Inhabited ι] {a : Array ι} {i c : Nat} (hi : i < c) (hc : c ≤ a.size)
    (h : Dropped input (a.toList.take c) dropped Keep Drop) (hd : Drop a[i]!) :
    Dropped input ((a.setIfInBounds i a[c - 1]!).toList.take (c - 1)) (a[i]! :: dropped) Keep Drop := by
  rw [getElem!_pos a i (by omega)] at hd ⊢
  rw [getElem!_pos a (c - 1) (by omega), Array.toList_setIfInBounds, ← Array.getElem_toList, ← Array.getElem_toList]
  exact h.swapRemove hi (by rwa [Array.length_toList]) (by rwa [Array.getElem_toList])

end Dropped
end Slu
