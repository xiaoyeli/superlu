import SluProofs.Lemmas.LU
import Mathlib.Data.List.Nodup
/-
Order independence of the forward elimination `Slu.LU.elim`.

The model eliminates a column by ALL previous L columns in natural order.  The real code
([sdcz]panel_dfs / column_dfs / panel_bmod / column_bmod) visits only the columns reached by a
depth-first search, in a topological order of the dependency relation "L_k(p_k') ≠ 0".  This file
proves, in exact arithmetic over any field, that this makes no difference: a dependency-respecting order of
any subset of the columns that contains every column with a nonzero multiplier leaves the same vector and
computes the same multiplier for every column (`elim_schedule`, `multAt_schedule`).

No range hypothesis (`p < w.size`) and no separate distinctness hypothesis is needed: `UnitLower`
already forces the pivots to be pairwise distinct (`UnitLower.nodup_pivots`), and an out-of-range
pivot reads 0 before and after every update.
-/
namespace Slu.LU
open Slu List

theorem pair_sublist_or {α : Type} (L : List α) (a b : α) (ha : a ∈ L) (hb : b ∈ L) (hab : a ≠ b) :
    [a, b] <+ L ∨ [b, a] <+ L := by
  induction L with
  | nil => simp at ha
  | cons c L ih =>
    rcases mem_cons.mp ha with rfl | ha' <;> rcases mem_cons.mp hb with rfl | hb'
    · exact absurd rfl hab
    · exact Or.inl (Sublist.cons_cons _ (singleton_sublist.mpr hb'))
    · exact Or.inr (Sublist.cons_cons _ (singleton_sublist.mpr ha'))
    · rcases ih ha' hb' with h | h
      · exact Or.inl (h.cons _)
      · exact Or.inr (h.cons _)

theorem pair_sublist_antisymm {α : Type} (L : List α) (hL : L.Nodup) (a b : α)
    (h1 : [a, b] <+ L) (h2 : [b, a] <+ L) : False := by
  have he := (hL.perm_iff_eq_of_sublist h1 h2).mp (Perm.swap _ _ _)
  have hab : a = b := by simp at he; exact he.1
  subst hab
  have := h1.nodup hL
  simp at this

theorem find?_key_of_mem {α : Type} (key : α → Nat) (L : List α) (hnd : (L.map key).Nodup) (e : α) (he : e ∈ L) :
    L.find? (fun z => key z == key e) = some e := by
  induction L with
  | nil => simp at he
  | cons c L ih =>
    rw [map_cons, nodup_cons] at hnd
    rcases mem_cons.mp he with rfl | he'
    · simp
    · have hne : key c ≠ key e := fun h => hnd.1 (h ▸ mem_map_of_mem he')
      rw [find?_cons_of_neg (by simpa using hne)]
      exact ih hnd.2 he'

variable {K : Type} [Field K]

theorem axpy_comm (w l l' : Vec K) (u u' : K) : axpy (axpy w l u) l' u' = axpy (axpy w l' u') l u := by
  refine vec_ext_get _ _ (by simp) (fun i hi => ?_)
  have hi' : i < w.size := by simpa using hi
  rw [axpy_get _ _ _ _ (by simpa using hi'), axpy_get _ _ _ _ hi', axpy_get _ _ _ _ (by simpa using hi'),
    axpy_get _ _ _ _ hi']
  ring

theorem elim_append (A B : List (Nat × Vec K)) (w : Vec K) :
    elim (A ++ B) w = ((elim B (elim A w).1).1, (elim A w).2 ++ (elim B (elim A w).1).2) := by
  induction A generalizing w with
  | nil => simp [elim]
  | cons x A ih => simp [elim_cons, ih]

theorem elim_mult_at (A B : List (Nat × Vec K)) (x : Nat × Vec K) (w : Vec K) :
    (elim (A ++ x :: B) w).2[A.length]? = some ((elim A w).1.get x.1) := by
  rw [elim_append, elim_cons]
  simp [← elim_length A w]

theorem UnitLower.sublist {Ls Ls' : List (Nat × Vec K)} (h : UnitLower Ls) (hs : Ls' <+ Ls) : UnitLower Ls' := by
  rw [unitLower_iff] at h ⊢
  exact ⟨fun x hx => h.1 x (hs.subset hx), h.2.sublist hs⟩

/-- `UnitLower` forces pairwise distinct pivot rows (`L_k(p_k) = 1` but `L_k(p_k') = 0` for `k' < k`) -/
theorem UnitLower.nodup_pivots {Ls : List (Nat × Vec K)} (h : UnitLower Ls) : (Ls.map Prod.fst).Nodup := by
  rw [unitLower_iff] at h
  rw [List.Nodup, pairwise_map]
  refine (Pairwise.and_mem.mp h.2).imp ?_
  rintro a b ⟨ha, hb, hab⟩ heq
  have h1 := h.1 b hb
  rw [← heq, hab] at h1
  exact zero_ne_one h1

theorem UnitLower.nodup {Ls : List (Nat × Vec K)} (h : UnitLower Ls) : Ls.Nodup :=
  Nodup.of_map _ h.nodup_pivots

/-- If `x` and every column of `A` vanish at each other's pivot rows, `x` can be eliminated before `A` instead of after
it; the `Perm` of the zips says that every column keeps its multiplier. -/
theorem elim_move_front (A B : List (Nat × Vec K)) (x : Nat × Vec K) (w : Vec K)
    (h : ∀ y ∈ A, x.2.get y.1 = 0 ∧ y.2.get x.1 = 0) :
    (elim (A ++ x :: B) w).1 = (elim (x :: (A ++ B)) w).1 ∧
    ((A ++ x :: B).zip (elim (A ++ x :: B) w).2).Perm ((x :: (A ++ B)).zip (elim (x :: (A ++ B)) w).2) := by
  induction A generalizing w with
  | nil => exact ⟨rfl, Perm.refl _⟩
  | cons y A ih =>
    obtain ⟨hxy, hyx⟩ := h y mem_cons_self
    obtain ⟨ih1, ih2⟩ := ih (axpy w y.2 (w.get y.1)) (fun z hz => h z (mem_cons_of_mem _ hz))
    have e1 : (axpy w y.2 (w.get y.1)).get x.1 = w.get x.1 := axpy_get_of_zero _ _ _ _ hyx
    have e2 : (axpy w x.2 (w.get x.1)).get y.1 = w.get y.1 := axpy_get_of_zero _ _ _ _ hxy
    have e3 := axpy_comm w y.2 x.2 (w.get y.1) (w.get x.1)
    rw [elim_cons, e1, e3] at ih1 ih2
    simp only [cons_append]
    constructor
    · rw [elim_cons, ih1, elim_cons x, elim_cons y, e2]
    · rw [elim_cons y, elim_cons x, elim_cons y, e2]
      simp only [zip_cons_cons] at ih2 ⊢
      exact (Perm.cons _ ih2).trans (Perm.swap _ _ _)

/-- `elim_move_front` for one column moved over one column, the multipliers read by position. -/
theorem elim_swap (x y : Nat × Vec K) (B : List (Nat × Vec K)) (w : Vec K)
    (hxy : x.2.get y.1 = 0) (hyx : y.2.get x.1 = 0) :
    (elim (y :: x :: B) w).1 = (elim (x :: y :: B) w).1 ∧
    (elim (y :: x :: B) w).2.take 2 = [w.get y.1, w.get x.1] ∧
    (elim (x :: y :: B) w).2.take 2 = [w.get x.1, w.get y.1] ∧
    (elim (y :: x :: B) w).2.drop 2 = (elim (x :: y :: B) w).2.drop 2 := by
  have e1 : (axpy w y.2 (w.get y.1)).get x.1 = w.get x.1 := axpy_get_of_zero _ _ _ _ hyx
  have e2 : (axpy w x.2 (w.get x.1)).get y.1 = w.get y.1 := axpy_get_of_zero _ _ _ _ hxy
  have e3 := axpy_comm w y.2 x.2 (w.get y.1) (w.get x.1)
  simp only [elim_cons, e1, e2, e3, take_succ_cons, take_zero, drop_succ_cons, drop_zero, and_self]

/-- `Ls'` RESPECTS THE DEPENDENCIES of `Ls`: whenever column `a` occurs before column `b` in `Ls`
and `b`'s pivot row is in the structure of `a` (so that `a`'s update changes the multiplier of `b`),
`a` also occurs before `b` in `Ls'`.  (`[a, b] <+ l` says: `a` occurs before `b` in `l`.) -/
def DepRespecting (Ls Ls' : List (Nat × Vec K)) : Prop :=
  ∀ a b, [a, b] <+ Ls → a.2.get b.1 ≠ 0 → [a, b] <+ Ls'

theorem unitLower_of_depRespecting (Ls Ls' : List (Nat × Vec K))
    (hU : UnitLower Ls) (hp : Ls'.Perm Ls) (hd : DepRespecting Ls Ls') : UnitLower Ls' := by
  have hnd : Ls.Nodup := hU.nodup
  have hnd' : Ls'.Nodup := hp.nodup_iff.mpr hnd
  rw [unitLower_iff] at hU ⊢
  refine ⟨fun x hx => hU.1 x (hp.subset hx), pairwise_iff_forall_sublist.mpr ?_⟩
  intro a b hab
  by_contra hne
  have ha : a ∈ Ls := hp.subset (hab.subset (by simp))
  have hb : b ∈ Ls := hp.subset (hab.subset (by simp))
  have hneq : b ≠ a := by
    rintro rfl
    have := hab.nodup hnd'
    simp at this
  rcases pair_sublist_or Ls b a hb ha hneq with h | h
  · exact pair_sublist_antisymm Ls' hnd' a b hab (hd b a h hne)
  · exact hne (pairwise_iff_forall_sublist.mp hU.2 h)

/-- the converse of `unitLower_of_depRespecting`: the two formulations of "topological order" coincide -/
theorem depRespecting_of_unitLower (Ls Ls' : List (Nat × Vec K))
    (hU : UnitLower Ls) (hU' : UnitLower Ls') (hp : Ls'.Perm Ls) : DepRespecting Ls Ls' := by
  intro a b hab hne
  have ha : a ∈ Ls' := hp.symm.subset (hab.subset (by simp))
  have hb : b ∈ Ls' := hp.symm.subset (hab.subset (by simp))
  have hneq : a ≠ b := by
    rintro rfl
    have := hab.nodup hU.nodup
    simp at this
  rcases pair_sublist_or Ls' a b ha hb hneq with h | h
  · exact h
  · exact absurd (pairwise_iff_forall_sublist.mp ((unitLower_iff _).mp hU').2 h) hne

/-- the multiplier that the elimination in the order `Ls` computes for the column whose pivot row
is `p` (0 when there is no such column) -/
def multAt (Ls : List (Nat × Vec K)) (us : List K) (p : Nat) : K :=
  match (Ls.zip us).find? (fun e => e.1.1 == p) with
  | some e => e.2
  | none => 0

omit [Field K] in
theorem zip_fst_nodup {β : Type} (Ls : List (Nat × Vec K)) (us : List β) (h : (Ls.map Prod.fst).Nodup) :
    ((Ls.zip us).map (fun e => e.1.1)).Nodup := by
  induction Ls generalizing us with
  | nil => simp
  | cons x rest ih =>
    cases us with
    | nil => simp
    | cons u us =>
      rw [map_cons, nodup_cons] at h
      rw [zip_cons_cons, map_cons, nodup_cons]
      refine ⟨?_, ih us h.2⟩
      intro hmem
      obtain ⟨e, he, he1⟩ := mem_map.mp hmem
      exact h.1 (he1 ▸ mem_map_of_mem (of_mem_zip he).1)

theorem multAt_of_mem (Ls : List (Nat × Vec K)) (us : List K) (h : (Ls.map Prod.fst).Nodup)
    (x : Nat × Vec K) (u : K) (hx : (x, u) ∈ Ls.zip us) : multAt Ls us x.1 = u := by
  unfold multAt
  rw [find?_key_of_mem (fun e : (Nat × Vec K) × K => e.1.1) _ (zip_fst_nodup Ls us h) (x, u) hx]

theorem multAt_of_not_mem (Ls : List (Nat × Vec K)) (us : List K) (p : Nat) (h : p ∉ Ls.map Prod.fst) :
    multAt Ls us p = 0 := by
  unfold multAt
  rw [find?_eq_none.mpr]
  intro e he
  simp only [beq_iff_eq]
  rintro rfl
  exact h (mem_map_of_mem (of_mem_zip he).1)

theorem mem_zip_elim (Ls : List (Nat × Vec K)) (w : Vec K) (k : Nat) (hk : k < Ls.length) :
    (Ls[k], (elim Ls w).2.getD k 0) ∈ Ls.zip (elim Ls w).2 := by
  have hk2 : k < (elim Ls w).2.length := by rw [elim_length]; exact hk
  rw [getD_eq_getElem?_getD, getElem?_eq_getElem hk2, Option.getD_some]
  exact mem_iff_getElem.mpr ⟨k, by simp [hk, hk2], by simp⟩

theorem multAt_elim (Ls : List (Nat × Vec K)) (w : Vec K) (hnd : (Ls.map Prod.fst).Nodup) (k : Nat) (hk : k < Ls.length) :
    multAt Ls (elim Ls w).2 (Ls[k]).1 = (elim Ls w).2.getD k 0 :=
  multAt_of_mem Ls _ hnd _ _ (mem_zip_elim Ls w k hk)

theorem axpy_get_ne_zero (w l : Vec K) (u : K) (i : Nat) (h : (axpy w l u).get i ≠ 0) :
    w.get i ≠ 0 ∨ (u ≠ 0 ∧ l.get i ≠ 0) := by
  by_contra hc
  push Not at hc
  obtain ⟨h1, h2⟩ := hc
  by_cases hu : u = 0
  · rw [hu, axpy_zero] at h; exact h h1
  · rw [axpy_get_of_zero _ _ _ _ (h2 hu)] at h; exact h h1

/-- `Rp` is any set of columns that contains every column whose pivot row is a nonzero row of `w` and is closed under
the dependency edges `a → b` (`a` before `b`, `L_a(piv b) ≠ 0`): every column with a nonzero multiplier lies in it. -/
theorem elim_mult_support (Rp : Nat × Vec K → Prop) (Ls : List (Nat × Vec K)) (w : Vec K)
    (hroot : ∀ x ∈ Ls, w.get x.1 ≠ 0 → Rp x)
    (hedge : ∀ a b, [a, b] <+ Ls → Rp a → a.2.get b.1 ≠ 0 → Rp b) :
    ∀ e ∈ Ls.zip (elim Ls w).2, e.2 ≠ 0 → Rp e.1 := by
  induction Ls generalizing w with
  | nil => intro e he; simp at he
  | cons x rest ih =>
    intro e he hne
    rw [elim_cons, zip_cons_cons] at he
    rcases mem_cons.mp he with rfl | he
    · exact hroot x mem_cons_self hne
    · refine ih _ ?_ (fun a b hab => hedge a b (hab.cons _)) e he hne
      intro y hy hwy
      rcases axpy_get_ne_zero _ _ _ _ hwy with h | ⟨hu, hl⟩
      · exact hroot y (mem_cons_of_mem _ hy) h
      · exact hedge x y (Sublist.cons_cons _ (singleton_sublist.mpr hy)) (hroot x mem_cons_self hu) hl

/-- The hypothesis says that the multiplier of `x` is 0 (by `elim_mult_at`): leaving `x` out changes neither the
remaining vector nor any other multiplier. -/
theorem elim_skip_zero (A B : List (Nat × Vec K)) (x : Nat × Vec K) (w : Vec K)
    (h : (elim A w).1.get x.1 = 0) :
    (elim (A ++ x :: B) w).1 = (elim (A ++ B) w).1 ∧
    (elim (A ++ x :: B) w).2 = (elim A w).2 ++ 0 :: (elim B (elim A w).1).2 ∧
    (elim (A ++ B) w).2 = (elim A w).2 ++ (elim B (elim A w).1).2 := by
  simp [elim_append, elim_cons, h, axpy_zero]

/-- in particular a column that is not reached: the vector vanishes at its pivot row to begin with
and so do all the columns eliminated before it -/
theorem elim_skip_unreached (A B : List (Nat × Vec K)) (x : Nat × Vec K) (w : Vec K)
    (hw : w.get x.1 = 0) (hA : ∀ y ∈ A, y.2.get x.1 = 0) :
    (elim (A ++ x :: B) w).1 = (elim (A ++ B) w).1 ∧
    (elim (A ++ x :: B) w).2 = (elim A w).2 ++ 0 :: (elim B (elim A w).1).2 ∧
    (elim (A ++ B) w).2 = (elim A w).2 ++ (elim B (elim A w).1).2 :=
  elim_skip_zero A B x w (by rw [elim_get_of_zero A w x.1 hA, hw])

/-- `Ls` is the model's natural order.  The schedule `σ` visits the columns selected by `keep`, each once, is unit lower
in its own order (what respecting the dependencies amounts to, `unitLower_of_depRespecting`) and leaves out only columns
whose multiplier is 0.  One induction along the natural order: a head that is left out has multiplier 0 and its update
changes nothing; a head that is visited is independent of everything `σ` visits before it and moves to the front. -/
theorem elim_schedule (keep : Nat × Vec K → Bool) (Ls σ : List (Nat × Vec K)) (w : Vec K)
    (hU : UnitLower Ls) (hUσ : UnitLower σ) (hp : σ.Perm (Ls.filter keep))
    (h : ∀ e ∈ Ls.zip (elim Ls w).2, keep e.1 = false → e.2 = 0) :
    (elim σ w).1 = (elim Ls w).1 ∧
    (σ.zip (elim σ w).2).Perm ((Ls.zip (elim Ls w).2).filter (fun e => keep e.1)) := by
  induction Ls generalizing σ w with
  | nil => rw [hp.eq_nil]; exact ⟨rfl, Perm.refl _⟩
  | cons x rest ih =>
    rw [elim_cons] at h ⊢
    simp only [zip_cons_cons, mem_cons, forall_eq_or_imp] at h
    obtain ⟨hx, hrest⟩ := h
    have hUrest : UnitLower rest := hU.sublist (sublist_cons_self x rest)
    cases hk : keep x with
    | false =>
      rw [hx hk, axpy_zero] at hrest ⊢
      rw [filter_cons_of_neg (by simp [hk])] at hp
      simpa [filter_cons, hk] using ih σ w hUrest hUσ hp hrest
    | true =>
      rw [filter_cons_of_pos hk] at hp
      obtain ⟨A, B, rfl⟩ := append_of_mem (hp.symm.subset mem_cons_self)
      have hUAB : UnitLower (A ++ B) := hUσ.sublist (Sublist.append (Sublist.refl A) (sublist_cons_self x B))
      rw [unitLower_iff] at hU hUσ
      have hind : ∀ y ∈ A, x.2.get y.1 = 0 ∧ y.2.get x.1 = 0 := by
        intro y hy
        have h1 : x.2.get y.1 = 0 := (pairwise_append.mp hUσ.2).2.2 y hy x mem_cons_self
        refine ⟨h1, ?_⟩
        rcases mem_cons.mp (hp.subset (mem_append_left _ hy)) with rfl | hyr
        · rw [hU.1 y mem_cons_self] at h1; exact absurd h1 one_ne_zero
        · exact (pairwise_cons.mp hU.2).1 y (mem_filter.mp hyr).1
      obtain ⟨m1, m2⟩ := elim_move_front A B x w hind
      obtain ⟨i1, i2⟩ := ih (A ++ B) (axpy w x.2 (w.get x.1)) hUrest hUAB ((perm_middle.symm.trans hp).cons_inv) hrest
      refine ⟨by rw [m1, elim_cons, i1], m2.trans ?_⟩
      rw [elim_cons, zip_cons_cons, zip_cons_cons, filter_cons_of_pos (by exact hk)]
      exact Perm.cons _ i2

/-- the schedule that leaves nothing out -/
theorem elim_depRespecting (Ls Ls' : List (Nat × Vec K)) (w : Vec K)
    (hU : UnitLower Ls) (hp : Ls'.Perm Ls) (hd : DepRespecting Ls Ls') :
    (elim Ls' w).1 = (elim Ls w).1 ∧ (Ls'.zip (elim Ls' w).2).Perm (Ls.zip (elim Ls w).2) := by
  simpa using elim_schedule (fun _ => true) Ls Ls' w hU (unitLower_of_depRespecting Ls Ls' hU hp hd) (by simpa using hp)
    (by simp)

/-- `elim_schedule` read by pivot row, for EVERY row `p`: 0 for the columns that were not visited -/
theorem multAt_schedule (keep : Nat × Vec K → Bool) (Ls σ : List (Nat × Vec K)) (w : Vec K)
    (hU : UnitLower Ls) (hUσ : UnitLower σ) (hp : σ.Perm (Ls.filter keep))
    (h : ∀ e ∈ Ls.zip (elim Ls w).2, keep e.1 = false → e.2 = 0) (p : Nat) :
    multAt σ (elim σ w).2 p = multAt Ls (elim Ls w).2 p := by
  have hz := (elim_schedule keep Ls σ w hU hUσ hp h).2
  by_cases hmem : p ∈ Ls.map Prod.fst
  · obtain ⟨x, hx, rfl⟩ := mem_map.mp hmem
    obtain ⟨k, hk, rfl⟩ := getElem_of_mem hx
    have hmz := mem_zip_elim Ls w k hk
    rw [multAt_of_mem Ls _ hU.nodup_pivots _ _ hmz]
    cases hkeep : keep Ls[k] with
    | true => exact multAt_of_mem σ _ hUσ.nodup_pivots _ _ (hz.symm.subset (mem_filter.mpr ⟨hmz, hkeep⟩))
    | false =>
      -- the column was left out: its multiplier is 0, and no visited column has its pivot row
      rw [show (elim Ls w).2.getD k 0 = 0 from h _ hmz hkeep]
      apply multAt_of_not_mem
      intro hm
      obtain ⟨y, hy, hy1⟩ := mem_map.mp hm
      have hyf := mem_filter.mp (hp.subset hy)
      rw [inj_on_of_nodup_map hU.nodup_pivots hyf.1 (getElem_mem hk) hy1, hkeep] at hyf
      exact Bool.false_ne_true hyf.2
  · rw [multAt_of_not_mem Ls _ p hmem, multAt_of_not_mem σ _ p]
    intro hm
    obtain ⟨y, hy, rfl⟩ := mem_map.mp hm
    exact hmem (mem_map_of_mem (mem_filter.mp (hp.subset hy)).1)

theorem multAt_depRespecting (Ls Ls' : List (Nat × Vec K)) (w : Vec K)
    (hU : UnitLower Ls) (hp : Ls'.Perm Ls) (hd : DepRespecting Ls Ls') (p : Nat) :
    multAt Ls' (elim Ls' w).2 p = multAt Ls (elim Ls w).2 p :=
  multAt_schedule (fun _ => true) Ls Ls' w hU (unitLower_of_depRespecting Ls Ls' hU hp hd) (by simpa using hp) (by simp) p

end Slu.LU
