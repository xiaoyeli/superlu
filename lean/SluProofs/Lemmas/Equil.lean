import Slu.Model.Equil
import SluProofs.Lemmas.Fold
namespace Slu.Equil
open Slu

variable {K : Type} [Mag K Rat]

/-- the clamp of dgsequ.c:163 (rows) and :197 (columns) -/
def clamp (sml big x : Rat) : Rat := min (max x sml) big

theorem rowMax_eq (es : List (Entry K)) (i : Nat) :
    rowMax es i = foldMaxIf (fun e : Entry K => e.row = i) (fun e => Mag.abs1 e.val) 0 es := by
  simp only [rowMax, foldMaxIf, smax_eq_max]

theorem colMax_eq (es : List (Entry K)) (r : Nat → Rat) (j : Nat) :
    colMax es r j = foldMaxIf (fun e : Entry K => e.col = j) (fun e => Mag.abs1 e.val * r e.row) 0 es := by
  simp only [colMax, foldMaxIf, smax_eq_max]

theorem invClamp_eq (sml big x : Rat) : invClamp sml big x = 1 / clamp sml big x := by
  simp only [invClamp, clamp, smax_eq_max, smin_eq_min]

theorem clamp_pos {sml big : Rat} (h0 : 0 < sml) (h1 : sml ≤ big) (x : Rat) : 0 < clamp sml big x := by
  unfold clamp
  exact lt_min (lt_of_lt_of_le h0 (le_max_right _ _)) (lt_of_lt_of_le h0 h1)

theorem clamp_bounds {sml big : Rat} (h1 : sml ≤ big) (x : Rat) :
    sml ≤ clamp sml big x ∧ clamp sml big x ≤ big := by
  unfold clamp
  exact ⟨le_min (le_max_right _ _) h1, min_le_right _ _⟩

theorem clamp_id {sml big x : Rat} (h1 : sml ≤ x) (h2 : x ≤ big) : clamp sml big x = x := by
  unfold clamp; rw [max_eq_left h1, min_eq_left h2]

theorem invClamp_mul_clamp {sml big : Rat} (h0 : 0 < sml) (h1 : sml ≤ big) (x : Rat) :
    invClamp sml big x * clamp sml big x = 1 := by
  rw [invClamp_eq, one_div, inv_mul_cancel₀ (clamp_pos h0 h1 x).ne']

theorem invClamp_range {sml big : Rat} (h0 : 0 < sml) (h1 : sml ≤ big) (x : Rat) :
    0 < invClamp sml big x ∧ 1 / big ≤ invClamp sml big x ∧ invClamp sml big x ≤ 1 / sml := by
  rw [invClamp_eq]
  have hp := clamp_pos h0 h1 x
  obtain ⟨hl, hu⟩ := clamp_bounds h1 x
  refine ⟨by positivity, ?_, ?_⟩
  · exact one_div_le_one_div_of_le hp hu
  · exact one_div_le_one_div_of_le h0 hl

theorem rowMax_spec (es : List (Entry K)) (i : Nat) :
    (∀ e ∈ es, e.row = i → Mag.abs1 e.val ≤ rowMax es i) ∧
    (rowMax es i = 0 ∨ ∃ e ∈ es, e.row = i ∧ Mag.abs1 e.val = rowMax es i) := by
  rw [rowMax_eq]
  exact ⟨fun e he hr => foldMaxIf_ge_mem _ _ 0 es e he hr, foldMaxIf_attained _ _ 0 es⟩

theorem colMax_spec (es : List (Entry K)) (r : Nat → Rat) (j : Nat) :
    (∀ e ∈ es, e.col = j → Mag.abs1 e.val * r e.row ≤ colMax es r j) ∧
    (colMax es r j = 0 ∨ ∃ e ∈ es, e.col = j ∧ Mag.abs1 e.val * r e.row = colMax es r j) := by
  rw [colMax_eq]
  exact ⟨fun e he hr => foldMaxIf_ge_mem _ _ 0 es e he hr, foldMaxIf_attained _ _ 0 es⟩

theorem rowMax_nonneg (es : List (Entry K)) (i : Nat) : 0 ≤ rowMax es i :=
  rowMax_eq es i ▸ foldMaxIf_ge_init _ _ 0 es

theorem colMax_nonneg (es : List (Entry K)) (r : Nat → Rat) (j : Nat) : 0 ≤ colMax es r j :=
  colMax_eq es r j ▸ foldMaxIf_ge_init _ _ 0 es

theorem find_first_zero (f : Nat → Rat) (k : Nat) (h : ∃ i < k, f i = 0) :
    ∃ i, (List.range k).find? (fun i => f i == 0) = some i ∧ i < k ∧ f i = 0 ∧ ∀ i' < i, f i' ≠ 0 := by
  obtain ⟨i0, hi0, hz⟩ := h
  cases hfind : (List.range k).find? (fun i => f i == 0) with
  | none =>
    have := List.find?_range_eq_none.mp hfind i0 hi0
    rw [hz] at this; exact absurd this (by decide)
  | some i =>
    obtain ⟨hzi, hi, hfirst⟩ := List.find?_range_eq_some.mp hfind
    refine ⟨i, rfl, List.mem_range.mp hi, beq_iff_eq.mp hzi, fun i' hi' h0 => ?_⟩
    have := hfirst i' hi'
    rw [h0] at this; exact absurd this (by decide)

/-- the row scale factors `R` (dgsequ.c:163) and the column maxima of `diag(R) A` (dgsequ.c:173-177) -/
abbrev rowScale (es : List (Entry K)) (sml big : Rat) : Nat → Rat := fun i => invClamp sml big (rowMax es i)
abbrev scaledColMax (es : List (Entry K)) (sml big : Rat) : Nat → Rat := colMax es (rowScale es sml big)

section paths
variable {m n : Nat} {es : List (Entry K)} {sml big : Rat} (hm : m ≠ 0) (hn : n ≠ 0)
include hm hn

theorem gsequ_of_row_zero (h : scanMin big (rowMax es) m = 0) :
    gsequ m n es sml big =
      { info := ((List.range m).find? (fun i => rowMax es i == 0)).getD 0 + 1, r := some (rowMax es), c := none,
        rowcnd := none, colcnd := none, amax := some (scanMax (rowMax es) m) } := by
  simp only [gsequ, hm, hn, or_self, if_false, h, beq_self_eq_true, if_true]

theorem gsequ_of_col_zero (h : scanMin big (rowMax es) m ≠ 0) (hc : scanMin big (scaledColMax es sml big) n = 0) :
    gsequ m n es sml big =
      { info := m + ((List.range n).find? (fun j => scaledColMax es sml big j == 0)).getD 0 + 1,
        r := some (rowScale es sml big), c := some (scaledColMax es sml big),
        rowcnd := some (max (scanMin big (rowMax es) m) sml / min (scanMax (rowMax es) m) big),
        colcnd := none, amax := some (scanMax (rowMax es) m) } := by
  simp only [gsequ, hm, hn, or_self, if_false, beq_eq_false_iff_ne.mpr h, Bool.false_eq_true, hc, beq_self_eq_true, if_true,
    smax_eq_max, smin_eq_min]

theorem gsequ_ok (h : scanMin big (rowMax es) m ≠ 0) (hc : scanMin big (scaledColMax es sml big) n ≠ 0) :
    gsequ m n es sml big =
      { info := 0, r := some (rowScale es sml big), c := some fun j => invClamp sml big (scaledColMax es sml big j),
        rowcnd := some (max (scanMin big (rowMax es) m) sml / min (scanMax (rowMax es) m) big),
        colcnd := some (max (scanMin big (scaledColMax es sml big) n) sml / min (scanMax (scaledColMax es sml big) n) big),
        amax := some (scanMax (rowMax es) m) } := by
  simp only [gsequ, hm, hn, or_self, if_false, beq_eq_false_iff_ne.mpr h, beq_eq_false_iff_ne.mpr hc, Bool.false_eq_true,
    smax_eq_max, smin_eq_min]

theorem gsequ_of_info0 (h : (gsequ m n es sml big).info = 0) :
    scanMin big (rowMax es) m ≠ 0 ∧ scanMin big (scaledColMax es sml big) n ≠ 0 := by
  by_cases h1 : scanMin big (rowMax es) m = 0
  · rw [gsequ_of_row_zero hm hn h1] at h; exact absurd h (Nat.succ_ne_zero _)
  · refine ⟨h1, fun h2 => ?_⟩
    rw [gsequ_of_col_zero hm hn h1 h2] at h; exact absurd h (Nat.succ_ne_zero _)

end paths

end Slu.Equil
