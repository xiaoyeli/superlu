import Slu.Model.Order
import SluProofs.Lemmas.ArrayBasic
import SluProofs.Lemmas.Order
/-
Liu's elimination-tree algorithm (`liu` / `coletree` / `symetree`, with the concrete union-find and
path halving of sp_coletree.c) computes the tree defined by the elimination game (`etreeOfGraph` /
`etreeDef`).  Both return, for every vertex `v`, the least later vertex joined to `v` by a walk through
vertices `< v` (`IsEtree`: `liu_least`, `etreeOfGraph_walk_least`); two such arrays are equal as soon as the two graphs
have the same walks of that kind (`IsEtree.unique`).  The game reaches `IsEtree` directly: its matrix holds the walks
through eliminated vertices.  Liu's algorithm reaches it through what it builds, a certified forest (`Cert`,
`liu_cert`): heap ordered, the later end of every edge an ancestor of the earlier end, every `parent[v] = p` justified
by an edge from `p` into the subtree of `v`; such a forest is the elimination tree (`Cert.isEtree`), and in it a walk
through smaller vertices makes a descendant (`Cert.desc_of_walk`).  The union-find classes are the trees of `parent[]`
built so far (`Core`), so the partition is never compared with the components of the graph.  Of two columns that share
a row the later is an ancestor of the earlier (`ShareDesc`, `coletree_shareDesc`), also after relabelling by a postorder
(`shareDesc_relabel`, `spPreorder_spec`).
-/
namespace Slu.Order

/-- fold invariant that knows the prefix already consumed -/
theorem foldl_prefix_inv {α β : Type} (f : β → α → β) (L : List α) :
    ∀ (P : List α → β → Prop) (b : β), P [] b →
      (∀ l x s, x ∈ L → P l s → P (l ++ [x]) (f s x)) → P L (L.foldl f b) := by
  induction L with
  | nil => intro P b h0 _; exact h0
  | cons x xs ih =>
    intro P b h0 hstep
    rw [List.foldl_cons]
    apply ih (fun l s => P (x :: l) s)
    · exact hstep [] x b List.mem_cons_self h0
    · intro l y s hy hp
      exact hstep (x :: l) y s (List.mem_cons_of_mem _ hy) hp

/-- `T E k a b`: there is a walk `a … b` in the graph `E` (at least one edge) all of whose interior
vertices are `< k` -/
inductive T (E : Nat → Nat → Prop) (k : Nat) : Nat → Nat → Prop
  | edge {a b : Nat} : E a b → T E k a b
  | via {a w b : Nat} : T E k a w → w < k → T E k w b → T E k a b

section
variable {E : Nat → Nat → Prop} {k a b : Nat}

theorem T.mono {k' : Nat} (hk : k ≤ k') (h : T E k a b) :
    T E k' a b := by
  induction h with
  | edge e => exact T.edge e
  | via _ hw _ ih1 ih2 => exact T.via ih1 (Nat.lt_of_lt_of_le hw hk) ih2

theorem T.map {E' : Nat → Nat → Prop} (hE : ∀ a b, E a b → E' a b) (h : T E k a b) : T E' k a b := by
  induction h with
  | edge e => exact T.edge (hE _ _ e)
  | via _ hw _ ih1 ih2 => exact T.via ih1 hw ih2

theorem T.congr {E' : Nat → Nat → Prop} (hE : ∀ a b, E a b ↔ E' a b) : T E k a b ↔ T E' k a b :=
  ⟨T.map fun a b => (hE a b).mp, T.map fun a b => (hE a b).mpr⟩

theorem T.symm (hE : ∀ a b, E a b → E b a) (h : T E k a b) : T E k b a := by
  induction h with
  | edge e => exact T.edge (hE _ _ e)
  | via _ hw _ ih1 ih2 => exact T.via ih2 hw ih1

/-- cut a walk at the vertex `v` -/
theorem T.split {v : Nat} (h : T E (v + 1) a b) :
    T E v a b ∨ ((a = v ∨ T E v a v) ∧ (v = b ∨ T E v v b)) := by
  induction h with
  | edge e => exact Or.inl (T.edge e)
  | @via a w b _ hw _ ih1 ih2 =>
    by_cases e : w = v
    · subst e
      exact Or.inr ⟨ih1.elim Or.inr And.left, ih2.elim Or.inr And.right⟩
    · have hwv : w < v := by omega
      rcases ih1 with h1 | ⟨A, h1⟩
      · rcases ih2 with h2 | ⟨h2, B⟩
        · exact Or.inl (T.via h1 hwv h2)
        · exact Or.inr ⟨Or.inr (T.via h1 hwv (h2.resolve_left e)), B⟩
      · have h1 := h1.resolve_left (Ne.symm e)
        rcases ih2 with h2 | ⟨_, B⟩
        · exact Or.inr ⟨A, Or.inr (T.via h1 hwv h2)⟩
        · exact Or.inr ⟨A, B⟩

end

/-- not used below (`Core` never compares the union-find classes with the components of the graph): if `v` is the
largest vertex `< c` of its component, a walk into that component with interior `< c` has its interior `≤ v` -/
theorem T.shrink {E : Nat → Nat → Prop} (hE : ∀ a b, E a b → E b a) {c v : Nat}
    (hmax : ∀ j, j < c → T E c v j → j ≤ v) {a b : Nat} (h : T E c a b) :
    (b = v ∨ T E c v b) → b < c → T E (v + 1) a b := by
  induction h with
  | edge e => intro _ _; exact T.edge e
  | @via a w b _ hw h2 ih1 ih2 =>
    intro hb hbc
    have hvw : T E c v w := by
      rcases hb with hb | hb
      · rw [← hb]; exact T.symm hE h2
      · exact T.via hb hbc (T.symm hE h2)
    exact T.via (ih1 (Or.inr hvw) hw) (Nat.lt_succ_of_le (hmax w hw hvw)) (ih2 hb hbc)

/-- `x` is the least `i` in `(v, n)` with `P i`, or `n` if there is none -/
def Least (P : Nat → Prop) (n v x : Nat) : Prop :=
  (x = n ∧ ∀ i, v < i → i < n → ¬ P i) ∨ (v < x ∧ x < n ∧ P x ∧ ∀ i, v < i → i < x → ¬ P i)

/-- `et` is the elimination tree of the graph `E` on the vertices `0..n-1`: `et[v]` is the least later
vertex joined to `v` by a walk whose interior vertices are `< v`, and `n` if there is none.  This is the
characterisation `liu_least` proves of Liu's algorithm and `etreeOfGraph_walk_least` of the elimination game. -/
def IsEtree (E : Nat → Nat → Prop) (n : Nat) (et : Array Nat) : Prop :=
  ∀ v, v < n → Least (fun i => T E v i v) n v (et.getD v 0)

theorem Least.unique {P P' : Nat → Prop} {n v x y : Nat} (hP : ∀ i, v < i → i < n → (P i ↔ P' i))
    (hx : Least P n v x) (hy : Least P' n v y) : x = y := by
  rcases hx with ⟨ex, hx⟩ | ⟨x1, x2, x3, x4⟩
  · rcases hy with ⟨ey, _⟩ | ⟨y1, y2, y3, _⟩
    · rw [ex, ey]
    · exact absurd ((hP y y1 y2).mpr y3) (hx y y1 y2)
  · rcases hy with ⟨_, hy⟩ | ⟨y1, y2, y3, y4⟩
    · exact absurd ((hP x x1 x2).mp x3) (hy x x1 x2)
    · rcases Nat.lt_trichotomy x y with h | h | h
      · exact absurd ((hP x x1 x2).mp x3) (y4 x x1 h)
      · exact h
      · exact absurd ((hP y y1 y2).mpr y3) (x4 y y1 h)

theorem least_of_find? {n v : Nat} {p : Nat → Bool} {P : Nat → Prop}
    (hp : ∀ x, x < n → (p x = true ↔ v < x ∧ P x)) : Least P n v (((List.range n).find? p).getD n) := by
  rcases find?_range_getD rfl with ⟨h1, h2⟩ | ⟨h1, h2, h3⟩
  · exact Or.inl ⟨h1, fun i hvi hin hP =>
      Bool.false_ne_true ((h2 i hin).symm.trans ((hp i hin).mpr ⟨hvi, hP⟩))⟩
  · exact Or.inr ⟨((hp _ h1).mp h2).1, h1, ((hp _ h1).mp h2).2, fun i hvi hix hP =>
      Bool.false_ne_true ((h3 i hix).symm.trans ((hp i (Nat.lt_trans hix h1)).mpr ⟨hvi, hP⟩))⟩

/-- the elimination tree depends on the graph through its walks only; size and `IsEtree` come as a pair so that
`liu_least` and `etreeDef_isEtree` can be passed whole -/
theorem IsEtree.unique {E E' : Nat → Nat → Prop} {n : Nat} {a b : Array Nat} (ha : a.size = n ∧ IsEtree E n a)
    (hb : b.size = n ∧ IsEtree E' n b) (h : ∀ v i, v < i → i < n → (T E v i v ↔ T E' v i v)) : a = b :=
  Slu.ext_getD a b 0 (ha.1.trans hb.1.symm) fun v hv =>
    Least.unique (h v) (ha.2 v (ha.1 ▸ hv)) (hb.2 v (ha.1 ▸ hv))

theorem IsEtree.heap {E : Nat → Nat → Prop} {n : Nat} {et : Array Nat} (h : IsEtree E n et) : Heap n et :=
  fun j hj => (h j hj).imp And.left fun h => ⟨h.1, h.2.1⟩

/-- a heap-ordered forest in which every edge of the graph joins a vertex to an ancestor and every tree edge
`v → et[v]` is justified by an edge of the graph from `et[v]` into the subtree of `v` -/
structure Cert (E : Nat → Nat → Prop) (n : Nat) (et : Array Nat) : Prop where
  heap : Heap n et
  anc : ∀ a b, E a b → a < b → Desc n et a b
  just : ∀ v, v < n → et.getD v 0 < n → ∃ u, Desc n et u v ∧ E u (et.getD v 0)

section
variable {E : Nat → Nat → Prop} {n : Nat} {et : Array Nat}

/-- the ends of a walk have a common ancestor no later than the latest of the two ends and the interior vertices -/
theorem Cert.common (h : Cert E n et) (hE : ∀ a b, E a b → E b a) {k x y : Nat} (w : T E k x y) :
    ∃ m, Desc n et x m ∧ Desc n et y m ∧ (m ≤ x ∨ m ≤ y ∨ m < k) := by
  induction w with
  | @edge a b e =>
    rcases Nat.lt_trichotomy a b with hab | rfl | hab
    · exact ⟨b, h.anc a b e hab, Desc.refl b, Or.inr (Or.inl (Nat.le_refl _))⟩
    · exact ⟨a, Desc.refl a, Desc.refl a, Or.inl (Nat.le_refl _)⟩
    · exact ⟨a, Desc.refl a, h.anc b a (hE _ _ e) hab, Or.inl (Nat.le_refl _)⟩
  | @via a w b _ hw _ ih1 ih2 =>
    obtain ⟨m1, a1, w1, b1⟩ := ih1
    obtain ⟨m2, w2, b2, c2⟩ := ih2
    -- the two ancestors of `w` lie on one chain: the later one serves; where it is bounded by `w`, it is `< k` like `w`
    rcases Nat.le_total m1 m2 with hm | hm
    · exact ⟨m2, desc_trans a1 (desc_chain h.heap w1 w2 hm), b2, by omega⟩
    · exact ⟨m1, a1, desc_trans b2 (desc_chain h.heap w2 w1 hm), by omega⟩

/-- the subtree of `b` contains whatever reaches `b` through smaller vertices -/
theorem Cert.desc_of_walk (h : Cert E n et) (hE : ∀ a b, E a b → E b a) {a b : Nat} (hab : a < b)
    (hw : T E b a b) : Desc n et a b := by
  obtain ⟨m, h1, h2, h3⟩ := h.common hE hw
  have := desc_le_of_heap h.heap h2
  obtain rfl : m = b := by omega
  exact h1

/-- every vertex reaches its parent through smaller vertices: the edge that justifies `v → et[v]` starts at some `w` in
the subtree of `v`, and the path `w → … → v` in the tree is made of such walks -/
theorem Cert.up (h : Cert E n et) (hE : ∀ a b, E a b → E b a) {v : Nat} (hv : v < n) (hp : et.getD v 0 < n) :
    T E v v (et.getD v 0) := by
  induction v using Nat.strong_induction_on with
  | _ v ih =>
    obtain ⟨w, hw, he⟩ := h.just v hv hp
    have key : w = v ∨ T E v v w := by
      clear he hp
      induction hw with
      | refl _ => exact Or.inl rfl
      | @step w v hwn hd ih' =>
        have hpv := desc_le_of_heap h.heap hd
        have hwp := (h.heap.lt hwn).1
        have up := T.symm hE (T.mono (Nat.le_trans (Nat.le_of_lt hwp) hpv) (ih w (by omega) hwn (by omega)))
        by_cases e : et.getD w 0 = v
        · exact Or.inr (e ▸ up)
        · exact Or.inr (T.via ((ih' ih hv).resolve_left e) (Nat.lt_of_le_of_ne hpv e) up)
    by_cases e : w = v
    · exact T.edge (e ▸ he)
    · exact T.via (key.resolve_left e) (Nat.lt_of_le_of_ne (desc_le_of_heap h.heap hw) e) (T.edge he)

theorem Cert.isEtree (h : Cert E n et) (hE : ∀ a b, E a b → E b a) : IsEtree E n et := by
  intro v hv
  -- a later vertex that reaches `v` through smaller ones is an ancestor of `v`
  have hanc : ∀ i, v < i → T E v i v → Desc n et v i := fun i hvi ht =>
    h.desc_of_walk hE hvi (T.symm hE (T.mono (Nat.le_of_lt hvi) ht))
  rcases h.heap v hv with e | ⟨h1, h2⟩
  · exact Or.inl ⟨e, fun i hvi hin ht => Nat.ne_of_lt hvi (desc_top (hanc i hvi ht) (Nat.le_of_eq e.symm) hin)⟩
  · exact Or.inr ⟨h1, h2, T.symm hE (h.up hE hv h2), fun i hvi hip ht =>
      Nat.not_le.mpr hip (desc_le_of_heap h.heap (desc_parent (hanc i hvi ht) (Nat.ne_of_lt hvi)).2)⟩

end

/-- `pp` restricted to the nodes `< k` is a forest whose trees are the classes of `rep`; `dep` is a
ghost height that decreases strictly towards the root (acyclicity). -/
structure UF (pp : Array Nat) (k : Nat) (rep dep : Nat → Nat) : Prop where
  size : k ≤ pp.size
  lt : ∀ i, i < k → pp.getD i 0 < k
  root : ∀ i, i < k → pp.getD i 0 = i → rep i = i
  step : ∀ i, i < k → pp.getD i 0 ≠ i → rep (pp.getD i 0) = rep i ∧ dep (pp.getD i 0) < dep i

section
variable {pp : Array Nat} {k : Nat} {rep dep : Nat → Nat}

theorem UF.rep_root (h : UF pp k rep dep) (i : Nat) (hi : i < k) :
    rep i < k ∧ pp.getD (rep i) 0 = rep i ∧ rep (rep i) = rep i := by
  induction hd : dep i using Nat.strong_induction_on generalizing i with
  | _ d ih =>
    by_cases hr : pp.getD i 0 = i
    · have := h.root i hi hr
      rw [this]; exact ⟨hi, hr, this⟩
    · obtain ⟨h1, h2⟩ := h.step i hi hr
      have := ih (dep (pp.getD i 0)) (hd ▸ h2) (pp.getD i 0) (h.lt i hi) rfl
      rwa [h1] at this

/-- redirecting the pointer of `i` to `v` keeps a forest, under new names `rep'` and heights `dep'` that
respect the old classes and put `v` above `i` -/
theorem UF.set {rep' dep' : Nat → Nat} (h : UF pp k rep dep) {i v : Nat}
    (hi : i < k) (hv : v < k) (hroot : ∀ x, x ≠ i → rep x = x → rep' x = x)
    (hcls : ∀ x y, rep x = rep y → dep x < dep y → rep' x = rep' y ∧ dep' x < dep' y)
    (hiv : rep' v = rep' i ∧ dep' v < dep' i) : UF (pp.setIfInBounds i v) k rep' dep' := by
  have hvi : v ≠ i := fun e => by rw [e] at hiv; omega
  have hr : ∀ x, (pp.setIfInBounds i v).getD x 0 = if x = i then v else pp.getD x 0 := by
    intro x
    rw [Slu.getD_setIfInBounds]
    by_cases e : x = i
    · rw [if_pos ⟨e.symm, Nat.lt_of_lt_of_le hi h.size⟩, if_pos e]
    · rw [if_neg fun c => e c.1.symm, if_neg e]
  refine ⟨by simpa using h.size, fun x hx => ?_, fun x hx => ?_, fun x hx => ?_⟩ <;> rw [hr x] <;> split
  · exact hv
  · exact h.lt x hx
  · rename_i e; intro e'; exact absurd (e ▸ e') hvi
  · rename_i e; exact fun e' => hroot x e (h.root x hx e')
  · rename_i e; exact fun _ => e ▸ hiv
  · exact fun e' => hcls _ _ (h.step x hx e').1 (h.step x hx e').2

/-- the loop of `find`: `seen` lists the nodes already visited (all above the current one), which is
what bounds the number of iterations by the number of nodes -/
theorem findLoop_spec (fuel : Nat) (pp : Array Nat) (i : Nat) (seen : List Nat) (h : UF pp k rep dep) (hi : i < k)
    (hn : seen.Nodup) (hs : ∀ x ∈ seen, x < k ∧ dep i < dep x) (hl : k ≤ seen.length + fuel) :
    UF (findLoop fuel pp i).1 k rep dep ∧ (findLoop fuel pp i).2 = rep i ∧
      (findLoop fuel pp i).1.size = pp.size := by
  fun_induction findLoop fuel pp i generalizing seen with
  | case1 pp i =>
    have := Slu.nodup_lt_length (l := i :: seen)
      (List.nodup_cons.mpr ⟨fun hm => Nat.lt_irrefl _ (hs i hm).2, hn⟩)
      (fun x hx => (List.mem_cons.mp hx).elim (fun e => e ▸ hi) fun hx => (hs x hx).1)
    rw [List.length_cons] at this
    omega
  | case2 f pp i p gp hgp =>
    refine ⟨h, ?_, rfl⟩
    by_cases hr : p = i
    · exact hr.trans (h.root i hi hr).symm
    · exact (h.root _ (h.lt i hi) hgp).symm.trans (h.step i hi hr).1
  | case3 f pp i p gp hgp ih =>
    have hp : p < k := h.lt i hi
    have hr : p ≠ i := fun e => hgp (by dsimp only [gp]; rw [e]; exact e)
    obtain ⟨e1, d1⟩ := h.step i hi hr
    obtain ⟨e2, d2⟩ := h.step _ hp hgp
    have hgk : gp < k := h.lt _ hp
    have := ih (i :: seen)
      (h.set hi hgk (fun _ _ e => e) (fun _ _ e d => ⟨e, d⟩) ⟨e2.trans e1, Nat.lt_trans d2 d1⟩) hgk
      (List.nodup_cons.mpr ⟨fun hm => Nat.lt_irrefl _ (hs i hm).2, hn⟩)
      (fun x hx => (List.mem_cons.mp hx).elim (fun e => by rw [e]; exact ⟨hi, Nat.lt_trans d2 d1⟩)
        fun hx => ⟨(hs x hx).1, Nat.lt_trans (Nat.lt_trans d2 d1) (hs x hx).2⟩)
      (by rw [List.length_cons]; omega)
    exact ⟨this.1, by rw [this.2.1, e2, e1], by rw [this.2.2, Array.size_setIfInBounds]⟩

theorem find_spec (h : UF pp k rep dep) (i : Nat) (hi : i < k) :
    UF (find pp i).1 k rep dep ∧ (find pp i).2 = rep i ∧ (find pp i).1.size = pp.size :=
  findLoop_spec pp.size pp i [] h hi List.nodup_nil (fun _ hx => absurd hx List.not_mem_nil)
    (by simpa using h.size)

theorem UF.link (h : UF pp k rep dep) (s t : Nat) (hs : s < k) (ht : t < k) (hrs : rep s = s)
    (hrt : rep t = t) (hne : s ≠ t) :
    UF (pp.setIfInBounds s t) k (fun x => if rep x = s then t else rep x)
      (fun x => if rep x = s then dep x + dep t + 1 else dep x) := by
  refine h.set hs ht (fun x hx e => ?_) (fun x y e d => ?_) ?_
  · rw [e, if_neg hx]
  · rw [e]; split <;> exact ⟨rfl, by omega⟩
  · rw [hrs, hrt, if_pos rfl, if_neg (Ne.symm hne), if_pos rfl, if_neg (Ne.symm hne)]
    exact ⟨rfl, by omega⟩

/-- `make_set`: the next node becomes a tree of its own -/
theorem UF.extend (h : UF pp k rep dep) (hk : k < pp.size) :
    UF (pp.setIfInBounds k k) (k + 1) (fun x => if x = k then k else rep x) dep := by
  have hr : ∀ x, x < k + 1 → (x = k ∧ (pp.setIfInBounds k k).getD x 0 = k) ∨
      (x < k ∧ (pp.setIfInBounds k k).getD x 0 = pp.getD x 0) := by
    intro x hx
    by_cases e : x = k
    · exact Or.inl ⟨e, e ▸ Slu.getD_setIfInBounds_self pp k 0 hk⟩
    · exact Or.inr ⟨Nat.lt_of_le_of_ne (Nat.le_of_lt_succ hx) e, Slu.getD_setIfInBounds_ne pp k 0 (Ne.symm e)⟩
  refine ⟨by rw [Array.size_setIfInBounds]; exact hk, fun x hx => ?_, fun x hx => ?_, fun x hx => ?_⟩ <;>
    rcases hr x hx with ⟨e, r⟩ | ⟨e, r⟩ <;> rw [r]
  · exact Nat.lt_succ_self k
  · exact Nat.lt_succ_of_lt (h.lt x e)
  · exact fun _ => (if_pos e).trans e.symm
  · exact fun e' => by rw [if_neg (Nat.ne_of_lt e)]; exact h.root x e e'
  · exact fun e' => absurd e.symm e'
  · intro e'
    rw [if_neg (Nat.ne_of_lt (h.lt x e)), if_neg (Nat.ne_of_lt e)]
    exact h.step x e e'

end

/-- the graph Liu's algorithm works on: `a — b` when the smaller is an entry of the larger's list -/
def SE (nbrs : Nat → List Nat) (nc : Nat) (a b : Nat) : Prop :=
  (b < a ∧ a < nc ∧ b ∈ nbrs a) ∨ (a < b ∧ b < nc ∧ a ∈ nbrs b)

theorem SE.symm {nbrs : Nat → List Nat} {nc : Nat} (a b : Nat) (h : SE nbrs nc a b) : SE nbrs nc b a :=
  Or.symm h

/-- the edges Liu's algorithm has seen when it is in column `c` and has handled the entries `l` of that
column: every `a → b` with `b ∈ nbrs a`, `b < a < c`, and `c → b` for `b ∈ l`, `b < c` -/
def Lk (nbrs : Nat → List Nat) (c : Nat) (l : List Nat) (a b : Nat) : Prop :=
  b < a ∧ ((a < c ∧ b ∈ nbrs a) ∨ (a = c ∧ b ∈ l))

section
variable {nbrs : Nat → List Nat} {nc c : Nat} {l : List Nat}

theorem Lk_snoc {a b u : Nat} (h : Lk nbrs c (l ++ [u]) a b) : Lk nbrs c l a b ∨ (u < c ∧ a = c ∧ b = u) := by
  obtain ⟨h1, h2 | ⟨h2, h3⟩⟩ := h
  · exact Or.inl ⟨h1, Or.inl h2⟩
  · rcases List.mem_append.mp h3 with h3 | h3
    · exact Or.inl ⟨h1, Or.inr ⟨h2, h3⟩⟩
    · exact Or.inr ⟨by rw [← h2, ← List.mem_singleton.mp h3]; exact h1, h2, List.mem_singleton.mp h3⟩

/-- the state of Liu's algorithm when the columns `< k` have been made and the edges `S` seen: the classes of the
forest `pp` (names `rep`) are trees of `parent[]`; `root[]` holds at the name of a class the root of its tree, which
is its largest member; an edge seen joins a column to an ancestor; `parent[v] = p` is justified by an entry of column
`p` in the subtree of `v`.  Paths are followed among the columns made (`Desc k`, not `Desc nc`), so that what `parent[]`
holds at the columns not yet made does not matter. -/
structure Core (nbrs : Nat → List Nat) (nc k : Nat) (S : Nat → Nat → Prop) (st : St)
    (rep dep : Nat → Nat) : Prop where
  spp : st.pp.size = nc
  sroot : st.root.size = nc
  spar : st.parent.size = nc
  uf : UF st.pp k rep dep
  top : ∀ i, i < k → st.root.getD (rep i) 0 < k ∧ rep (st.root.getD (rep i) 0) = rep i ∧
    i ≤ st.root.getD (rep i) 0 ∧ Desc k st.parent i (st.root.getD (rep i) 0) ∧
    st.parent.getD (st.root.getD (rep i) 0) 0 = nc
  par : ∀ v, v < k → st.parent.getD v 0 = nc ∨ (v < st.parent.getD v 0 ∧ st.parent.getD v 0 < k ∧
    ∃ u, Desc k st.parent u v ∧ u < st.parent.getD v 0 ∧ u ∈ nbrs (st.parent.getD v 0))
  anc : ∀ a b, S a b → Desc k st.parent b a

variable {st : St} {rep dep : Nat → Nat}

theorem Core.mono {k : Nat} {S S' : Nat → Nat → Prop} (hS : ∀ a b, S' a b → S a b)
    (h : Core nbrs nc k S st rep dep) : Core nbrs nc k S' st rep dep :=
  { h with anc := fun a b hab => h.anc a b (hS a b hab) }

theorem liuEdge_eq (col : Nat) (st : St) (cset row : Nat) :
    liuEdge col (st, cset) row =
      if row ≥ col then (st, cset) else
      if st.root.getD (find st.pp row).2 0 ≠ col then
        ({ pp := (find st.pp row).1.setIfInBounds cset (find st.pp row).2,
           root := st.root.setIfInBounds (find st.pp row).2 col,
           parent := st.parent.setIfInBounds (st.root.getD (find st.pp row).2 0) col },
         (find st.pp row).2)
      else ({ st with pp := (find st.pp row).1 }, cset) := rfl

theorem liuInit_core {S : Nat → Nat → Prop} (h : Core nbrs nc c S st rep dep) (hc : c < nc) :
    Core nbrs nc (c + 1) S (liuInit nc st c) (fun x => if x = c then c else rep x) dep := by
  have hlt : ∀ {i}, i < c + 1 → i ≠ c → i < c := fun hi e => Nat.lt_of_le_of_ne (Nat.le_of_lt_succ hi) e
  have hrl : ∀ {i}, i < c → rep i ≠ c := fun hi => Nat.ne_of_lt (h.uf.rep_root _ hi).1
  have hD : ∀ {a b}, Desc c st.parent a b → Desc (c + 1) (st.parent.setIfInBounds c nc) a b :=
    fun hd => hd.set c nc (Nat.le_succ c) fun hcc => absurd hcc (Nat.lt_irrefl c)
  unfold liuInit
  refine ⟨by simpa using h.spp, by simpa using h.sroot, by simpa using h.spar, h.uf.extend (h.spp ▸ hc),
    fun i hi => ?_, fun v hv => ?_, fun a b hab => hD (h.anc a b hab)⟩
  · by_cases ei : i = c
    · rw [if_pos ei, Slu.getD_setIfInBounds_self _ _ _ (h.sroot ▸ hc), Slu.getD_setIfInBounds_self _ _ _ (h.spar ▸ hc)]
      exact ⟨Nat.lt_succ_self c, if_pos rfl, Nat.le_of_eq ei, ei ▸ Desc.refl _, rfl⟩
    · obtain ⟨m1, m2, m3, m4, m5⟩ := h.top i (hlt hi ei)
      rw [if_neg ei, Slu.getD_setIfInBounds_ne _ _ _ (hrl (hlt hi ei)).symm, if_neg (Nat.ne_of_lt m1),
        Slu.getD_setIfInBounds_ne _ _ _ (Nat.ne_of_gt m1)]
      exact ⟨Nat.lt_succ_of_lt m1, m2, m3, hD m4, m5⟩
  · by_cases ev : v = c
    · rw [ev, Slu.getD_setIfInBounds_self _ _ _ (h.spar ▸ hc)]
      exact Or.inl rfl
    · rw [Slu.getD_setIfInBounds_ne _ _ _ (Ne.symm ev)]
      exact (h.par v (hlt hv ev)).imp_right fun ⟨p1, p2, u, p3, p4⟩ => ⟨p1, Nat.lt_succ_of_lt p2, u, hD p3, p4⟩

theorem liuEdge_core (hc : c < nc) {u : Nat} (hu : u ∈ nbrs c) {cset : Nat}
    (h : Core nbrs nc (c + 1) (Lk nbrs c l) st rep dep) (hcs : cset = rep c) :
    ∃ rep' dep', Core nbrs nc (c + 1) (Lk nbrs c (l ++ [u])) (liuEdge c (st, cset) u).1 rep' dep' ∧
      (liuEdge c (st, cset) u).2 = rep' c := by
  subst hcs
  rw [liuEdge_eq]
  by_cases huc : u ≥ c
  · rw [if_pos huc]
    exact ⟨rep, dep, h.mono fun _ _ hab => (Lk_snoc hab).resolve_right fun e => Nat.not_lt.mpr huc e.1, rfl⟩
  rw [if_neg huc]
  have huc : u < c := Nat.lt_of_not_le huc
  have hu1 : u < c + 1 := Nat.lt_succ_of_lt huc
  have hc1 : c < c + 1 := Nat.lt_succ_self c
  obtain ⟨hf1, hf2, hf3⟩ := find_spec h.uf u hu1
  rw [hf2]
  obtain ⟨c1, _, c3, _, c5⟩ := h.top c hc1
  have hmc : st.root.getD (rep c) 0 = c := Nat.le_antisymm (Nat.le_of_lt_succ c1) c3
  obtain ⟨t1, t2, _, t4, t5⟩ := h.top u hu1
  generalize et : st.root.getD (rep u) 0 = t at t1 t2 t4 t5 ⊢
  by_cases hrr : t ≠ c
  · -- `u` lies in another tree, of root `t < c`: `c` becomes the parent of `t`
    rw [if_pos hrr]
    have hne : rep c ≠ rep u := fun e => hrr (by rw [← et, ← e, hmc])
    have hrc := h.uf.rep_root c hc1
    have hru := h.uf.rep_root u hu1
    have ht : t < c := Nat.lt_of_le_of_ne (Nat.le_of_lt_succ t1) hrr
    have hub : rep u < st.root.size := h.sroot ▸ Nat.lt_of_lt_of_le hru.1 hc
    have htb : t < st.parent.size := h.spar ▸ Nat.lt_trans ht hc
    -- paths stay: `t` was a root
    have hD : ∀ {a b}, b < c + 1 → Desc (c + 1) st.parent a b → Desc (c + 1) (st.parent.setIfInBounds t c) a b :=
      fun hb hd => hd.set t c (Nat.le_refl _) fun _ hd => desc_top hd (t5 ▸ hc) hb
    have htc : ∀ {a}, Desc (c + 1) st.parent a t → Desc (c + 1) (st.parent.setIfInBounds t c) a c := fun hd =>
      desc_trans (hD t1 hd) (Desc.step t1 (by rw [Slu.getD_setIfInBounds_self _ _ _ htb]; exact Desc.refl c))
    refine ⟨fun x => if rep x = rep c then rep u else rep x,
      fun x => if rep x = rep c then dep x + dep (rep u) + 1 else dep x,
      ⟨by simpa [hf3] using h.spp, by simpa using h.sroot, by simpa using h.spar,
        hf1.link _ _ hrc.1 hru.1 hrc.2.2 hru.2.2 hne, fun i hi => ?_, fun v hv => ?_, fun a b hab => ?_⟩,
      (if_pos rfl).symm⟩
    · obtain ⟨m1, m2, m3, m4, m5⟩ := h.top i hi
      by_cases pi : rep i = rep c ∨ rep i = rep u
      · have e : (if rep i = rep c then rep u else rep i) = rep u :=
          pi.elim (fun e => if_pos e) fun e => ite_eq_left_iff.mpr fun _ => e
        rw [e, Slu.getD_setIfInBounds_self _ _ _ hub, Slu.getD_setIfInBounds_ne _ _ _ (Nat.ne_of_lt ht)]
        refine ⟨hc1, if_pos rfl, Nat.le_of_lt_succ hi, ?_, hmc ▸ c5⟩
        rcases pi with e | e
        · rw [e, hmc] at m4; exact hD hc1 m4
        · rw [e, et] at m4; exact htc m4
      · have e1 : rep i ≠ rep c := fun e => pi (Or.inl e)
        rw [if_neg e1, Slu.getD_setIfInBounds_ne _ _ _ fun e => pi (Or.inr e.symm),
          Slu.getD_setIfInBounds_ne _ _ _ fun e => pi (Or.inr (by rw [← m2, ← e, t2]))]
        exact ⟨m1, by rw [m2]; exact if_neg e1, m3, hD m1 m4, m5⟩
    · by_cases ev : v = t
      · rw [ev, Slu.getD_setIfInBounds_self _ _ _ htb]
        exact Or.inr ⟨ht, hc1, u, hD t1 t4, huc, hu⟩
      · rw [Slu.getD_setIfInBounds_ne _ _ _ (Ne.symm ev)]
        exact (h.par v hv).imp_right fun ⟨p1, p2, w, p3, p4⟩ => ⟨p1, p2, w, hD hv p3, p4⟩
    · rcases Lk_snoc hab with h1 | ⟨_, rfl, rfl⟩
      · exact hD (Nat.lt_succ_of_le (h1.2.elim (fun e => Nat.le_of_lt e.1) fun e => Nat.le_of_eq e.1)) (h.anc a b h1)
      · exact htc t4
  · -- `u` is already in the tree of `c`
    rw [if_neg hrr]
    refine ⟨rep, dep, ⟨hf3 ▸ h.spp, h.sroot, h.spar, hf1, h.top, h.par, fun a b hab => ?_⟩, rfl⟩
    rcases Lk_snoc hab with h1 | ⟨_, rfl, rfl⟩
    · exact h.anc a b h1
    · exact Decidable.not_not.mp hrr ▸ t4

/-- between two columns of `liu`: some names `rep`, heights `dep` make the state a `Core` -/
def LiuInv (nbrs : Nat → List Nat) (nc k : Nat) (st : St) : Prop :=
  ∃ rep dep, Core nbrs nc k (Lk nbrs k []) st rep dep

theorem liuCol_inv (hc : c < nc) (h : LiuInv nbrs nc c st) : LiuInv nbrs nc (c + 1) (liuCol nc nbrs st c) := by
  obtain ⟨rep, dep, h⟩ := h
  have key := foldl_prefix_inv (liuEdge c) (nbrs c)
    (fun l (sc : St × Nat) => ∃ rep' dep', Core nbrs nc (c + 1) (Lk nbrs c l) sc.1 rep' dep' ∧
      sc.2 = rep' c) (liuInit nc st c, c)
    ⟨_, _, liuInit_core h hc, (if_pos rfl).symm⟩
    (fun _ _ _ hx ⟨_, _, h1, h2⟩ => liuEdge_core hc hx h1 h2)
  obtain ⟨rep', dep', h1, _⟩ := key
  refine ⟨rep', dep', h1.mono fun a b hab => ⟨hab.1, ?_⟩⟩
  rcases hab.2 with ⟨h1, h2⟩ | ⟨_, h⟩
  · by_cases e : a = c
    · exact Or.inr ⟨e, e ▸ h2⟩
    · exact Or.inl ⟨by omega, h2⟩
  · exact absurd h List.not_mem_nil

end

theorem liu_inv (nc : Nat) (nbrs : Nat → List Nat) :
    LiuInv nbrs nc nc ((List.range nc).foldl (liuCol nc nbrs)
      { pp := Array.replicate nc 0, root := Array.replicate nc 0, parent := Array.replicate nc 0 }) := by
  refine Slu.foldl_range_inv (fun k (st : St) => k ≤ nc → LiuInv nbrs nc k st) (liuCol nc nbrs) nc _
    (fun _ => ⟨id, fun _ => 0, by simp, by simp, by simp,
      -- before column 0 every clause speaks of columns `< 0`
      ⟨Nat.zero_le _, fun i hi => ?_, fun i hi => ?_, fun i hi => ?_⟩, fun i hi => ?_, fun i hi => ?_,
      fun a b hab => hab.2.elim (fun ⟨hi, _⟩ => ?_) fun h => absurd h.2 List.not_mem_nil⟩)
    (fun st c hc ih _ => liuCol_inv hc (ih (Nat.le_of_lt hc))) (Nat.le_refl _)
  all_goals exact absurd hi (Nat.not_lt_zero _)

theorem liu_cert (nc : Nat) (nbrs : Nat → List Nat) :
    (liu nc nbrs).size = nc ∧ Cert (SE nbrs nc) nc (liu nc nbrs) := by
  obtain ⟨rep, dep, h⟩ := liu_inv nc nbrs
  refine ⟨h.spar, fun v hv => (h.par v hv).imp_right fun p => ⟨p.1, p.2.1⟩, fun a b e hab => ?_, fun v hv hp => ?_⟩
  · rcases e with ⟨h1, _, _⟩ | ⟨h1, h2, h3⟩
    · omega
    · exact h.anc b a ⟨h1, Or.inl ⟨h2, h3⟩⟩
  · rcases h.par v hv with e | ⟨_, p2, u, p3, p4, p5⟩
    · exact absurd e (Nat.ne_of_lt hp)
    · exact ⟨u, p3, Or.inr ⟨p4, p2, p5⟩⟩

theorem liu_least (nc : Nat) (nbrs : Nat → List Nat) :
    (liu nc nbrs).size = nc ∧ IsEtree (SE nbrs nc) nc (liu nc nbrs) :=
  ⟨(liu_cert nc nbrs).1, (liu_cert nc nbrs).2.isEtree SE.symm⟩

def Sq (n : Nat) (g : Array (Array Bool)) : Prop := g.size = n ∧ ∀ i, i < n → (g.getD i #[]).size = n

theorem adjSet_sq {n : Nat} {g : Array (Array Bool)} (h : Sq n g) (i j : Nat) : Sq n (adjSet g i j) := by
  refine ⟨by simpa [adjSet] using h.1, fun a ha => ?_⟩
  unfold adjSet
  rw [Slu.getD_setIfInBounds]
  split
  · rename_i hc
    rw [Array.size_setIfInBounds]
    exact h.2 i (hc.1 ▸ ha)
  · exact h.2 a ha

theorem adjGet_adjSet {n : Nat} {g : Array (Array Bool)} (h : Sq n g) {i j : Nat} (hi : i < n) (hj : j < n)
    (a b : Nat) : adjGet (adjSet g i j) a b = true ↔ adjGet g a b = true ∨ (a = i ∧ b = j) := by
  unfold adjGet adjSet
  by_cases e : i = a
  · subst e
    rw [Slu.getD_setIfInBounds_self _ _ _ (h.1.symm ▸ hi)]
    by_cases e2 : j = b
    · subst e2
      rw [Slu.getD_setIfInBounds_self _ _ _ ((h.2 i hi).symm ▸ hj)]
      exact iff_of_true rfl (Or.inr ⟨rfl, rfl⟩)
    · rw [Slu.getD_setIfInBounds_ne _ _ _ e2]
      exact (or_iff_left fun c => e2 c.2.symm).symm
  · rw [Slu.getD_setIfInBounds_ne _ _ _ e]
    exact (or_iff_left fun c => e c.1.symm).symm

theorem foldl_adj {α : Type} {n : Nat} (f : Array (Array Bool) → α → Array (Array Bool))
    (S : α → Nat → Nat → Prop) (L : List α)
    (hf : ∀ g x, x ∈ L → Sq n g →
      Sq n (f g x) ∧ ∀ a b, adjGet (f g x) a b = true ↔ adjGet g a b = true ∨ S x a b)
    (g : Array (Array Bool)) (hg : Sq n g) :
    Sq n (L.foldl f g) ∧
      ∀ a b, adjGet (L.foldl f g) a b = true ↔ adjGet g a b = true ∨ ∃ x ∈ L, S x a b := by
  refine foldl_prefix_inv f L
    (fun l s => Sq n s ∧ ∀ a b, adjGet s a b = true ↔ adjGet g a b = true ∨ ∃ x ∈ l, S x a b) g
    ⟨hg, fun a b => by simp⟩ ?_
  rintro l x s hx ⟨hs, hk⟩
  obtain ⟨h1, h2⟩ := hf s x hx hs
  refine ⟨h1, fun a b => ?_⟩
  rw [h2, hk]
  simp only [List.mem_append, List.mem_singleton, or_and_right, exists_or, exists_eq_left, or_assoc]

/-- the fill of one elimination step: the vertices of `l1` are joined to those of `l2` -/
theorem fill {n : Nat} (l1 l2 : List Nat) (hl1 : ∀ x ∈ l1, x < n) (hl2 : ∀ x ∈ l2, x < n)
    (g : Array (Array Bool)) (hg : Sq n g) :
    Sq n (l1.foldl (fun g i => l2.foldl (fun g j => if i ≠ j then adjSet g i j else g) g) g) ∧
    ∀ a b, adjGet (l1.foldl (fun g i => l2.foldl (fun g j => if i ≠ j then adjSet g i j else g) g) g) a b
        = true ↔ adjGet g a b = true ∨ (a ∈ l1 ∧ b ∈ l2 ∧ a ≠ b) := by
  have inner : ∀ i ∈ l1, ∀ g j, j ∈ l2 → Sq n g →
      Sq n (if i ≠ j then adjSet g i j else g) ∧
        ∀ a b, adjGet (if i ≠ j then adjSet g i j else g) a b = true ↔
          adjGet g a b = true ∨ (i ≠ j ∧ a = i ∧ b = j) := by
    intro i hi g j hj hg
    split
    · rename_i e
      refine ⟨adjSet_sq hg i j, fun a b => ?_⟩
      rw [adjGet_adjSet hg (hl1 i hi) (hl2 j hj), and_iff_right e]
    · rename_i e
      exact ⟨hg, fun a b => (or_iff_left fun c => e c.1).symm⟩
  obtain ⟨s, k⟩ := foldl_adj (fun g i => l2.foldl (fun g j => if i ≠ j then adjSet g i j else g) g)
    (fun i a b => ∃ j ∈ l2, i ≠ j ∧ a = i ∧ b = j) l1
    (fun g i hi hg => foldl_adj _ _ l2 (inner i hi) g hg) g hg
  refine ⟨s, fun a b => (k a b).trans (or_congr_right ?_)⟩
  constructor
  · rintro ⟨i, hi, j, hj, hne, rfl, rfl⟩
    exact ⟨hi, hj, hne⟩
  · exact fun ⟨ha, hb, hne⟩ => ⟨a, ha, b, hb, hne, rfl, rfl⟩

/-- the body of the fold in `etreeOfGraph`, vertex `v` -/
def estep (n : Nat) (gp : Array (Array Bool) × Array Nat) (v : Nat) : Array (Array Bool) × Array Nat :=
  let nb := (List.range n).filter fun i => decide (i > v) && adjGet gp.1 i v
  (nb.foldl (fun g i => nb.foldl (fun g j => if i ≠ j then adjSet g i j else g) g) gp.1,
   gp.2.push (nb.headD n))

theorem etreeOfGraph_eq (n : Nat) (g0 : Array (Array Bool)) :
    etreeOfGraph n g0 = ((List.range n).foldl (estep n) (g0, #[])).2 := rfl

/-- state of the elimination game before vertex `v`: among the vertices `≥ v` the matrix holds, off the
diagonal, the edges of the elimination graph (walks with interior `< v`), and the parents found so far are right -/
def DInv (E : Nat → Nat → Prop) (n v : Nat) (gp : Array (Array Bool) × Array Nat) : Prop :=
  Sq n gp.1 ∧ gp.2.size = v ∧
  (∀ i j, v ≤ i → v ≤ j → i < n → j < n → i ≠ j → (adjGet gp.1 i j = true ↔ T E v i j)) ∧
  ∀ u, u < v → Least (fun i => T E u i u) n u (gp.2.getD u 0)

theorem estep_inv {E : Nat → Nat → Prop} (hEs : ∀ a b, E a b → E b a) {n v : Nat} (hv : v < n)
    {gp : Array (Array Bool) × Array Nat} (h : DInv E n v gp) : DInv E n (v + 1) (estep n gp v) := by
  obtain ⟨hsq, hsz, hadj, hpar⟩ := h
  have hnb : ∀ x, x < n → ((decide (x > v) && adjGet gp.1 x v) = true ↔ v < x ∧ T E v x v) := by
    intro x hx
    rw [Bool.and_eq_true, decide_eq_true_eq]
    exact and_congr_right fun hvx => hadj x v (Nat.le_of_lt hvx) (Nat.le_refl _) hx hv (Nat.ne_of_gt hvx)
  have hmem : ∀ x, x ∈ (List.range n).filter (fun i => decide (i > v) && adjGet gp.1 i v) ↔
      x < n ∧ v < x ∧ T E v x v := by
    intro x
    rw [List.mem_filter, List.mem_range]
    exact and_congr_right (hnb x)
  obtain ⟨s, k⟩ := fill _ _ (fun x hx => ((hmem x).mp hx).1) (fun x hx => ((hmem x).mp hx).1) gp.1 hsq
  refine ⟨s, by simp [estep, hsz], fun i j hi hj hin hjn hne => ?_, fun u hu => ?_⟩
  · refine (k i j).trans ?_
    rw [hmem, hmem, hadj i j (Nat.le_of_lt hi) (Nat.le_of_lt hj) hin hjn hne]
    constructor
    · rintro (h | ⟨⟨_, _, h1⟩, ⟨_, _, h2⟩, _⟩)
      · exact T.mono (Nat.le_succ _) h
      · exact T.via (T.mono (Nat.le_succ _) h1) (Nat.lt_succ_self _) (T.mono (Nat.le_succ _) (T.symm hEs h2))
    · intro h
      rcases T.split h with e | ⟨e1, e2⟩
      · exact Or.inl e
      · exact Or.inr ⟨⟨hin, hi, e1.resolve_left (Nat.ne_of_gt hi)⟩,
          ⟨hjn, hj, T.symm hEs (e2.resolve_left (Nat.ne_of_lt hj))⟩, hne⟩
  · show Least _ n u ((gp.2.push _).getD u 0)
    by_cases huv : u < v
    · rw [show (gp.2.push _).getD u 0 = gp.2.getD u 0 from Slu.getElem!_push_lt gp.2 _ (hsz ▸ huv)]
      exact hpar u huv
    · obtain rfl : u = v := by omega
      rw [show (gp.2.push _).getD u 0 = _ from hsz ▸ Slu.getElem!_push_size gp.2 _,
        List.headD_eq_head?_getD, List.head?_filter]
      exact least_of_find? hnb

theorem etreeOfGraph_walk_least {E : Nat → Nat → Prop} (hEs : ∀ a b, E a b → E b a) (n : Nat)
    (g0 : Array (Array Bool)) (hsq : Sq n g0) (hg : ∀ i j, i < n → j < n → (adjGet g0 i j = true ↔ E i j)) :
    (etreeOfGraph n g0).size = n ∧ IsEtree E n (etreeOfGraph n g0) := by
  rw [etreeOfGraph_eq]
  have key := Slu.foldl_range_inv (fun k gp => DInv E n k gp) (estep n) n (g0, #[])
    ⟨hsq, rfl, fun i j _ _ hi hj _ => (hg i j hi hj).trans
        ⟨T.edge, fun e => by
          cases e with
          | edge e => exact e
          | via _ hw _ => exact absurd hw (Nat.not_lt_zero _)⟩,
      fun u hu => absurd hu (Nat.not_lt_zero _)⟩
    (fun gp v hv h => estep_inv hEs hv h)
  exact ⟨key.2.1, key.2.2.2⟩

/-- the graph of AᵀA: distinct columns `< n` sharing a row -/
def GE (n : Nat) (col : Nat → List Nat) (a b : Nat) : Prop :=
  a < n ∧ b < n ∧ a ≠ b ∧ ∃ k, k ∈ col a ∧ k ∈ col b

theorem GE.symm {n : Nat} {col : Nat → List Nat} (a b : Nat) (h : GE n col a b) : GE n col b a := by
  obtain ⟨h1, h2, h3, k, h4, h5⟩ := h
  exact ⟨h2, h1, h3.symm, k, h5, h4⟩

theorem ataAdj_sq (n : Nat) (col : Nat → List Nat) : Sq n (ataAdj n col) := by
  unfold ataAdj
  refine ⟨by simp, fun i hi => ?_⟩
  simp [Array.getD_eq_getD_getElem?, hi]

theorem ataAdj_get (n : Nat) (col : Nat → List Nat) (i j : Nat) (hi : i < n) (hj : j < n) :
    adjGet (ataAdj n col) i j = true ↔ GE n col i j := by
  unfold ataAdj adjGet GE
  simp only [Array.getD_eq_getD_getElem?, Array.getElem?_map, Array.getElem?_range, hi, hj, if_true,
    Option.map_some, Option.getD_some]
  simp only [Bool.and_eq_true, bne_iff_ne, ne_eq, List.any_eq_true, List.contains_iff_mem, true_and]

theorem firstcol_spec (nc : Nat) (col : Nat → List Nat) (r : Nat) :
    (firstcol nc col r = nc ∧ ∀ j, j < nc → r ∉ col j) ∨
    (firstcol nc col r < nc ∧ r ∈ col (firstcol nc col r) ∧ ∀ j, j < firstcol nc col r → r ∉ col j) := by
  rcases find?_range_getD (x := firstcol nc col r) rfl with ⟨h1, h2⟩ | ⟨h1, h2, h3⟩
  · exact Or.inl ⟨h1, fun j hj => by simpa using h2 j hj⟩
  · exact Or.inr ⟨h1, by simpa using h2, fun j hj => by simpa using h3 j hj⟩

/-- the lists Liu's algorithm is run on by `coletree` -/
def starNbrs (nr nc : Nat) (col : Nat → List Nat) (c : Nat) : List Nat :=
  (col c).map fun r => ((Array.range nr).map (firstcol nc col)).getD r nc

theorem coletree_eq_liu (nr nc : Nat) (col : Nat → List Nat) :
    coletree nr nc col = liu nc (starNbrs nr nc col) := rfl

section
variable {nr nc : Nat} {col : Nat → List Nat}

/-- `firstcol[]` is read with the root marker outside the rows `0..nr-1` -/
theorem mem_starNbrs {c b : Nat} :
    b ∈ starNbrs nr nc col c ↔ ∃ r, r ∈ col c ∧ (if r < nr then firstcol nc col r else nc) = b := by
  unfold starNbrs
  rw [List.mem_map]
  refine exists_congr fun r => and_congr_right fun _ => Eq.congr_left ?_
  by_cases hr : r < nr <;> simp [Array.getD_eq_getD_getElem?, hr]

theorem GE_of_SE (a b : Nat) (h : SE (starNbrs nr nc col) nc a b) :
    GE nc col a b := by
  have key : ∀ a b, b < a → a < nc → b ∈ starNbrs nr nc col a → GE nc col a b := by
    intro a b hba ha hm
    obtain ⟨r, hr, e⟩ := mem_starNbrs.mp hm
    split at e
    · rcases firstcol_spec nc col r with ⟨h1, _⟩ | ⟨_, h2, _⟩
      · omega
      · exact ⟨ha, by omega, by omega, r, hr, e ▸ h2⟩
    · omega
  rcases h with ⟨h1, h2, h3⟩ | ⟨h1, h2, h3⟩
  · exact key a b h1 h2 h3
  · exact GE.symm _ _ (key b a h1 h2 h3)

/-- a column holding row `r` is `firstcol r` or lists it -/
theorem star_link {a r : Nat} (ha : a < nc) (hra : r ∈ col a) (hr : r < nr) :
    firstcol nc col r = a ∨ (firstcol nc col r < a ∧ firstcol nc col r ∈ starNbrs nr nc col a) := by
  rcases firstcol_spec nc col r with ⟨_, h2⟩ | ⟨_, _, h3⟩
  · exact absurd hra (h2 a ha)
  · by_cases e : firstcol nc col r = a
    · exact Or.inl e
    · exact Or.inr ⟨Nat.lt_of_le_of_ne (Nat.le_of_not_lt fun c => h3 a c hra) e,
        mem_starNbrs.mpr ⟨r, hra, if_pos hr⟩⟩

end

/-- what the row-merge argument needs of the tree: two columns that share a row are related, the later
one is an ancestor of the earlier one -/
def ShareDesc (n : Nat) (col : Nat → List Nat) (et : Array Nat) : Prop :=
  ∀ c1 c2, c1 < c2 → c2 < n → (∃ r, r ∈ col c1 ∧ r ∈ col c2) → Desc n et c1 c2

/-- both columns list the first column of the shared row, unless the earlier one is it -/
theorem coletree_shareDesc (nr nc : Nat) (col : Nat → List Nat) (hrow : ∀ c, c < nc → ∀ r ∈ col c, r < nr) :
    ShareDesc nc col (coletree nr nc col) := by
  intro c1 c2 h12 h2 ⟨r, hr1, hr2⟩
  have h1 : c1 < nc := Nat.lt_trans h12 h2
  have C := (liu_cert nc (starNbrs nr nc col)).2
  rcases star_link h1 hr1 (hrow c1 h1 r hr1) with e1 | ⟨l1, m1⟩ <;>
    rcases star_link h2 hr2 (hrow c2 h2 r hr2) with e2 | ⟨l2, m2⟩
  · omega
  · exact C.anc c1 c2 (Or.inr ⟨h12, h2, e1 ▸ m2⟩) h12
  · omega
  · exact desc_chain C.heap (C.anc _ c1 (Or.inr ⟨l1, h1, m1⟩) l1) (C.anc _ c2 (Or.inr ⟨l2, h2, m2⟩) l2)
      (Nat.le_of_lt h12)

theorem coletree_isEtree (nr nc : Nat) (col : Nat → List Nat) (hrow : ∀ c, c < nc → ∀ r ∈ col c, r < nr) :
    IsEtree (GE nc col) nc (coletree nr nc col) :=
  have C := (liu_cert nc (starNbrs nr nc col)).2
  Cert.isEtree ⟨C.heap, fun a b e hab => coletree_shareDesc nr nc col hrow a b hab e.2.1 e.2.2.2,
    fun v hv hp => (C.just v hv hp).imp fun _ h => ⟨h.1, GE_of_SE _ _ h.2⟩⟩ GE.symm

theorem coletree_isHeap (nr nc : Nat) (col : Nat → List Nat) : Heap nc (coletree nr nc col) :=
  (liu_least nc (starNbrs nr nc col)).2.heap

theorem etreeDef_isEtree (nc : Nat) (col : Nat → List Nat) :
    (etreeDef nc col).size = nc ∧ IsEtree (GE nc col) nc (etreeDef nc col) :=
  etreeOfGraph_walk_least GE.symm nc (ataAdj nc col) (ataAdj_sq nc col) (ataAdj_get nc col)

theorem SE_congr {nc : Nat} {nbrs nbrs' : Nat → List Nat}
    (h : ∀ a b, b < a → a < nc → (b ∈ nbrs a ↔ b ∈ nbrs' a)) (a b : Nat) :
    SE nbrs nc a b ↔ SE nbrs' nc a b :=
  or_congr (and_congr_right fun h1 => and_congr_right fun h2 => h a b h1 h2)
    (and_congr_right fun h1 => and_congr_right fun h2 => h b a h1 h2)

theorem liu_congr (nc : Nat) (nbrs nbrs' : Nat → List Nat)
    (h : ∀ a b, b < a → a < nc → (b ∈ nbrs a ↔ b ∈ nbrs' a)) : liu nc nbrs = liu nc nbrs' :=
  IsEtree.unique (liu_least nc nbrs) (liu_least nc nbrs') fun _ _ _ _ => T.congr (SE_congr h)

/-- the graph of a structurally symmetric pattern -/
def SymE (n : Nat) (col : Nat → List Nat) (a b : Nat) : Prop :=
  a < n ∧ b < n ∧ a ≠ b ∧ (a ∈ col b ∨ b ∈ col a)

theorem symAdj_sq (n : Nat) (col : Nat → List Nat) : Sq n (symAdj n col) := by
  unfold symAdj
  refine ⟨by simp, fun i hi => ?_⟩
  simp [Array.getD_eq_getD_getElem?, hi]

theorem symAdj_get (n : Nat) (col : Nat → List Nat) (i j : Nat) (hi : i < n) (hj : j < n) :
    adjGet (symAdj n col) i j = true ↔ SymE n col i j := by
  unfold symAdj adjGet SymE
  simp only [Array.getD_eq_getD_getElem?, Array.getElem?_map, Array.getElem?_range, hi, hj, if_true,
    Option.map_some, Option.getD_some]
  simp only [Bool.and_eq_true, bne_iff_ne, ne_eq, Bool.or_eq_true, List.contains_iff_mem, true_and]

theorem SymE.symm {n : Nat} {col : Nat → List Nat} (a b : Nat) (h : SymE n col a b) : SymE n col b a :=
  ⟨h.2.1, h.1, h.2.2.1.symm, h.2.2.2.symm⟩

theorem SE_iff_SymE {n : Nat} {col : Nat → List Nat} (hsym : ∀ i j, i < n → j < n → i ∈ col j → j ∈ col i)
    (a b : Nat) : SE col n a b ↔ SymE n col a b := by
  constructor
  · rintro (⟨h1, h2, h3⟩ | ⟨h1, h2, h3⟩)
    · exact ⟨h2, by omega, by omega, Or.inr h3⟩
    · exact ⟨by omega, h2, by omega, Or.inl h3⟩
  · rintro ⟨h1, h2, h3, h4⟩
    rcases Nat.lt_or_gt_of_ne h3 with h | h
    · exact Or.inr ⟨h, h2, h4.elim id (hsym b a h2 h1)⟩
    · exact Or.inl ⟨h, h1, h4.elim (hsym a b h1 h2) id⟩

theorem coletree_eq_symetree_ata (nr nc : Nat) (col : Nat → List Nat)
    (hrow : ∀ c, c < nc → ∀ r ∈ col c, r < nr) :
    coletree nr nc col = symetree nc (ataCol nc col) := by
  refine IsEtree.unique ⟨(liu_least nc _).1, coletree_isEtree nr nc col hrow⟩ (liu_least nc (ataCol nc col))
    fun _ _ _ _ => (T.congr fun a b => ?_).symm
  unfold SE GE
  simp only [mem_ataCol]
  constructor
  · rintro (⟨h1, h2, h3, h4, k, h5, h6⟩ | ⟨h1, h2, h3, h4, k, h5, h6⟩)
    · exact ⟨h2, h4, h3.symm, k, h6, h5⟩
    · exact ⟨h4, h2, h3, k, h5, h6⟩
  · rintro ⟨h1, h2, h3, k, h4, h5⟩
    rcases Nat.lt_or_gt_of_ne h3 with h | h
    · exact Or.inr ⟨h, h2, h3, h1, k, h4, h5⟩
    · exact Or.inl ⟨h, h1, h3.symm, h2, k, h5, h4⟩

theorem firstcol_filter (nr nc : Nat) (col : Nat → List Nat) (r : Nat) (hr : r < nr) :
    firstcol nc (fun c => (col c).filter (· < nr)) r = firstcol nc col r := by
  unfold firstcol
  congr 2
  funext j
  simp [hr]

/-- row indices `≥ nr` are ignored by `sp_coletree` (their `firstcol` is the root marker) -/
theorem coletree_filter (nr nc : Nat) (col : Nat → List Nat) :
    coletree nr nc col = coletree nr nc (fun c => (col c).filter (· < nr)) := by
  rw [coletree_eq_liu, coletree_eq_liu]
  refine liu_congr nc _ _ fun a b hba ha => ?_
  simp only [mem_starNbrs, List.mem_filter, decide_eq_true_eq]
  refine exists_congr fun r => ?_
  by_cases hr : r < nr
  · rw [if_pos hr, if_pos hr, firstcol_filter nr nc col r hr, and_iff_left hr]
  · rw [if_neg hr]
    exact ⟨fun h => by omega, fun h => absurd h.1.2 hr⟩

theorem spPreorder_spec (A : Pat) (p : Array Nat) (sym : Bool) (hp : isPerm A.n p = true) : SpPreorder A p sym := by
  obtain ⟨_, hplt, hpinj, _⟩ := (isPerm_iff A.n p).mp hp
  have hheap := coletree_isHeap A.m A.n (permView A p).col
  cases sym with
  | true =>
    -- `sp_preorder` returns its inputs: `post` is the identity
    have hq : ∀ j, j ≤ A.n → (postOf A p true).getD j 0 = j := fun j hj => range_getD _ _ (Nat.lt_succ_of_le hj)
    exact
      { qlt := fun j hj => (hq j (Nat.le_of_lt hj)).symm ▸ hj
        qroot := hq _ (Nat.le_refl _)
        qinj := fun i hi j hj e => by rwa [hq i (Nat.le_of_lt hi), hq j (Nat.le_of_lt hj)] at e
        perm := hp
        permc := fun i hi => (hq _ (Nat.le_of_lt (hplt i hi))).symm
        size := (liu_least A.n (starNbrs A.m A.n (permView A p).col)).1
        etree := fun j hj => by rw [hq j (Nat.le_of_lt hj), hq _ (hheap.lt hj).2]; rfl
        col := fun j hj => by rw [hq j (Nat.le_of_lt hj)]; rfl
        heap := hheap }
  | false =>
    have P := isPost_treePostorder hheap
    have hinj : ∀ i < A.n, ∀ j < A.n, (postOf A p false).getD i 0 = (postOf A p false).getD j 0 → i = j :=
      fun i hi j hj e => P.inj i (Nat.le_of_lt hi) j (Nat.le_of_lt hj) e
    have hpc : ∀ i < A.n, (spPreorder A p false).permc.getD i 0 = (postOf A p false).getD (p.getD i 0) 0 :=
      firstN_map_range_getD A.n _
    have het : ∀ j < A.n, (spPreorder A p false).etree.getD ((postOf A p false).getD j 0) 0 =
        (postOf A p false).getD ((coletree A.m A.n (permView A p).col).getD j 0) 0 :=
      relabel_getD A.n _ _ P.lt hinj
    exact
      { qlt := P.lt, qroot := P.root, qinj := hinj, permc := hpc, size := firstN_size _ _, etree := het
        perm := isPerm_of_injective _ _ (firstN_size _ _) (fun i hi => by rw [hpc i hi]; exact P.lt _ (hplt i hi))
          fun i hi j hj e => by
            rw [hpc i hi, hpc j hj] at e
            exact hpinj i hi j hj (hinj _ (hplt i hi) _ (hplt j hj) e)
        col := fun j hj => congrArg₂ (slice A.rowind) (relabel_getD A.n _ _ P.lt hinj j hj)
          (relabel_getD A.n _ _ P.lt hinj j hj)
        heap := (P.relabel hheap het).1 }

/-! ### what C03 (Lemmas/RelaxOk.lean, Props/C03.lean) takes from the trees: `ShareDesc` under renumbering, `EntryDesc` -/

/-- renumbering the ROWS by a map that is injective on the rows present does not change which columns
share a row -/
theorem ShareDesc.map_rows {n : Nat} {col : Nat → List Nat} {et : Array Nat} (h : ShareDesc n col et)
    (nr : Nat) (hrow : ∀ c, c < n → ∀ r ∈ col c, r < nr) (π : Nat → Nat)
    (hπ : ∀ i, i < nr → ∀ i', i' < nr → π i = π i' → i = i') :
    ShareDesc n (fun c => (col c).map π) et := by
  intro c1 c2 h12 h2 ⟨r, hr1, hr2⟩
  obtain ⟨i1, hi1, e1⟩ := List.mem_map.mp hr1
  obtain ⟨i2, hi2, e2⟩ := List.mem_map.mp hr2
  have : i1 = i2 := hπ i1 (hrow c1 (by omega) i1 hi1) i2 (hrow c2 h2 i2 hi2) (by rw [e1, e2])
  subst this
  exact h c1 c2 h12 h2 ⟨i1, hi1, hi2⟩

theorem ShareDesc.map_view {n : Nat} {V : View} {et : Array Nat} (h : ShareDesc n V.col et) (nr : Nat)
    (hrow : ∀ r ∈ V.rowind.toList, r < nr) (π : Nat → Nat)
    (hπ : ∀ i, i < nr → ∀ i', i' < nr → π i = π i' → i = i') : ShareDesc n (fun c => (V.col c).map π) et :=
  h.map_rows nr (fun _ _ r hr => hrow r (View.mem_col hr)) π hπ

/-- renumbering the COLUMNS by a bijection `q` of `0..n-1` under which the tree is relabelled
(`et'[q j] = q[et j]`) and stays heap ordered — a postorder — keeps the property -/
theorem shareDesc_relabel {n : Nat} {col col' : Nat → List Nat} {et et' : Array Nat} {q : Nat → Nat}
    (h : ShareDesc n col et) (hheap' : Heap n et')
    (hq : ∀ j, j < n → q j < n) (hsurj : ∀ c, c < n → ∃ j, j < n ∧ q j = c)
    (hrel : ∀ j, j < n → et'.getD (q j) 0 = q (et.getD j 0))
    (hcol : ∀ j, j < n → col' (q j) = col j) : ShareDesc n col' et' := by
  intro c1 c2 h12 h2 ⟨r, hr1, hr2⟩
  obtain ⟨a, ha, rfl⟩ := hsurj c1 (by omega)
  obtain ⟨b, hb, rfl⟩ := hsurj c2 h2
  rw [hcol a ha] at hr1
  rw [hcol b hb] at hr2
  rcases Nat.lt_trichotomy a b with hab | hab | hab
  · exact desc_relabel hq hrel (h a b hab hb ⟨r, hr1, hr2⟩)
  · subst hab; omega
  · have := desc_le_of_heap hheap' (desc_relabel hq hrel (h b a hab ha ⟨r, hr2, hr1⟩))
    omega

/-- what a tree computed from the entries alone knows: an entry `(r, c)` above the diagonal makes `c` an
ancestor of `r` -/
def EntryDesc (n : Nat) (cols : Nat → List Nat) (et : Array Nat) : Prop :=
  ∀ c, c < n → ∀ r ∈ cols c, r < c → Desc n et r c

theorem entryDesc_symetree (n : Nat) (col cols : Nat → List Nat)
    (hsub : ∀ c, c < n → ∀ r ∈ cols c, r < c → r ∈ col c) : EntryDesc n cols (symetree n col) :=
  fun c hc r hr hrc => (liu_cert n col).2.anc r c (Or.inr ⟨hrc, hc, hsub c hc r hr hrc⟩) hrc

end Slu.Order
