import SluProofs.Lemmas.RatBasic
/-
Running-maximum / running-minimum folds, as used by gsequ, langs, BERR and the least-index searches: a running
maximum is the least upper bound of its start value and its terms, and it is one of them; a running minimum is the
same for the reversed order; the conditional maximum `foldMaxIf` is the maximum over the selected elements.
-/
namespace Slu

section
variable {α β : Type} [LinearOrder β] (f : α → β)

theorem foldl_max_le_iff (l : List α) (a c : β) :
    l.foldl (fun acc e => max acc (f e)) a ≤ c ↔ a ≤ c ∧ ∀ e ∈ l, f e ≤ c := by
  induction l generalizing a with
  | nil => simp
  | cons x xs ih => simp only [List.foldl_cons, ih, max_le_iff, List.forall_mem_cons, and_assoc]

theorem foldl_max_attained (l : List α) (a : β) :
    l.foldl (fun acc e => max acc (f e)) a = a ∨ ∃ e ∈ l, f e = l.foldl (fun acc e => max acc (f e)) a := by
  induction l generalizing a with
  | nil => exact .inl rfl
  | cons x xs ih =>
    rw [List.foldl_cons]
    rcases ih (max a (f x)) with h | ⟨e, he, h⟩
    · rcases max_choice a (f x) with hm | hm
      · exact .inl (h.trans hm)
      · exact .inr ⟨x, List.mem_cons_self, (h.trans hm).symm⟩
    · exact .inr ⟨e, List.mem_cons_of_mem _ he, h⟩

theorem foldl_max_ge_init (l : List α) (a : β) : a ≤ l.foldl (fun acc e => max acc (f e)) a :=
  ((foldl_max_le_iff f l a _).mp le_rfl).1

theorem foldl_max_ge_mem (l : List α) (a : β) {e : α} (he : e ∈ l) : f e ≤ l.foldl (fun acc e => max acc (f e)) a :=
  ((foldl_max_le_iff f l a _).mp le_rfl).2 e he

theorem le_foldl_min_iff (l : List α) (a c : β) :
    c ≤ l.foldl (fun acc e => min acc (f e)) a ↔ c ≤ a ∧ ∀ e ∈ l, c ≤ f e :=
  foldl_max_le_iff (β := βᵒᵈ) f l a c

theorem foldl_min_attained (l : List α) (a : β) :
    l.foldl (fun acc e => min acc (f e)) a = a ∨ ∃ e ∈ l, f e = l.foldl (fun acc e => min acc (f e)) a :=
  foldl_max_attained (β := βᵒᵈ) f l a

theorem foldl_min_le_init (l : List α) (a : β) : l.foldl (fun acc e => min acc (f e)) a ≤ a :=
  ((le_foldl_min_iff f l a _).mp le_rfl).1

theorem foldl_min_le_mem (l : List α) (a : β) {e : α} (he : e ∈ l) : l.foldl (fun acc e => min acc (f e)) a ≤ f e :=
  ((le_foldl_min_iff f l a _).mp le_rfl).2 e he

end

section
variable {α : Type}

def foldMaxIf (p : α → Prop) [DecidablePred p] (f : α → Rat) (a : Rat) (es : List α) : Rat :=
  es.foldl (fun acc e => if p e then max acc (f e) else acc) a

section
variable (p : α → Prop) [DecidablePred p] (f : α → Rat)

theorem foldMaxIf_eq_filter (a : Rat) (es : List α) :
    foldMaxIf p f a es = (es.filter (p ·)).foldl (fun acc e => max acc (f e)) a := by
  induction es generalizing a with
  | nil => rfl
  | cons x xs ih =>
    unfold foldMaxIf at ih ⊢
    by_cases hp : p x <;> simp only [List.foldl_cons, List.filter_cons, hp, decide_true, decide_false, if_true, if_false,
      Bool.false_eq_true, ih]

theorem foldMaxIf_ge_init (a : Rat) (es : List α) : a ≤ foldMaxIf p f a es := by
  rw [foldMaxIf_eq_filter]; exact foldl_max_ge_init f _ a

theorem foldMaxIf_ge_mem (a : Rat) (es : List α) (e : α) (he : e ∈ es) (hp : p e) : f e ≤ foldMaxIf p f a es := by
  rw [foldMaxIf_eq_filter]; exact foldl_max_ge_mem f _ a (List.mem_filter.mpr ⟨he, decide_eq_true hp⟩)

theorem foldMaxIf_attained (a : Rat) (es : List α) :
    foldMaxIf p f a es = a ∨ ∃ e ∈ es, p e ∧ f e = foldMaxIf p f a es := by
  rw [foldMaxIf_eq_filter]
  refine (foldl_max_attained f _ a).imp_right fun ⟨e, he, h⟩ => ?_
  obtain ⟨he, hp⟩ := List.mem_filter.mp he
  exact ⟨e, he, of_decide_eq_true hp, h⟩

end

theorem foldMaxIf_range_spec (p : Nat → Prop) [DecidablePred p] (f : Nat → Rat) (m : Nat) :
    (∀ i, i < m → p i → f i ≤ foldMaxIf p f 0 (List.range m)) ∧
    (foldMaxIf p f 0 (List.range m) = 0 ∨ ∃ i, i < m ∧ p i ∧ f i = foldMaxIf p f 0 (List.range m)) ∧
    0 ≤ foldMaxIf p f 0 (List.range m) :=
  ⟨fun i hi h => foldMaxIf_ge_mem p f 0 _ i (List.mem_range.mpr hi) h,
    (foldMaxIf_attained p f 0 (List.range m)).imp id fun ⟨i, hi, h, he⟩ => ⟨i, List.mem_range.mp hi, h, he⟩,
    foldMaxIf_ge_init p f 0 _⟩

theorem foldMaxIf_zero_iff (p : α → Prop) [DecidablePred p] (f : α → Rat) (es : List α)
    (hf : ∀ e, 0 ≤ f e) : foldMaxIf p f 0 es = 0 ↔ ∀ e ∈ es, p e → f e = 0 := by
  constructor
  · intro h e he hp
    exact le_antisymm (h ▸ foldMaxIf_ge_mem p f 0 es e he hp) (hf e)
  · intro h
    rcases foldMaxIf_attained p f 0 es with h0 | ⟨e, he, hp, hfe⟩
    · exact h0
    · rw [← hfe]; exact h e he hp

theorem foldMaxIf_mul_inv (p : α → Prop) [DecidablePred p] (g : α → Rat) (es : List α)
    (hpos : 0 < foldMaxIf p g 0 es) :
    (∀ e ∈ es, p e → g e * (1 / foldMaxIf p g 0 es) ≤ 1) ∧
    (∃ e ∈ es, p e ∧ g e * (1 / foldMaxIf p g 0 es) = 1) := by
  constructor
  · intro e he hp
    rw [mul_one_div, div_le_one hpos]; exact foldMaxIf_ge_mem p g 0 es e he hp
  · rcases foldMaxIf_attained p g 0 es with h | ⟨e, he, hp, hv⟩
    · exact absurd h hpos.ne'
    · exact ⟨e, he, hp, by rw [hv, mul_one_div, div_self hpos.ne']⟩

end
end Slu
