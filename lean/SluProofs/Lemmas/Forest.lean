import Slu.Model.Order
import SluProofs.Lemmas.ArrayBasic
import SluProofs.Lemmas.PermFn
import Mathlib.Data.List.Nodup
import Mathlib.Data.List.Range
import Mathlib.Data.List.Infix
import Mathlib.Data.List.Perm.Subperm
/-
Forests given by a parent array (the elimination tree of C10, C03): the depth-first numbering `order` of the model and
what it says of any array; heap-ordered forests, the descendant relation `Desc` and its agreement with `order`
(`desc_iff_mem_order`), the ancestors of a vertex as a chain (`desc_chain`), a subtree that is a block of consecutive
vertices and its size (`order_length_of_block`, `subtree_of_length`); the array `treePostorder` read off `order` is a
postorder (`IsPost`, `isPost_treePostorder`); what relabelling a forest by a postorder of its own does to it
(`IsPost.relabel`).
-/
namespace Slu.Order

theorem replicate_getD {α : Type} (n k : Nat) (v d : α) (hk : k < n) : (Array.replicate n v).getD k d = v := by
  simp [Array.getD_eq_getD_getElem?, hk]

theorem find?_range_getD {n : Nat} {p : Nat → Bool} {x : Nat} (hx : ((List.range n).find? p).getD n = x) :
    (x = n ∧ ∀ i, i < n → p i = false) ∨ (x < n ∧ p x = true ∧ ∀ i, i < x → p i = false) := by
  cases h : (List.range n).find? p with
  | none =>
    rw [h] at hx
    exact Or.inl ⟨hx.symm, by simpa using h⟩
  | some y =>
    rw [h] at hx
    obtain ⟨h1, h2, h3⟩ := List.find?_range_eq_some.mp h
    subst hx
    exact Or.inr ⟨List.mem_range.mp h2, h1, by simpa using h3⟩

theorem infix_flatMap_of_mem {α β : Type} (f : α → List β) (l : List α) (a : α) (h : a ∈ l) :
    f a <:+: l.flatMap f := by
  induction l with
  | nil => cases h
  | cons x xs ih =>
    rw [List.flatMap_cons]
    rcases List.mem_cons.mp h with rfl | h
    · exact (List.prefix_append _ _).isInfix
    · exact (ih h).trans (List.suffix_append _ _).isInfix

theorem idxOf_infix {l m s t : List Nat} (hl : l = s ++ m ++ t) (hn : l.Nodup) {x : Nat} (hx : x ∈ m) :
    l.idxOf x = s.length + m.idxOf x := by
  subst hl
  have hxs : x ∉ s := fun hs => (List.nodup_append.mp (List.nodup_append.mp hn).1).2.2 x hs x hx rfl
  rw [List.append_assoc, List.idxOf_append_of_notMem hxs, List.idxOf_append_of_mem hx]

theorem idxOf_infix_iff {l m s t : List Nat} (hl : l = s ++ m ++ t) (hn : l.Nodup) {x : Nat} (hx : x ∈ l) :
    x ∈ m ↔ s.length ≤ l.idxOf x ∧ l.idxOf x < s.length + m.length := by
  constructor
  · intro hm
    rw [idxOf_infix hl hn hm]
    exact ⟨Nat.le_add_right _ _, Nat.add_lt_add_left (List.idxOf_lt_length_of_mem hm) _⟩
  · rintro ⟨h1, h2⟩
    subst hl
    by_contra hm
    by_cases hs : x ∈ s
    · rw [List.append_assoc, List.idxOf_append_of_mem hs] at h1
      exact Nat.not_le.mpr (List.idxOf_lt_length_of_mem hs) h1
    · rw [List.append_assoc, List.idxOf_append_of_notMem hs, List.idxOf_append_of_notMem hm] at h2
      exact Nat.not_le.mpr h2 (Nat.add_le_add_left (Nat.le_add_right _ _) _)

section
variable (parent : Array Nat)

theorem order_eq (v : Nat) :
    order parent v = (kids parent v).flatMap (order parent) ++ [v] := by
  rw [order]
  congr 1
  rw [List.flatMap_subtype (g := order parent) (fun x h => rfl)]
  simp

theorem mem_kids (v c : Nat) : c ∈ kids parent v ↔ c < v ∧ parent.getD c 0 = v := by
  simp [kids]

theorem mem_order_iff (v u : Nat) :
    u ∈ order parent v ↔ u = v ∨ ∃ c, c < v ∧ parent.getD c 0 = v ∧ u ∈ order parent c := by
  rw [order_eq]
  simp only [List.mem_append, List.mem_flatMap, mem_kids, List.mem_singleton]
  constructor
  · rintro (⟨c, ⟨h1, h2⟩, h3⟩ | h)
    · exact Or.inr ⟨c, h1, h2, h3⟩
    · exact Or.inl h
  · rintro (h | ⟨c, h1, h2, h3⟩)
    · exact Or.inr h
    · exact Or.inl ⟨c, ⟨h1, h2⟩, h3⟩

theorem self_mem_order (v : Nat) : v ∈ order parent v :=
  (mem_order_iff parent v v).mpr (Or.inl rfl)

theorem order_length_pos (et : Array Nat) (v : Nat) : 1 ≤ (order et v).length :=
  List.length_pos_of_mem (self_mem_order et v)

theorem le_of_mem_order (v u : Nat) (h : u ∈ order parent v) : u ≤ v := by
  induction v using Nat.strong_induction_on generalizing u with
  | _ v ih =>
    rcases (mem_order_iff parent v u).mp h with rfl | ⟨c, hc, _, hu⟩
    · exact Nat.le_refl _
    · exact Nat.le_trans (ih c hc u hu) (Nat.le_of_lt hc)

theorem parent_mem_order (v u : Nat) (h : u ∈ order parent v) (hne : u ≠ v) :
    u < parent.getD u 0 ∧ parent.getD u 0 ∈ order parent v := by
  induction v using Nat.strong_induction_on generalizing u with
  | _ v ih =>
    rcases (mem_order_iff parent v u).mp h with rfl | ⟨c, hc, hpc, hu⟩
    · exact absurd rfl hne
    · by_cases huc : u = c
      · subst huc
        rw [hpc]; exact ⟨hc, self_mem_order parent v⟩
      · obtain ⟨h1, h2⟩ := ih c hc u hu huc
        exact ⟨h1, (mem_order_iff parent v _).mpr (Or.inr ⟨c, hc, hpc, h2⟩)⟩

theorem order_infix (w c : Nat) (h : c ∈ order parent w) :
    order parent c <:+: order parent w := by
  induction w using Nat.strong_induction_on generalizing c with
  | _ w ih =>
    rcases (mem_order_iff parent w c).mp h with rfl | ⟨k, hk, hpk, hc⟩
    · exact List.infix_refl _
    · have h2 : order parent k <:+: (kids parent w).flatMap (order parent) :=
        infix_flatMap_of_mem _ _ k ((mem_kids parent w k).mpr ⟨hk, hpk⟩)
      rw [order_eq parent w]
      exact (ih k hk c hc).trans (h2.trans (List.prefix_append _ _).isInfix)

/-- the blocks that contain a vertex are nested: they belong to a chain of ancestors -/
theorem order_chain {u a b : Nat} (ha : u ∈ order parent a) (hb : u ∈ order parent b)
    (hab : a ≤ b) : a ∈ order parent b := by
  induction a using Nat.strong_induction_on generalizing u with
  | _ a ih =>
    rcases (mem_order_iff parent a u).mp ha with rfl | ⟨c, hc, hpc, hu⟩
    · exact hb
    · have hcb := Nat.lt_of_lt_of_le hc hab
      exact hpc ▸ (parent_mem_order parent b c (ih c hc hu hb (Nat.le_of_lt hcb)) (Nat.ne_of_lt hcb)).2

theorem order_disjoint {v c1 c2 u : Nat} (h1 : c1 ∈ kids parent v)
    (h2 : c2 ∈ kids parent v) (hu1 : u ∈ order parent c1) (hu2 : u ∈ order parent c2) : c1 = c2 := by
  -- of two different children the larger would have `v`, the parent of the smaller, in its block
  have key : ∀ a b, a ∈ kids parent v → b ∈ kids parent v → u ∈ order parent a → u ∈ order parent b → ¬ a < b := by
    intro a b ha hb hua hub hlt
    obtain ⟨_, hpa⟩ := (mem_kids parent v a).mp ha
    obtain ⟨hbv, _⟩ := (mem_kids parent v b).mp hb
    obtain ⟨_, hm⟩ := parent_mem_order parent b a (order_chain parent hua hub (Nat.le_of_lt hlt)) (Nat.ne_of_lt hlt)
    rw [hpa] at hm
    exact Nat.not_le.mpr hbv (le_of_mem_order parent b v hm)
  exact Nat.le_antisymm (Nat.le_of_not_lt (key c2 c1 h2 h1 hu2 hu1)) (Nat.le_of_not_lt (key c1 c2 h1 h2 hu1 hu2))

theorem nodup_kids (v : Nat) : (kids parent v).Nodup :=
  (List.nodup_range).filter _

theorem root_not_mem_kids_order (v : Nat) :
    v ∉ (kids parent v).flatMap (order parent) := by
  intro ha
  obtain ⟨c, hc, hac⟩ := List.mem_flatMap.mp ha
  exact Nat.not_le.mpr ((mem_kids parent v c).mp hc).1 (le_of_mem_order parent c v hac)

theorem nodup_order (v : Nat) : (order parent v).Nodup := by
  induction v using Nat.strong_induction_on with
  | _ v ih =>
    rw [order_eq]
    refine List.nodup_append.mpr ⟨List.nodup_flatMap.mpr ⟨fun c hc => ih c ((mem_kids parent v c).mp hc).1, ?_⟩,
      List.nodup_singleton v, ?_⟩
    · exact (nodup_kids parent v).imp_of_mem fun ha hb hab l hla hlb => hab (order_disjoint parent ha hb hla hlb)
    · intro a ha b hb e
      rw [List.mem_singleton.mp hb] at e
      rw [e] at ha
      exact root_not_mem_kids_order parent v ha

theorem kid_mem_order (u : Nat) (h : u < parent.getD u 0) :
    u ∈ order parent (parent.getD u 0) :=
  (mem_order_iff parent _ u).mpr (Or.inr ⟨u, h, rfl, self_mem_order parent u⟩)

theorem mem_order_trans {u v w : Nat} (h1 : u ∈ order parent v) (h2 : v ∈ order parent w) :
    u ∈ order parent w :=
  (order_infix parent w v h2).subset h1

theorem idxOf_root (v : Nat) :
    (order parent v).idxOf v + 1 = (order parent v).length := by
  rw [order_eq, List.idxOf_append_of_notMem (root_not_mem_kids_order parent v)]; simp

end

/-- heap-ordered forest on `0..n-1` with root marker `n` -/
def Heap (n : Nat) (parent : Array Nat) : Prop :=
  ∀ j < n, parent.getD j 0 = n ∨ (j < parent.getD j 0 ∧ parent.getD j 0 < n)

section
variable {n : Nat} {parent : Array Nat}

theorem Heap.lt (h : Heap n parent) {j : Nat} (hj : j < n) :
    j < parent.getD j 0 ∧ parent.getD j 0 ≤ n := by
  rcases h j hj with e | ⟨a, b⟩
  · rw [e]; exact ⟨hj, Nat.le_refl _⟩
  · exact ⟨a, Nat.le_of_lt b⟩

/-- on a heap-ordered forest every child is smaller than its parent: the children of `d` among `0..n-1` are `kids` -/
theorem filter_range_eq_kids (h : Heap n parent) {d : Nat} (hd : d ≤ n) :
    ((List.range n).filter fun c => parent.getD c 0 == d) = kids parent d := by
  obtain ⟨m, rfl⟩ := Nat.exists_eq_add_of_le hd
  rw [List.range_add, List.filter_append, kids, List.append_right_eq_self, List.filter_eq_nil_iff]
  intro x hx
  obtain ⟨i, hi, rfl⟩ := List.mem_map.mp hx
  have := (h.lt (show d + i < d + m by simpa using hi)).1
  simp only [beq_iff_eq]
  omega

theorem all_mem_order (h : Heap n parent) (u : Nat) (hu : u ≤ n) :
    u ∈ order parent n := by
  induction hd : n - u using Nat.strong_induction_on generalizing u with
  | _ d ih =>
    rcases Nat.lt_or_eq_of_le hu with hlt | rfl
    · obtain ⟨h1, h2⟩ := h.lt hlt
      exact mem_order_trans parent (kid_mem_order parent u h1) (ih (n - parent.getD u 0) (by omega) _ h2 rfl)
    · exact self_mem_order parent _

theorem order_length (h : Heap n parent) : (order parent n).length = n + 1 := by
  have hp : (order parent n).Perm (List.range (n + 1)) :=
    (List.perm_ext_iff_of_nodup (nodup_order parent n) List.nodup_range).mpr fun a => by
      rw [List.mem_range]
      exact ⟨fun ha => Nat.lt_succ_of_le (le_of_mem_order parent n a ha),
        fun ha => all_mem_order h a (Nat.le_of_lt_succ ha)⟩
  rw [hp.length_eq, List.length_range]

/-- `Desc n parent u v`: `v` is reached from `u` by following `parent` zero or more times, every vertex left being
`< n`.  Reflexive, and `Desc n parent v v` holds for every `v`, also for `v ≥ n` (the dummy root and beyond). -/
inductive Desc (n : Nat) (parent : Array Nat) : Nat → Nat → Prop
  | refl (v : Nat) : Desc n parent v v
  | step {u v : Nat} : u < n → Desc n parent (parent.getD u 0) v → Desc n parent u v

/-- the columns `s..e` are exactly the subtree of `e` -/
def Subtree (n : Nat) (parent : Array Nat) (s e : Nat) : Prop :=
  ∀ u, u < n → (Desc n parent u e ↔ s ≤ u ∧ u ≤ e)

theorem Subtree.le {s e : Nat} (h : Subtree n parent s e) (he : e < n) : s ≤ e :=
  ((h e he).mp (Desc.refl e)).1

theorem desc_trans {a b c : Nat} (h1 : Desc n parent a b) (h2 : Desc n parent b c) :
    Desc n parent a c := by
  induction h1 with
  | refl v => exact h2
  | step hu _ ih => exact Desc.step hu (ih h2)

theorem desc_lt_n {u v : Nat} (h : Desc n parent u v) (hv : v < n) : u < n := by
  cases h with
  | refl _ => exact hv
  | step hu _ => exact hu

theorem desc_parent {u v : Nat} (h : Desc n parent u v) (hne : u ≠ v) :
    u < n ∧ Desc n parent (parent.getD u 0) v := by
  cases h with
  | refl _ => exact absurd rfl hne
  | step hu hq => exact ⟨hu, hq⟩

/-- a root (`parent ≥ n`) has no proper ancestor among the vertices -/
theorem desc_top {t b : Nat} (h : Desc n parent t b) (ht : n ≤ parent.getD t 0) (hb : b < n) : t = b := by
  cases h with
  | refl _ => rfl
  | step _ hd =>
    cases hd with
    | refl _ => omega
    | step hlt _ => omega

/-- storing at `t` keeps a path that does not leave `t` -/
theorem Desc.set {n' a b : Nat} (t c : Nat) (h : Desc n parent a b) (hn : n ≤ n')
    (ht : t < n → Desc n parent t b → t = b) : Desc n' (parent.setIfInBounds t c) a b := by
  induction h with
  | refl _ => exact Desc.refl _
  | @step a b ha hd ih =>
    by_cases e : t = a
    · rw [← e, ht (e ▸ ha) (e ▸ Desc.step ha hd)]; exact Desc.refl _
    · exact Desc.step (Nat.lt_of_lt_of_le ha hn) (by rw [Slu.getD_setIfInBounds_ne _ _ _ e]; exact ih ht)

theorem desc_le_of_heap (h : Heap n parent) {u v : Nat} (hd : Desc n parent u v) : u ≤ v := by
  induction hd with
  | refl v => exact Nat.le_refl _
  | step hu _ ih => exact Nat.le_trans (Nat.le_of_lt (h.lt hu).1) ih

theorem desc_of_mem_order {u v : Nat} (hv : v ≤ n)
    (h : u ∈ order parent v) : Desc n parent u v := by
  induction v using Nat.strong_induction_on generalizing u with
  | _ v ih =>
    rcases (mem_order_iff parent v u).mp h with rfl | ⟨c, hc, hpc, hu⟩
    · exact Desc.refl _
    · have hcn := Nat.lt_of_lt_of_le hc hv
      exact desc_trans (ih c hc (Nat.le_of_lt hcn) hu) (Desc.step hcn (by rw [hpc]; exact Desc.refl v))

theorem mem_order_of_desc (hp : Heap n parent) {u v : Nat}
    (h : Desc n parent u v) : u ∈ order parent v := by
  induction h with
  | refl v => exact self_mem_order parent v
  | step hu _ ih => exact mem_order_trans parent (kid_mem_order parent _ (hp.lt hu).1) ih

/-- the decidable form of `Desc` on a heap-ordered forest: "postordered" hypotheses on concrete trees are discharged
through it by evaluation -/
theorem desc_iff_mem_order (h : Heap n parent) {u v : Nat} (hv : v ≤ n) :
    Desc n parent u v ↔ u ∈ order parent v :=
  ⟨mem_order_of_desc h, desc_of_mem_order hv⟩

theorem desc_le_n (h : Heap n parent) {u v : Nat} (hd : Desc n parent u v) (hu : u ≤ n) : v ≤ n := by
  induction hd with
  | refl v => exact hu
  | step hu' _ ih => exact ih (h.lt hu').2

/-- the ancestors of a vertex form a chain (`order_chain` read through `desc_iff_mem_order`) -/
theorem desc_chain (h : Heap n parent) {f a : Nat} (ha : Desc n parent f a) :
    ∀ {b : Nat}, Desc n parent f b → a ≤ b → Desc n parent a b := by
  intro b hb hab
  cases ha with
  | refl _ => exact hb
  | step hf ha' =>
    exact desc_of_mem_order (desc_le_n h hb (Nat.le_of_lt hf))
      (order_chain parent (mem_order_of_desc h (Desc.step hf ha')) (mem_order_of_desc h hb) hab)

/-- counting a subtree through a numbering `f` (`f = id`: `order_length_of_block`; `f` = the postorder:
`HeapCtx.descendants_q`) -/
theorem order_length_of_image (h : Heap n parent) {f : Nat → Nat} {s e v : Nat} (hv : v < n)
    (hinj : ∀ a < n, ∀ b < n, f a = f b → a = b) (hsub : ∀ u, u < n → (Desc n parent u v ↔ s ≤ f u ∧ f u ≤ e))
    (hsurj : ∀ x, s ≤ x → x ≤ e → ∃ u < n, f u = x) : (order parent v).length + s = e + 1 := by
  have hse : s ≤ e + 1 := Nat.le_succ_of_le (Nat.le_trans ((hsub v hv).mp (Desc.refl v)).1 ((hsub v hv).mp (Desc.refl v)).2)
  have hlt : ∀ u ∈ order parent v, u < n := fun u hu => Nat.lt_of_le_of_lt (le_of_mem_order parent v u hu) hv
  have hperm : ((order parent v).map f).Perm (List.range' s (e + 1 - s)) := by
    rw [List.perm_ext_iff_of_nodup ((nodup_order parent v).map_on fun a ha b hb => hinj a (hlt a ha) b (hlt b hb))
      (List.nodup_range' (step := 1) Nat.one_pos)]
    intro x
    rw [List.mem_range'_1, Nat.add_sub_cancel' hse, Nat.lt_succ_iff, List.mem_map]
    constructor
    · rintro ⟨u, hu, rfl⟩
      exact (hsub u (hlt u hu)).mp (desc_of_mem_order (Nat.le_of_lt hv) hu)
    · rintro ⟨a, b⟩
      obtain ⟨u, hu, rfl⟩ := hsurj x a b
      exact ⟨u, mem_order_of_desc h ((hsub u hu).mpr ⟨a, b⟩), rfl⟩
  have := hperm.length_eq
  rw [List.length_map, List.length_range'] at this
  rw [this, Nat.sub_add_cancel hse]

theorem order_length_of_block (h : Heap n parent) {s e : Nat} (he : e < n)
    (hsub : Subtree n parent s e) : (order parent e).length + s = e + 1 :=
  order_length_of_image h (f := id) he (fun _ _ _ _ e => e) hsub fun x _ hx => ⟨x, Nat.lt_of_le_of_lt hx he, rfl⟩

/-- conversely: the vertices of the subtree are `e - s + 1` distinct numbers in `s..e`, so they fill it -/
theorem subtree_of_length (h : Heap n parent) {s e : Nat} (he : e < n)
    (hin : ∀ u < n, Desc n parent u e → s ≤ u) (hlen : (order parent e).length + s = e + 1) : Subtree n parent s e := by
  have hmem : ∀ x, x ∈ List.range' s (order parent e).length ↔ s ≤ x ∧ x ≤ e := fun x => by
    rw [List.mem_range'_1, Nat.add_comm s, hlen, Nat.lt_succ_iff]
  have hperm := (List.subperm_of_subset (nodup_order parent e) fun x hx =>
    have hxe := le_of_mem_order parent e x hx
    (hmem x).mpr ⟨hin x (Nat.lt_of_le_of_lt hxe he) (desc_of_mem_order (Nat.le_of_lt he) hx), hxe⟩).perm_of_length_le
      (Nat.le_of_eq List.length_range')
  intro u _
  rw [desc_iff_mem_order h (Nat.le_of_lt he), hperm.mem_iff, hmem]

theorem treePostorder_getD (n : Nat) (parent : Array Nat) (v : Nat) (hv : v ≤ n) :
    (treePostorder n parent).getD v 0 = (order parent n).idxOf v := by
  unfold treePostorder
  simp only [toArray_getD, List.getD_eq_getElem?_getD]
  rw [List.getElem?_map, List.getElem?_range (by omega)]
  simp

theorem treePostorder_size (n : Nat) (parent : Array Nat) : (treePostorder n parent).size = n + 1 := by
  simp [treePostorder]

theorem post_lt (h : Heap n parent) (v : Nat) (hv : v ≤ n) :
    (treePostorder n parent).getD v 0 < n + 1 := by
  rw [treePostorder_getD n parent v hv, ← order_length h]
  exact List.idxOf_lt_length_of_mem (all_mem_order h v hv)

theorem post_inj (h : Heap n parent) (u v : Nat) (hu : u ≤ n) (hv : v ≤ n)
    (e : (treePostorder n parent).getD u 0 = (treePostorder n parent).getD v 0) : u = v := by
  rw [treePostorder_getD n parent u hu, treePostorder_getD n parent v hv] at e
  exact (List.idxOf_inj (all_mem_order h u hu)).mp e

theorem post_root (h : Heap n parent) :
    (treePostorder n parent).getD n 0 = n := by
  rw [treePostorder_getD n parent n (Nat.le_refl _)]
  have := idxOf_root parent n
  rw [order_length h] at this
  exact Nat.succ.inj this

theorem post_subtree (h : Heap n parent) (v : Nat) (hv : v ≤ n) :
    ∃ lo, ∀ u ≤ n, Desc n parent u v ↔
      lo ≤ (treePostorder n parent).getD u 0 ∧ (treePostorder n parent).getD u 0 ≤ (treePostorder n parent).getD v 0 := by
  obtain ⟨s, t, hst⟩ := order_infix parent n v (all_mem_order h v hv)
  have hn := nodup_order parent n
  refine ⟨s.length, fun u hu => ?_⟩
  rw [treePostorder_getD n parent u hu, treePostorder_getD n parent v hv]
  have hlast : (order parent n).idxOf v + 1 = s.length + (order parent v).length := by
    rw [idxOf_infix hst.symm hn (self_mem_order parent v), Nat.add_assoc, idxOf_root parent v]
  have key := idxOf_infix_iff hst.symm hn (x := u) (all_mem_order h u hu)
  rw [← hlast, Nat.lt_succ_iff] at key
  rw [← key]
  exact ⟨mem_order_of_desc h, desc_of_mem_order hv⟩

theorem post_parent (h : Heap n parent) (v : Nat) (hv : v < n) :
    (treePostorder n parent).getD v 0 < (treePostorder n parent).getD (parent.getD v 0) 0 := by
  obtain ⟨h1, h2⟩ := h.lt hv
  obtain ⟨lo, hlo⟩ := post_subtree h _ h2
  exact Nat.lt_of_le_of_ne ((hlo v (Nat.le_of_lt hv)).mp (Desc.step hv (Desc.refl _))).2
    fun e => Nat.ne_of_lt h1 (post_inj h v _ (Nat.le_of_lt hv) h2 e)

end

section
variable {n : Nat} {et et' : Array Nat} {q : Nat → Nat}

theorem desc_relabel
    (hq : ∀ j < n, q j < n) (hrel : ∀ j < n, et'.getD (q j) 0 = q (et.getD j 0))
    {a b : Nat} (h : Desc n et a b) : Desc n et' (q a) (q b) := by
  induction h with
  | refl v => exact Desc.refl _
  | step hu _ ih => exact Desc.step (hq _ hu) (by rw [hrel _ hu]; exact ih)

theorem desc_unrelabel (hheap : Heap n et)
    (hqn : q n = n) (hinj : ∀ i ≤ n, ∀ j ≤ n, q i = q j → i = j)
    (hrel : ∀ j < n, et'.getD (q j) 0 = q (et.getD j 0))
    {x y : Nat} (h : Desc n et' x y) : ∀ a ≤ n, q a = x → ∃ b ≤ n, q b = y ∧ Desc n et a b := by
  induction h with
  | refl v => intro a ha e; exact ⟨a, ha, e, Desc.refl _⟩
  | step hu _ ih =>
    intro a ha e
    have han : a < n := by
      rcases Nat.lt_or_eq_of_le ha with h | h
      · exact h
      · subst h; rw [hqn] at e; omega
    obtain ⟨b, hb, hqb, hd⟩ := ih (et.getD a 0) (hheap.lt han).2 (by rw [← e, hrel a han])
    exact ⟨b, hb, hqb, Desc.step han hd⟩

/-- `q` numbers the vertices `0..n` of the heap-ordered forest `et` in postorder (`TreePostorder` does:
`isPost_treePostorder`) -/
structure IsPost (n : Nat) (et : Array Nat) (q : Nat → Nat) : Prop where
  lt : ∀ j < n, q j < n
  root : q n = n
  inj : ∀ i ≤ n, ∀ j ≤ n, q i = q j → i = j
  parent : ∀ v < n, q v < q (et.getD v 0)
  subtree : ∀ v ≤ n, ∃ lo, ∀ u ≤ n, Desc n et u v ↔ lo ≤ q u ∧ q u ≤ q v

theorem IsPost.surj (P : IsPost n et q) : ∀ c < n, ∃ j < n, q j = c := fun _ hc =>
  (PermFn.mk P.lt fun i hi j hj => P.inj i (Nat.le_of_lt hi) j (Nat.le_of_lt hj)).surj hc

theorem isPost_treePostorder (h : Heap n et) :
    IsPost n et (fun j => (treePostorder n et).getD j 0) where
  lt j hj := Nat.lt_of_le_of_ne (Nat.le_of_lt_succ (post_lt h j (Nat.le_of_lt hj))) fun e =>
    Nat.ne_of_lt hj (post_inj h j n (Nat.le_of_lt hj) (Nat.le_refl _) (by rw [e, post_root h]))
  root := post_root h
  inj i hi j hj e := post_inj h i j hi hj e
  parent := post_parent h
  subtree := post_subtree h

theorem IsPost.relabel (P : IsPost n et q) (h : Heap n et)
    (hrel : ∀ j < n, et'.getD (q j) 0 = q (et.getD j 0)) :
    Heap n et' ∧ (∀ u < n, ∀ v < n, Desc n et' (q u) (q v) ↔ Desc n et u v) ∧
    ∀ v < n, ∃ lo, Subtree n et' lo v := by
  have hiff : ∀ u < n, ∀ v < n, Desc n et' (q u) (q v) ↔ Desc n et u v := by
    intro u hu v hv
    constructor
    · intro hd
      obtain ⟨b, hb, hqb, hdb⟩ := desc_unrelabel h P.root P.inj hrel hd u (Nat.le_of_lt hu) rfl
      exact P.inj b hb v (Nat.le_of_lt hv) hqb ▸ hdb
    · exact desc_relabel P.lt hrel
  refine ⟨?_, hiff, ?_⟩
  · intro k hk
    obtain ⟨j, hj, rfl⟩ := P.surj k hk
    rw [hrel j hj]
    rcases h j hj with e | ⟨_, e2⟩
    · left; rw [e]; exact P.root
    · exact Or.inr ⟨P.parent j hj, P.lt _ e2⟩
  · intro v hv
    obtain ⟨j, hj, rfl⟩ := P.surj v hv
    obtain ⟨lo, hlo⟩ := P.subtree j (Nat.le_of_lt hj)
    refine ⟨lo, fun u hu => ?_⟩
    obtain ⟨i, hi, rfl⟩ := P.surj u hu
    rw [hiff i hi j hj]
    exact hlo i (Nat.le_of_lt hi)

end

end Slu.Order
