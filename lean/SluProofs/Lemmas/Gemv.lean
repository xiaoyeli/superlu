import SluProofs.Lemmas.Kernels
import SluProofs.Lemmas.Adds
/-
The three stages of `spGemv` (SRC/dsp_blas2.c:430-487: `y := beta*y`, then the column pass for op = N or the dot
products for op = T/C), each with the same three clauses: size, strided entries, everything else untouched.
`sp_gemv_spec` composes them.  The column pass adds to the cells of `y` (`gemvN_adds`: a fold of scatters, composed of
the laws of `Adds` like the residual loop of `gsrfs`, which is the same routine); the other two stages rewrite each cell
once (`foldl_upd_spec`).  Before that: a stored column against a vector, grouped by row index.
-/
namespace Slu.Kernels
open Finset

section scatter
variable {K : Type} [Inhabited K] [AddCommMonoid K]

def scatterAdd (es : List (Nat × K)) (y : Array K) : Array K :=
  es.foldl (fun (y : Array K) e => y.setIfInBounds e.1 (y[e.1]! + e.2)) y

/-- the cell about to be overwritten may be read with any default: out of range nothing is written -/
theorem setIfInBounds_read (y : Array K) (k : Nat) (v : K) :
    y.setIfInBounds k (y[k]! + v) = y.setIfInBounds k (y.getD k 0 + v) := by
  by_cases h : k < y.size
  · rw [getElem!_eq_getD_of_lt y k h]
  · rw [Array.setIfInBounds_eq_of_size_le (by omega), Array.setIfInBounds_eq_of_size_le (by omega)]

theorem scatterAdd_adds (es : List (Nat × K)) :
    Adds (scatterAdd es) fun p => (es.map fun e => if e.1 = p then e.2 else 0).sum := by
  unfold scatterAdd
  simp only [setIfInBounds_read]
  exact Adds.scatter (·.1) (·.2) es

theorem scatterAdd_get_ge (es : List (Nat × K)) (y : Array K) (p : Nat) (hp : y.size ≤ p) :
    (scatterAdd es y)[p]! = y[p]! :=
  getElem!_of_size_le _ y (scatterAdd_adds es y).1 p hp

theorem foldl_if_eq_sum (l : List (Nat × K)) (i : Nat) (g : K → K) (a : K) :
    l.foldl (fun acc e => if e.1 = i then acc + g e.2 else acc) a =
      a + ((l.filter (fun e => e.1 = i)).map (fun e => g e.2)).sum :=
  foldl_ite_add (fun e : Nat × K => e.1 = i) (fun e => g e.2) l a

theorem Uget_eq (A : CSC K) (i j : Nat) : A.get i j = (((A.col j).filter (fun e => e.1 = i)).map (·.2)).sum := by
  have := foldl_if_eq_sum (A.col j) i (fun v => v) (0 : K)
  rwa [zero_add] at this

end scatter

section dot
variable {K : Type} [Inhabited K] [CommSemiring K]

/-- a stored column against a vector `y`, grouped by row: where `D i` is the sum of the stored values with key `i`,
`∑ i ∈ S, D i * y i` runs over the entries as they are stored (`gemvT`, and the gather phases of `sp_trsv`) -/
theorem dot_by_key {α : Type} (l : List α) (key : α → Nat) (val : α → K) (S : Finset Nat) (hl : ∀ a ∈ l, key a ∈ S)
    (D : Nat → K) (hD : ∀ i, i ∈ S → D i = ((l.filter fun a => key a = i).map val).sum) (y : Nat → K) :
    ∑ i ∈ S, D i * y i = (l.map fun a => val a * y (key a)).sum := by
  rw [← sum_keyed l key S _ fun a ha => Or.inl (hl a ha)]
  refine Finset.sum_congr rfl fun i hi => ?_
  rw [hD i hi, ← sum_map_ite_zero, ← List.sum_map_mul_right]
  refine congrArg List.sum (List.map_congr_left fun a _ => ?_)
  split
  · rename_i h; rw [h]
  · exact zero_mul _

end dot

section stages
variable {K : Type} [Field K] [Conj K] [Inhabited K] [BEq K] [LawfulBEq K]

theorem lenX_T (tr : Tr) (htr : tr ≠ Tr.N) (A : CSC K) : lenX tr A = A.m :=
  if_neg (Bool.eq_false_iff.mp (Tr.beq_N_eq_false htr))

theorem lenY_T (tr : Tr) (htr : tr ≠ Tr.N) (A : CSC K) : lenY tr A = A.n :=
  if_neg (Bool.eq_false_iff.mp (Tr.beq_N_eq_false htr))

theorem opEntry_N_eq_get (A : CSC K) (i j : Nat) : opEntry Tr.N A i j = A.get i j := rfl

theorem opEntry_T (tr : Tr) (htr : tr ≠ Tr.N) (A : CSC K) (i j : Nat) :
    opEntry tr A i j = (((A.col i).filter (fun e => e.1 = j)).map (fun e => cj tr e.2)).sum := by
  unfold opEntry
  rw [if_neg (Bool.eq_false_iff.mp (Tr.beq_N_eq_false htr))]
  exact (foldl_if_eq_sum (A.col i) j (fun v => cj tr v) 0).trans (zero_add _)

theorem gemvScale_spec (beta : K) (leny : Nat) (incy : Int) (y : Array K) (hincy : incy ≠ 0)
    (hy : ∀ i, i < leny → vpos leny incy i < y.size) :
    (gemvScale beta leny incy y).size = y.size ∧
    (∀ i, i < leny → (gemvScale beta leny incy y)[vpos leny incy i]! = beta * y[vpos leny incy i]!) ∧
    (∀ p, (∀ i, i < leny → vpos leny incy i ≠ p) → (gemvScale beta leny incy y)[p]! = y[p]!) := by
  unfold gemvScale
  by_cases hb : beta = 1
  · subst hb; simp
  · rw [if_neg (by simpa using hb)]
    -- the model writes the body of this loop (and of `gemvT`) as a β-redex `(fun i v => …) i y[…]!`: the shape of `foldl_upd_spec`
    obtain ⟨h1, h2, h3⟩ := foldl_upd_spec leny (vpos leny incy) (fun _ v => if beta == 0 then 0 else beta * v) y
      (vpos_inj leny incy hincy)
    refine ⟨h1, fun i hi => ?_, h3⟩
    rw [h2 i hi (hy i hi)]
    by_cases h0 : beta = 0 <;> simp [h0]

/-- stage 2, op = N, before the rows are told apart: the pass over the columns is a fold of scatters, the columns with
`x_j = 0` skipped -/
theorem gemvN_adds (alpha : K) (A : CSC K) (x : Array K) (lenx : Nat) (incx : Int) (leny : Nat) (incy : Int) :
    Adds (gemvN alpha A x lenx incx leny incy) fun p => ((List.range A.n).map fun j =>
      ((A.col j).map fun e => if vpos leny incy e.1 = p then alpha * x[vpos lenx incx j]! * e.2 else 0).sum).sum := by
  unfold gemvN
  simp only [setIfInBounds_read]
  exact Adds.foldl (fun j => (Adds.scatter (fun e : Nat × K => vpos leny incy e.1)
    (fun e => alpha * x[vpos lenx incx j]! * e.2) (A.col j)).skip _ fun hz p => by
      simp only [eq_of_beq hz, mul_zero, zero_mul, ite_self, List.sum_map_zero]) (List.range A.n)

theorem gemvN_spec (alpha : K) (A : CSC K) (x : Array K) (lenx : Nat) (incx : Int) (incy : Int) (y : Array K)
    (hincy : incy ≠ 0) (hrows : ∀ j, j < A.n → ∀ e ∈ A.col j, e.1 < A.m)
    (hy : ∀ i, i < A.m → vpos A.m incy i < y.size) :
    (gemvN alpha A x lenx incx A.m incy y).size = y.size ∧
    (∀ i, i < A.m → (gemvN alpha A x lenx incx A.m incy y)[vpos A.m incy i]! =
      y[vpos A.m incy i]! + alpha * ∑ j ∈ range A.n, opEntry Tr.N A i j * x[vpos lenx incx j]!) ∧
    (∀ p, (∀ i, i < A.m → vpos A.m incy i ≠ p) → (gemvN alpha A x lenx incx A.m incy y)[p]! = y[p]!) := by
  obtain ⟨hs, hg⟩ := gemvN_adds alpha A x lenx incx A.m incy y
  have hg' : ∀ p, p < y.size → (gemvN alpha A x lenx incx A.m incy y)[p]! = y[p]! + _ := fun p hp => by
    rw [getElem!_eq_getD_of_lt _ p (hs ▸ hp), getElem!_eq_getD_of_lt y p hp, hg p hp]
  refine ⟨hs, fun i hi => ?_, fun p hp => ?_⟩
  · rw [hg' _ (hy i hi), list_sum_range, Finset.mul_sum]
    refine congrArg _ (Finset.sum_congr rfl fun j hj => ?_)
    have hf : (A.col j).filter (fun e => vpos A.m incy e.1 = vpos A.m incy i) = (A.col j).filter (fun e => e.1 = i) :=
      List.filter_congr fun e he => by
        simp only [decide_eq_decide]
        exact ⟨vpos_inj A.m incy hincy _ _ (hrows j (mem_range.mp hj) e he) hi, fun h => by rw [h]⟩
    rw [sum_map_ite_zero, hf, opEntry_N_eq_get, Uget_eq, List.sum_map_mul_left]
    ring
  · by_cases hps : p < y.size
    · rw [hg' p hps, list_sum_range]
      refine add_eq_left.mpr (Finset.sum_eq_zero fun j hj => ?_)
      rw [sum_map_ite_zero, List.filter_eq_nil_iff.mpr fun e he => by simpa using hp e.1 (hrows j (mem_range.mp hj) e he)]
      rfl
    · exact getElem!_of_size_le _ y hs p (by omega)

theorem gemvT_spec (tr : Tr) (htr : tr ≠ Tr.N) (alpha : K) (A : CSC K) (x : Array K) (lenx : Nat) (incx : Int)
    (incy : Int) (y : Array K) (hincy : incy ≠ 0) (hrows : ∀ j, j < A.n → ∀ e ∈ A.col j, e.1 < A.m)
    (hy : ∀ i, i < A.n → vpos A.n incy i < y.size) :
    (gemvT tr alpha A x lenx incx A.n incy y).size = y.size ∧
    (∀ i, i < A.n → (gemvT tr alpha A x lenx incx A.n incy y)[vpos A.n incy i]! =
      y[vpos A.n incy i]! + alpha * ∑ j ∈ range A.m, opEntry tr A i j * x[vpos lenx incx j]!) ∧
    (∀ p, (∀ i, i < A.n → vpos A.n incy i ≠ p) → (gemvT tr alpha A x lenx incx A.n incy y)[p]! = y[p]!) := by
  obtain ⟨h1, h2, h3⟩ := foldl_upd_spec A.n (vpos A.n incy) (fun (j : Nat) (v : K) => v + alpha *
    (A.col j).foldl (fun (t : K) (e : Nat × K) => t + cj tr e.2 * x[vpos lenx incx e.1]!) 0) y (vpos_inj A.n incy hincy)
  refine ⟨h1, fun i hi => ?_, h3⟩
  -- the inner product of column `i` with x, grouped by row
  rw [gemvT, h2 i hi (hy i hi), foldl_add_eq_sum, zero_add,
    dot_by_key (A.col i) (·.1) (fun e => cj tr e.2) (range A.m) (fun e he => mem_range.mpr (hrows i hi e he)) _
      (fun j _ => opEntry_T tr htr A i j) fun j => x[vpos lenx incx j]!]

theorem spGemm_eq_gstrsTo (tr : Tr) (nc : Nat) (alpha : K) (A : CSC K) (b : Array K) (ldb : Nat) (beta : K) (c : Array K)
    (ldc : Nat) : spGemm tr nc alpha A b ldb beta c ldc =
      gstrsTo (fun j v => spGemv tr alpha A (slice b (ldb * j) (lenX tr A)) 1 beta v 1) (lenY tr A) ldc c nc := rfl

end stages
end Slu.Kernels
