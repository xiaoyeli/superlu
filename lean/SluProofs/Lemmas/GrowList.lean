import Slu.Model.Mem
import SluProofs.Lemmas.Mem
import SluProofs.Lemmas.MemStore
/-
The "growable list" interface through which the factor routines see their four arrays, and its refinement by the
allocator model in either storage mode (C07).
  write t j b   — byte j of array t := b
  grow t len    — `LUMemXpand(…, next = len, t, …)`: the array gets longer; only the first `len`
                  elements are guaranteed to survive (library allocation copies exactly those)
-/
namespace Slu.Mem

inductive COp (β : Type) where
  | write (t : MemType) (j : Int) (b : β)
  | grow (t : MemType) (len : Int)

/-- abstract growable lists: the known bytes of each array -/
abbrev Abs (β : Type) := MemType → Int → Option β

/-- abstract semantics (independent of any storage configuration; `w` only converts the element count of
`grow` into bytes) -/
def astep {β : Type} (w : Words) (a : Abs β) : COp β → Abs β
  | .write t j b => fun t' j' => if t' = t ∧ j' = j then some b else a t' j'
  | .grow t len => fun t' j' => if t' = t ∧ ¬ (0 ≤ j' ∧ j' < len * w.lword t) then none else a t' j'

def arun {β : Type} (w : Words) (a : Abs β) (ops : List (COp β)) : Abs β := ops.foldl (astep w) a

/-- concrete semantics; `none` = the run fails (a write outside the current capacity, or a refused
expansion — the factor routine would return `info > n`).  `write` addresses byte `j` of array `t` through the base the
allocator state holds at that moment (`blk`, `boff`): the client it stands for re-reads the base pointers after every
expansion (tied to the source text by `clients_refresh_pointers`, Props/C07).  `grow` is the `expand` call inside
`LUMemXpand` (`memXpand_eq`), not `memXpand`: the return code of the latter tells a refusal from a grant only when
`memory_usage + n ≠ 0`. -/
def cstep {β : Type} (w : Words) (fail : Nat → Bool) (x : St × Store β) : COp β → Option (St × Store β)
  | .write t j b =>
    if 0 ≤ j ∧ j < x.1.cap t * w.lword t then
      some (x.1, fun blk a => if blk = x.1.blk t ∧ a = x.1.boff t + j then b else x.2 blk a)
    else none
  | .grow t len =>
    match expand_fixed w fail (x.1.nz t) t (decide (t = .USUB)) x.1 with
    | (_, none) => none
    | (s', some _) => some (s', moveStore w t len x.1 s' x.2)

def crun {β : Type} (w : Words) (fail : Nat → Bool) : St × Store β → List (COp β) → Option (St × Store β)
  | x, [] => some x
  | x, op :: ops => match cstep w fail x op with
    | none => none
    | some y => crun w fail y ops

/-- the allocator invariant of whichever mode is in use.  Under library allocation `SysInv` says nothing of the
lengths; what is needed of them is `capB ≤ capU` (a USUB request grows USUB to `nzumax`, so its length must not
shrink by that) and that none is negative (so that `memory_usage`, hence a shortage code, is positive). -/
def GoodInv (w : Words) (s : St) : Prop := Inv w s ∨ (SysInv s ∧ 0 ≤ s.capB ∧ s.capB ≤ s.capU ∧ 0 ≤ s.capL ∧ 0 ≤ s.capS)

def Sim {β : Type} (w : Words) (a : Abs β) (s : St) (σ : Store β) : Prop :=
  ∀ t j b, a t j = some b → 0 ≤ j ∧ j < s.cap t * w.lword t ∧ rbyte σ s t j = b

section
variable {β : Type} (w : Words) (hw : w.Ok)
include hw

theorem noalias (s : St) (hg : GoodInv w s) (t t' : MemType) (j j' : Int)
    (hj0 : 0 ≤ j) (hj : j < s.cap t * w.lword t) (hj0' : 0 ≤ j') (hj' : j' < s.cap t' * w.lword t')
    (hne : ¬ (t' = t ∧ j' = j)) :
    ¬ (s.blk t' = s.blk t ∧ s.boff t' + j' = s.boff t + j) := by
  rcases hg with hinv | ⟨hsys, _⟩
  · -- one buffer: the arrays are in address order
    have p := hinv.layout.placed
    simp only [St.blk, St.boff, hinv.user, if_true, true_and]
    intro h2
    rcases MemType.trichotomy t t' with h | rfl | h
    · have := p.sep hw h; omega
    · exact hne ⟨rfl, by omega⟩
    · have := p.sep hw h; omega
  · -- four different blocks
    simp only [St.blk, St.boff, hsys.user, Bool.false_eq_true, if_false]
    intro ⟨h1, h2⟩
    have r := hsys.range t
    have r' := hsys.range t'
    obtain rfl := hsys.inj (t := t') (t' := t) (by omega)
    exact hne ⟨rfl, by omega⟩

theorem sim_write (a : Abs β) (s : St) (σ : Store β) (hg : GoodInv w s)
    (hs : Sim w a s σ) (t : MemType) (j : Int) (b : β) (hj0 : 0 ≤ j) (hj : j < s.cap t * w.lword t) :
    Sim w (astep w a (.write t j b)) s
      (fun blk ad => if blk = s.blk t ∧ ad = s.boff t + j then b else σ blk ad) := by
  intro t' j' b' h
  simp only [astep] at h
  by_cases hh : t' = t ∧ j' = j
  · rw [if_pos hh] at h
    obtain ⟨h1, h2⟩ := hh
    subst h1; subst h2
    injection h with h; subst h
    refine ⟨hj0, hj, ?_⟩
    simp [rbyte]
  · rw [if_neg hh] at h
    obtain ⟨r1, r2, r3⟩ := hs t' j' b' h
    refine ⟨r1, r2, ?_⟩
    have hna := noalias w hw s hg t t' j j' hj0 hj r1 r2 hh
    simp only [rbyte] at r3 ⊢
    rw [if_neg hna]; exact r3

variable (hld : w.liw ≤ w.dw) (fail : Nat → Bool)
include hld

/-- **growing an array, either mode**.  The clause `t' = t → j < len * w.lword t`: under library allocation only `len`
elements of the grown array are copied into the new block -/
theorem grow_good (t : MemType) (s : St)
    (hg : GoodInv w s) {r : St × Option Int} (hr : expand_fixed w fail (s.nz t) t (decide (t = .USUB)) s = r) {nl : Int}
    (h : r.2 = some nl) :
    GoodInv w r.1 ∧ (∀ t', s.cap t' ≤ r.1.cap t') ∧
    ∀ (σ : Store β) (len : Int) (t' : MemType) (j : Int), 0 ≤ j → j < s.cap t' * w.lword t' →
      (t' = t → j < len * w.lword t) → rbyte (moveStore w t len s r.1 σ) r.1 t' j = rbyte σ s t' j := by
  subst hr
  have hx := expand_later fixed w fail (s.nz t) t (decide (t = .USUB)) s
    (hg.elim Inv.nexp_ne (·.1.nexp_ne))
  have hge : s.cap t ≤ nl := hx.cap_le rfl (hg.elim (·.capBU) (·.2.2.1)) h
  have hk := (hx.len h).1
  have mono : ∀ {c' : MemType → Int}, (∀ t', c' t' = if t' = t then nl else s.cap t') → ∀ t', s.cap t' ≤ c' t' := by
    intro c' e t'
    rw [e]
    split
    · subst_vars; exact hge
    · exact Int.le_refl _
  rcases hx.granted h with ⟨hu, hroom, e⟩ | ⟨hu, c, hc, e⟩
  · have hinv : Inv w s := hg.resolve_right fun ⟨hsys, _⟩ => absurd (hsys.user.symm.trans hu) nofun
    rw [e]
    exact ⟨Or.inl (grown_inv hld hinv (Or.inl rfl) hge (fun ht => hk (decide_eq_true ht)) hroom), mono (grown_cap w t _ nl s),
      fun σ len t' j hj0 hj _ => grown_preserves hw hu hinv.layout.placed t hge σ len t' j hj0 hj⟩
  · obtain ⟨hsys, hB0, _, hL0, hS0⟩ := hg.resolve_left fun hinv => absurd (hu.symm.trans hinv.user) nofun
    rw [e]
    refine ⟨Or.inr ⟨moved_sysInv hsys t hc nl, ?_⟩, mono (moved_cap t c nl s), fun σ len t' j hj0 _ hj => ?_⟩
    · -- the new length: `nzumax` for USUB
      have hU : t = .USUB → nl = s.capU := fun ht => by subst ht; exact hk rfl
      cases t with
      | USUB => have := hU rfl; dsimp only [moved, St.setOff, St.setCap, St.cap] at hge ⊢; omega
      | _ => dsimp only [moved, St.setOff, St.setCap, St.cap] at hge ⊢; omega
    · by_cases ht' : t' = t
      · subst ht'; exact (moved_preserves w hsys hc nl σ len).1 j hj0 (hj rfl)
      · exact (moved_preserves w hsys hc nl σ len).2 t' ht' j

theorem sim_grow (a : Abs β) (s : St)
    (σ : Store β) (hg : GoodInv w s) (hs : Sim w a s σ) (t : MemType) (len : Int) {r : St × Option Int}
    (hr : expand_fixed w fail (s.nz t) t (decide (t = .USUB)) s = r) {nl : Int} (h : r.2 = some nl) :
    GoodInv w r.1 ∧ Sim w (astep w a (.grow t len)) r.1 (moveStore w t len s r.1 σ) := by
  obtain ⟨g1, g2, g3⟩ := grow_good (β := β) w hw hld fail t s hg hr h
  refine ⟨g1, fun t' j b hb => ?_⟩
  simp only [astep] at hb
  split at hb
  · exact absurd hb nofun
  · rename_i hcond
    obtain ⟨r1, r2, r3⟩ := hs t' j b hb
    have := Int.mul_le_mul_of_nonneg_right (g2 t') (hw.lword_pos t').le
    refine ⟨r1, by omega, (g3 σ len t' j r1 r2 fun ht' => ?_).trans r3⟩
    exact Decidable.by_contra fun hlt => hcond ⟨ht', fun hh => hlt hh.2⟩

theorem refine_step (a : Abs β)
    (x y : St × Store β) (op : COp β) (hg : GoodInv w x.1) (hs : Sim w a x.1 x.2)
    (h : cstep w fail x op = some y) : GoodInv w y.1 ∧ Sim w (astep w a op) y.1 y.2 := by
  cases op with
  | write t j b =>
    simp only [cstep] at h
    split at h
    · rename_i hc
      injection h with h; subst h
      exact ⟨hg, sim_write w hw a x.1 x.2 hg hs t j b hc.1 hc.2⟩
    · simp at h
  | grow t len =>
    simp only [cstep] at h
    cases he : expand_fixed w fail (x.1.nz t) t (decide (t = .USUB)) x.1 with
    | mk s' r =>
      rw [he] at h
      cases r with
      | none => exact absurd h nofun
      | some nl =>
        injection h with h; subst h
        exact sim_grow w hw hld fail a x.1 x.2 hg hs t len he rfl

theorem refine_run (ops : List (COp β)) (a : Abs β) (x y : St × Store β) (hg : GoodInv w x.1) (hs : Sim w a x.1 x.2)
    (h : crun w fail x ops = some y) : GoodInv w y.1 ∧ Sim w (arun w a ops) y.1 y.2 := by
  fun_induction crun w fail x ops generalizing a with
  | case1 x => cases h; exact ⟨hg, hs⟩
  | case2 x op ops hc => cases h
  | case3 x op ops z hc ih =>
    obtain ⟨g1, s1⟩ := refine_step w hw hld fail a x z op hg hs hc
    exact ih (astep w a op) g1 s1 h

end

end Slu.Mem
