import Slu.Model.Gssvx
import SluProofs.Lemmas.ArrayBasic
import Mathlib.Algebra.BigOperators.Ring.List
/-
Reads beyond the end of an array return three different values in the statements of C05 and C13: `default` in the
driver (`cell`, `InnerCorrect`), `0` in the LU solves and in the exact reading of `resid` / `denom`, `Ar.kzero` in the
model of `gsrfs`; they meet only at indices in range, through `getD_eq_of_lt` (`getD_default_eq`) and `ArithLaws.kzero`.
-/
namespace Slu.Gssvx
open Slu Slu.Equil Slu.Lacon

section opmul
variable {K : Type} [CommRing K] [HasConj K]

/-- one term of `(op(A) x)_i` -/
def opTerm (op : Op) (x : Nat → K) (i : Nat) (e : Entry K) : K :=
  match op with
  | .N => if e.row = i then e.val * x e.col else 0
  | .T => if e.col = i then e.val * x e.row else 0
  | .C => if e.col = i then HasConj.conj e.val * x e.row else 0
  | .J => if e.row = i then HasConj.conj e.val * x e.col else 0

/-- `(op(A) x)_i` where `A(r,c)` is the sum of the stored entries at `(r,c)` -/
def opMul (op : Op) (es : List (Entry K)) (x : Nat → K) (i : Nat) : K := (es.map (opTerm op x i)).sum

def InRange (n : Nat) (es : List (Entry K)) : Prop := ∀ e ∈ es, e.row < n ∧ e.col < n

theorem opMul_congr (op : Op) (n : Nat) (es : List (Entry K)) (hr : InRange n es) (x x' : Nat → K)
    (h : ∀ k < n, x k = x' k) (i : Nat) : opMul op es x i = opMul op es x' i := by
  unfold opMul
  congr 1
  apply List.map_congr_left
  intro e he
  obtain ⟨h1, h2⟩ := hr e he
  cases op <;> simp only [opTerm, h _ h1, h _ h2]

theorem opMul_neg (op : Op) (es : List (Entry K)) (x : Nat → K) (i : Nat) :
    opMul op es (fun k => -x k) i = -opMul op es x i := by
  unfold opMul
  rw [List.sum_neg, List.map_map]
  refine congrArg List.sum (List.map_congr_left fun e _ => ?_)
  cases op <;> simp only [opTerm, Function.comp, mul_neg, neg_ite, neg_zero]

end opmul

/-- `A x` and `conj(A) x` read the rows of the stored matrix, `A' x` and `A^H x` its columns -/
def Op.rowLike : Op → Bool
  | .N | .J => true
  | .T | .C => false

/-- after the SLU_NR flip, `notran` says whether the DOCUMENTED operator reads rows of the stored matrix -/
theorem notran_eq_rowLike (o : Opts) : (effTrans o.rowStored o.trans).2 = (docOp o).rowLike := by
  rcases o with ⟨tr, _, rs, _⟩
  cases rs <;> cases tr <;> rfl

/-- `gstrs(trant)` solves the documented operator, except for SLU_NR with CONJ -/
theorem docOp_eq_implOp (o : Opts) (h : ¬ (o.rowStored = true ∧ o.trans = .C)) : docOp o = implOp o := by
  rcases o with ⟨tr, _, rs, _⟩
  cases rs <;> cases tr
  case true.C => exact absurd ⟨rfl, rfl⟩ h
  all_goals rfl

section arr
variable {K : Type} [Inhabited K]

/-- entry `(i, j)` of a column-major array with leading dimension `ld` -/
def cell (M : Array K) (ld i j : Nat) : K := M.getD (i + j * ld) default

theorem idx_mod {n ld i j : Nat} (hi : i < n) (hn : n ≤ ld) : (i + j * ld) % ld = i := by
  rw [Nat.add_mul_mod_self_right]; exact Nat.mod_eq_of_lt (Nat.lt_of_lt_of_le hi hn)

theorem idx_div {n ld i j : Nat} (hi : i < n) (hn : n ≤ ld) : (i + j * ld) / ld = j := by
  have hld : i < ld := Nat.lt_of_lt_of_le hi hn
  rw [Nat.add_mul_div_right _ _ (Nat.zero_lt_of_lt hld), Nat.div_eq_of_lt hld, Nat.zero_add]

theorem idx_lt {n nrhs ld i j sz : Nat} (hi : i < n) (hn : n ≤ ld) (hj : j < nrhs) (hs : ld * nrhs ≤ sz) :
    i + j * ld < sz :=
  calc i + j * ld < j * ld + ld := by omega
    _ = (j + 1) * ld := (Nat.succ_mul j ld).symm
    _ ≤ nrhs * ld := Nat.mul_le_mul_right ld hj
    _ = ld * nrhs := Nat.mul_comm _ _
    _ ≤ sz := hs

variable (n nrhs ld : Nat) (M : Array K)

/-- the shape of the driver's loop nests over B and X (dgssvx.c:609-624, 642-652): cell `k = i + j*ld` of the
leading `n` rows of the first `nrhs` columns becomes `g k x`, every other cell keeps its value; `scaleMat`,
`copyMat` and `setCols` are this for three functions `g` (`scaleMat_eq`, `copyMat_eq`, `setCols_eq`) -/
def mapBlock (g : Nat → K → K) : Array K :=
  M.mapIdx fun k x => if k % ld < n ∧ k / ld < nrhs then g k x else x

structure AgreeOutside (M' : Array K) : Prop where
  size : M'.size = M.size
  outside : ∀ k, ¬ (k % ld < n ∧ k / ld < nrhs) → M'[k]? = M[k]?

omit [Inhabited K] in
theorem AgreeOutside.trans {n nrhs ld : Nat} {M M' M'' : Array K} (h : AgreeOutside n nrhs ld M M')
    (h' : AgreeOutside n nrhs ld M' M'') : AgreeOutside n nrhs ld M M'' :=
  ⟨h'.size.trans h.size, fun k hk => (h'.outside k hk).trans (h.outside k hk)⟩

omit [Inhabited K] in
theorem mapBlock_agree (g : Nat → K → K) :
    AgreeOutside n nrhs ld M (mapBlock n nrhs ld M g) := by
  refine ⟨Array.size_mapIdx, fun k h => ?_⟩
  simp only [mapBlock, Array.getElem?_mapIdx, if_neg h]
  exact Option.map_id'

variable {R : Type} [Mag K R]

omit [Inhabited K] in
theorem scaleMat_eq (s : Nat → R) :
    scaleMat n nrhs ld M s = mapBlock n nrhs ld M fun k x => Mag.rscale x (s (k % ld)) := rfl

omit [Inhabited K] in
theorem setCols_eq (f : Nat → Array K) :
    setCols n nrhs ld M f = mapBlock n nrhs ld M fun k x => (f (k / ld)).getD (k % ld) x := rfl

omit [Inhabited K] in
theorem copyMat_eq (ldb : Nat) (B : Array K) :
    copyMat n nrhs ldb ld B M = mapBlock n nrhs ld M fun k x => B.getD (k % ld + k / ld * ldb) x := rfl

omit [Inhabited K] in
theorem setCols_agree (f : Nat → Array K) : AgreeOutside n nrhs ld M (setCols n nrhs ld M f) :=
  setCols_eq n nrhs ld M f ▸ mapBlock_agree n nrhs ld M _

omit [Inhabited K] in
theorem copyMat_agree (ldb : Nat) (B : Array K) : AgreeOutside n nrhs ld M (copyMat n nrhs ldb ld B M) :=
  copyMat_eq n nrhs ld M ldb B ▸ mapBlock_agree n nrhs ld M _

section cells
variable {i j : Nat} (hi : i < n) (hn : n ≤ ld) (hj : j < nrhs) (hs : ld * nrhs ≤ M.size)
include hi hn hj hs

theorem mapBlock_cell (g : Nat → K → K) :
    cell (mapBlock n nrhs ld M g) ld i j = g (i + j * ld) (cell M ld i j) := by
  have hlt := idx_lt hi hn hj hs
  simp only [cell, mapBlock, Array.getD_eq_getD_getElem?, Array.getElem?_mapIdx, Array.getElem?_eq_getElem hlt,
    Option.map_some, Option.getD_some, idx_mod hi hn, idx_div hi hn, hi, hj, and_self, if_true]

theorem scaleMat_cell (s : Nat → R) : cell (scaleMat n nrhs ld M s) ld i j = Mag.rscale (cell M ld i j) (s i) := by
  rw [scaleMat_eq, mapBlock_cell n nrhs ld M hi hn hj hs, idx_mod hi hn]

/-- a column shorter than `n` leaves the cells beyond its end as they were -/
theorem setCols_cell (f : Nat → Array K) :
    cell (setCols n nrhs ld M f) ld i j = (f j).getD i (cell M ld i j) := by
  rw [setCols_eq, mapBlock_cell n nrhs ld M hi hn hj hs, idx_mod hi hn, idx_div hi hn]

end cells

theorem copyMat_cell (n nrhs ldb ldx : Nat) (B X : Array K) (i j : Nat) (hi : i < n) (hnb : n ≤ ldb) (hnx : n ≤ ldx)
    (hj : j < nrhs) (hsb : ldb * nrhs ≤ B.size) (hsx : ldx * nrhs ≤ X.size) :
    cell (copyMat n nrhs ldb ldx B X) ldx i j = cell B ldb i j := by
  rw [copyMat_eq, mapBlock_cell n nrhs ldx X hi hnx hj hsx, idx_mod hi hnx, idx_div hi hnx]
  exact getD_eq_of_lt B _ (idx_lt hi hnb hj hsb) _ _

variable (notran : Bool) (q : Equed) (r c : Nat → R)

omit [Inhabited K] in
theorem scaleB_eq :
    scaleB notran q n nrhs ld M r c =
      if (if notran then Equed.rowequ q else Equed.colequ q) then scaleMat n nrhs ld M (if notran then r else c)
      else M := by
  cases notran <;> rfl

omit [Inhabited K] in
theorem scaleB_agree : AgreeOutside n nrhs ld M (scaleB notran q n nrhs ld M r c) := by
  rw [scaleB_eq]
  cases (if notran then Equed.rowequ q else Equed.colequ q)
  · exact ⟨rfl, fun _ _ => rfl⟩
  · rw [if_pos rfl, scaleMat_eq]
    exact mapBlock_agree n nrhs ld M _

omit [Inhabited K] in
/-- undoing the scaling of X is scaling with the other array -/
theorem unscaleX_eq : unscaleX notran q n nrhs ld M r c = scaleB (!notran) q n nrhs ld M r c := by
  cases notran <;> rfl

/-- what a scaling loop guarded by a flag of `equed` does to one value of row `i` -/
def sclBy (f : Bool) (s : Nat → R) (i : Nat) (v : K) : K := if f then Mag.rscale v (s i) else v

section cells
variable {i j : Nat} (hi : i < n) (hn : n ≤ ld) (hj : j < nrhs) (hs : ld * nrhs ≤ M.size)
include hi hn hj hs

theorem scaleB_cell :
    cell (scaleB notran q n nrhs ld M r c) ld i j =
      sclBy (if notran then Equed.rowequ q else Equed.colequ q) (if notran then r else c) i (cell M ld i j) := by
  rw [scaleB_eq, sclBy]
  generalize (if notran then Equed.rowequ q else Equed.colequ q) = f
  cases f
  · rfl
  · exact scaleMat_cell n nrhs ld M hi hn hj hs _

theorem unscaleX_cell :
    cell (unscaleX notran q n nrhs ld M r c) ld i j =
      sclBy (if notran then Equed.colequ q else Equed.rowequ q) (if notran then c else r) i (cell M ld i j) := by
  rw [unscaleX_eq, scaleB_cell n nrhs ld M _ q r c hi hn hj hs]
  cases notran <;> rfl

end cells

theorem colOf_size (j : Nat) : (colOf n ld M j).size = n := by
  rw [colOf, Array.size_map, Array.size_range]

theorem colOf_getD (j i : Nat) (hi : i < n) : (colOf n ld M j).getD i default = cell M ld i j :=
  getD_map_arrayRange n _ default hi

end arr

section equ
variable {K R : Type} [Mag K R]
variable [Zero R] [One R] [Mul R] [Div R] [LT R] [DecidableLT R] [LE R] [DecidableLE R] [BEq R]

variable (equil : Bool) (n : Nat) (es : List (Entry K)) (M : Mach R) (r0 c0 : Nat → R)

/-- the two ways the equilibration step ends: nothing is scaled (`Equil = NO`, `gsequ` found a zero row
or column, or `n = 0`), or `gsequ` succeeded, R and C are its factors and `laqgs` chose `equed` -/
theorem equilStep_cases :
    let e := equilStep equil n es M r0 c0
    let o := gsequ n n es M.sml M.big
    (e.equed = .N ∧ e.aout = es.map (·.val)) ∨
    (n ≠ 0 ∧ o.info = 0 ∧ e.r = o.r.getD r0 ∧ e.c = o.c.getD c0 ∧ e.aout = es.map (laqgsEntry e.equed e.r e.c)) := by
  intro e o
  simp only [e, o]
  unfold equilStep
  cases equil
  · exact Or.inl ⟨rfl, rfl⟩
  · simp only [Bool.not_true, Bool.false_eq_true, if_false]
    split
    · exact Or.inl ⟨rfl, rfl⟩
    · rename_i hinfo
      by_cases hn : n = 0
      · exact Or.inl (by simp only [laqgs, hn, true_or, if_true, and_self])
      · exact Or.inr ⟨hn, not_not.mp hinfo, rfl, rfl, by simp only [laqgs, hn, or_self, if_false]⟩

theorem equilStep_aout :
    (equilStep equil n es M r0 c0).aout =
      es.map (laqgsEntry (equilStep equil n es M r0 c0).equed (equilStep equil n es M r0 c0).r (equilStep equil n es M r0 c0).c) := by
  rcases equilStep_cases equil n es M r0 c0 with ⟨hq, ha⟩ | ⟨_, _, _, _, ha⟩
  · rw [ha, hq]; rfl
  · exact ha

theorem equilStep_noequil :
    equilStep false n es M r0 c0 = { equed := .N, r := r0, c := c0, aout := es.map (·.val) } := rfl

end equ

theorem solved_of_lt {facOk : Bool} {j nrhs : Nat} (hf : facOk = true) (hj : j < nrhs) : ¬ (facOk = false ∨ nrhs = 0) := by
  rintro (h | h)
  · rw [hf] at h; cases h
  · omega

section driver
variable {K R : Type} [Mag K R] [HasConj K] [Inhabited K]
variable [Zero R] [One R] [Mul R] [Div R] [LT R] [DecidableLT R] [LE R] [DecidableLE R] [BEq R]
variable (d : Bool) (o : Opts) (M : Mach R) (n nrhs ldb ldx : Nat) (es : List (Entry K))
  (r0 c0 : Nat → R) (B X : Array K) (inner : Trans → Array K → Array K)

/-- The driver in one equation.  The outcome of the equilibration is handed through whatever happens afterwards;
when nothing is solved (singular factorization or `nrhs = 0`) B and X are left alone, otherwise B is scaled and X
is the unscaled solution of the copy of the scaled B (dgssvx.c:609-652). -/
theorem gssvx_eq (facOk : Bool) :
    gssvx d o M n nrhs ldb ldx es r0 c0 B X facOk inner =
      let e := equilStep o.equil n es M r0 c0
      let notran := (effTrans o.rowStored o.trans).2
      let B1 := scaleB notran e.equed n nrhs ldb B e.r e.c
      let X1 := copyMat n nrhs ldb ldx B1 X
      { equed := e.equed, r := e.r, c := e.c, aout := e.aout,
        bout := if facOk = false ∨ nrhs = 0 then B else B1,
        x := if facOk = false ∨ nrhs = 0 then X else
          unscaleX notran e.equed n nrhs ldx (setCols n nrhs ldx X1 fun j => solveCol d o inner (colOf n ldx X1 j))
            e.r e.c } := by
  have hc : ((!facOk) = true ∨ nrhs = 0) ↔ (facOk = false ∨ nrhs = 0) := by rw [Bool.not_eq_true']
  simp only [gssvx, hc]
  split <;> rfl

/-- **X inside the block, any arithmetic.**  When something is solved, column `j` of X on exit is the solve of
column `j` of the B left behind (the scaled B), scaled by the other array when `equed` names it; `equed`, R, C
are those of the equilibration step, which the driver returns (`gssvx_eq`).  The clause on `bout` stands under
`∀ j < nrhs` because only with a right-hand side does the driver take the branch that scales B. -/
theorem gssvx_X_col (hb : n ≤ ldb) (hx : n ≤ ldx) (hB : ldb * nrhs ≤ B.size) (hX : ldx * nrhs ≤ X.size) :
    let out := gssvx d o M n nrhs ldb ldx es r0 c0 B X true inner
    let e := equilStep o.equil n es M r0 c0
    let notran := (effTrans o.rowStored o.trans).2
    ∀ j < nrhs,
      out.bout = scaleB notran e.equed n nrhs ldb B e.r e.c ∧
      ∀ i < n, cell out.x ldx i j =
        sclBy (if notran then Equed.colequ e.equed else Equed.rowequ e.equed) (if notran then e.c else e.r) i
          ((solveCol d o inner (colOf n ldb out.bout j)).getD i (cell out.bout ldb i j)) := by
  intro out e notran j hj
  simp only [out, gssvx_eq, if_neg (solved_of_lt rfl hj)]
  generalize hB1 : scaleB notran e.equed n nrhs ldb B e.r e.c = B1
  refine ⟨rfl, fun i hi => ?_⟩
  have hsB : ldb * nrhs ≤ B1.size := by rw [← hB1]; exact hB.trans_eq (scaleB_agree ..).size.symm
  have hsX : ldx * nrhs ≤ (copyMat n nrhs ldb ldx B1 X).size := hX.trans_eq (copyMat_agree n nrhs ldx X ldb _).size.symm
  -- the solver is handed column `j` of the scaled B
  have hcol : colOf n ldx (copyMat n nrhs ldb ldx B1 X) j = colOf n ldb B1 j :=
    Array.map_congr_left fun k hk => copyMat_cell n nrhs ldb ldx B1 X k j (Array.mem_range.mp hk) hb hx hj hsB hX
  rw [unscaleX_cell n nrhs ldx _ _ _ _ _ hi hx hj (hsX.trans_eq (setCols_agree n nrhs ldx _ _).size.symm),
    setCols_cell n nrhs ldx _ hi hx hj hsX, hcol,
    copyMat_cell n nrhs ldb ldx B1 X i j hi hb hx hj hsB hX]

end driver

end Slu.Gssvx
