import SluProofs.Lemmas.Gssvx
import SluProofs.Lemmas.SumBasic
import SluProofs.Lemmas.CxRing
import Mathlib.Algebra.BigOperators.Ring.List
import Mathlib.Algebra.BigOperators.Ring.Finset
set_option linter.unnecessarySeqFocus false
namespace Slu.Gssvx
open Slu Slu.Equil Slu.Lacon

/-- laws of the real scaling `x * r` (`zd_mult`) and of conjugation; `iota r` in the field names is
`Mag.rscale 1 r`, the image of the real factor `r` in `K` (`iota` below) -/
class ScalarLaws (K : Type) [CommRing K] [Mag K Rat] [HasConj K] : Prop where
  rscale_eq : ∀ (x : K) (r : Rat), Mag.rscale x r = x * Mag.rscale (1 : K) r
  iota_mul : ∀ r s : Rat, Mag.rscale (1 : K) (r * s) = Mag.rscale (1 : K) r * Mag.rscale (1 : K) s
  iota_one : Mag.rscale (1 : K) (1 : Rat) = 1
  conj_mul : ∀ x y : K, HasConj.conj (x * y) = HasConj.conj x * HasConj.conj y
  conj_add : ∀ x y : K, HasConj.conj (x + y) = HasConj.conj x + HasConj.conj y
  conj_zero : HasConj.conj (0 : K) = 0
  conj_conj : ∀ x : K, HasConj.conj (HasConj.conj x) = x
  conj_iota : ∀ r : Rat, HasConj.conj (Mag.rscale (1 : K) r) = Mag.rscale (1 : K) r

instance : ScalarLaws Rat where
  rscale_eq x r := by simp [Mag.rscale]
  iota_mul r s := by simp [Mag.rscale]
  iota_one := by simp [Mag.rscale]
  conj_mul _ _ := rfl
  conj_add _ _ := rfl
  conj_zero := rfl
  conj_conj _ := rfl
  conj_iota _ := rfl

instance : ScalarLaws (Cx Rat) where
  rscale_eq x r := by ext <;> simp [Mag.rscale]
  iota_mul r s := by ext <;> simp [Mag.rscale]
  iota_one := by ext <;> simp [Mag.rscale]
  conj_mul x y := by ext <;> simp [HasConj.conj] <;> ring
  conj_add x y := by ext <;> simp [HasConj.conj] <;> ring
  conj_zero := by ext <;> simp [HasConj.conj]
  conj_conj x := by ext <;> simp [HasConj.conj]
  conj_iota r := by ext <;> simp [HasConj.conj, Mag.rscale]

section eqentries
variable {K : Type}

/-- the EQuilibrated entries: the stored entries with their values replaced by `vals` (`aout` of the
equilibration step) -/
def eqEntries (es : List (Entry K)) (vals : List K) : List (Entry K) :=
  List.zipWith (fun e v => { e with val := v }) es vals

theorem eqEntries_map (es : List (Entry K)) (f : Entry K → K) :
    eqEntries es (es.map f) = es.map fun e => { e with val := f e } := by
  induction es with
  | nil => rfl
  | cons e t ih => simp only [eqEntries, List.map_cons, List.zipWith_cons_cons] at ih ⊢; rw [ih]

theorem eqEntries_inRange (n : Nat) (es : List (Entry K)) (vals : List K) (h : InRange n es) :
    InRange n (eqEntries es vals) := by
  intro e he
  rw [eqEntries, ← List.map_uncurry_zip_eq_zipWith] at he
  obtain ⟨⟨a, v⟩, hav, rfl⟩ := List.mem_map.mp he
  exact h a (List.of_mem_zip hav).1

end eqentries

section alg
variable {K : Type} [CommRing K] [Mag K Rat] [HasConj K] [ScalarLaws K]

def iota (r : Rat) : K := Mag.rscale (1 : K) r

theorem rscale_iota (x : K) (r : Rat) : Mag.rscale x r = x * iota r := ScalarLaws.rscale_eq x r
theorem iota_mul (r s : Rat) : (iota (r * s) : K) = iota r * iota s := ScalarLaws.iota_mul r s
@[simp] theorem iota_one : (iota 1 : K) = 1 := ScalarLaws.iota_one
theorem conj_iota (r : Rat) : HasConj.conj (iota r : K) = iota r := ScalarLaws.conj_iota r

theorem iota_cancel {r : Rat} (hr : r ≠ 0) {a b : K} (h : iota r * a = iota r * b) : a = b := by
  have h1 : (iota r⁻¹ : K) * iota r = 1 := by rw [← iota_mul, inv_mul_cancel₀ hr, iota_one]
  calc a = iota r⁻¹ * iota r * a := by rw [h1, one_mul]
    _ = iota r⁻¹ * iota r * b := by rw [mul_assoc, h, ← mul_assoc]
    _ = b := by rw [h1, one_mul]

def conjRingHom : K →+* K where
  toFun := HasConj.conj
  map_one' := by rw [← iota_one (K := K), conj_iota]
  map_mul' := ScalarLaws.conj_mul
  map_zero' := ScalarLaws.conj_zero
  map_add' := ScalarLaws.conj_add

theorem conjRingHom_apply (z : K) : conjRingHom z = HasConj.conj z := rfl

theorem conj_list_sum (l : List K) : HasConj.conj l.sum = (l.map HasConj.conj).sum :=
  map_list_sum conjRingHom l

variable (op : Op) (sr sc : Nat → Rat) (es : List (Entry K))

def scaleEs : List (Entry K) :=
  es.map fun e => { e with val := e.val * iota (sr e.row) * iota (sc e.col) }

omit [HasConj K] [ScalarLaws K] in
theorem scaleEs_inRange (n : Nat) (h : InRange n es) : InRange n (scaleEs sr sc es) := by
  intro e he
  obtain ⟨e0, he0, rfl⟩ := List.mem_map.mp he
  exact h e0 he0

/-- `op(D_r A D_c) y = D_out op(A) (D_in y)`: for the row-like operators `D_out = D_r`, `D_in = D_c`
(`(D_r A D_c) y = D_r (A (D_c y))`), for the column-like ones the other way round
(`(D_r A D_c)' y = D_c (A' (D_r y))`); the factors are real, so conjugation does not see them. -/
theorem opMul_scale (y : Nat → K) (i : Nat) :
    opMul op (scaleEs sr sc es) y i =
      iota ((if op.rowLike then sr else sc) i) *
        opMul op es (fun k => iota ((if !op.rowLike then sr else sc) k) * y k) i := by
  unfold opMul scaleEs
  rw [List.map_map, ← List.sum_map_mul_left]
  congr 1
  apply List.map_congr_left
  intro e _
  cases op <;>
    simp only [opTerm, Function.comp, Op.rowLike, Bool.not_true, Bool.not_false, ↓reduceIte, Bool.false_eq_true,
      ScalarLaws.conj_mul, conj_iota]
  all_goals
    split
    · rename_i h; subst h; ring
    · rw [mul_zero]

/-- solving the scaled system and scaling the solution solves the original one -/
theorem scaled_solve (y : Nat → K) (b : K) (i : Nat)
    (h0 : (if op.rowLike then sr else sc) i ≠ 0)
    (h : opMul op (scaleEs sr sc es) y i = iota ((if op.rowLike then sr else sc) i) * b) :
    opMul op es (fun k => iota ((if !op.rowLike then sr else sc) k) * y k) i = b := by
  rw [opMul_scale] at h
  exact iota_cancel h0 h

theorem opMul_J (x : Nat → K) (i : Nat) :
    opMul .J es x i = HasConj.conj (opMul .N es (fun k => HasConj.conj (x k)) i) := by
  unfold opMul
  rw [conj_list_sum, List.map_map]
  congr 1
  apply List.map_congr_left
  intro e _
  simp only [opTerm, Function.comp]
  split
  · rw [ScalarLaws.conj_mul, ScalarLaws.conj_conj]
  · rw [ScalarLaws.conj_zero]

end alg

section dense
variable {K : Type} [CommRing K]

/-- dense reading of a stored entry list over any scalar type: entry `(r,c)` is the sum of the
stored values at `(r,c)` (`denseAt` of Lemmas/RefineDense.lean writes the same sum out again over `Rat`:
`denseAt_eq_denseK`) -/
def denseK (es : List (Entry K)) (r c : Nat) : K :=
  (es.map fun e => if e.row = r ∧ e.col = c then e.val else 0).sum

/-- a sum over stored items picked by their output index `r`, against a vector read at their input
index `c`, is the dense row sum over `0..n-1`, provided `x` vanishes at the input indices beyond `n` -/
theorem sum_pick {α : Type} (es : List α) (r c : α → Nat) (v : α → K) (x : Nat → K) (n i : Nat)
    (h : ∀ e ∈ es, c e < n ∨ x (c e) = 0) :
    ∑ j ∈ Finset.range n, (es.map fun e => if r e = i ∧ c e = j then v e else 0).sum * x j =
      (es.map fun e => if r e = i then v e * x (c e) else 0).sum := by
  rw [← sum_keyed es c (Finset.range n) _ fun e he => (h e he).imp Finset.mem_range.mpr fun hx => by rw [hx, mul_zero, ite_self]]
  refine Finset.sum_congr rfl fun j _ => ?_
  rw [← List.sum_map_mul_right]
  refine congrArg List.sum (List.map_congr_left fun e _ => ?_)
  by_cases hc : c e = j
  · subst hc; simp only [and_true, if_true, ite_mul, zero_mul]
  · simp only [hc, and_false, if_false, zero_mul]

theorem map_denseK (f : K →+* K) (es : List (Entry K)) (r c : Nat) :
    f (denseK es r c) = (es.map fun e => if e.row = r ∧ e.col = c then f e.val else 0).sum := by
  unfold denseK
  rw [map_list_sum, List.map_map]
  congr 1
  apply List.map_congr_left
  intro e _
  simp only [Function.comp]
  split
  · rfl
  · exact map_zero f

variable [HasConj K] (n : Nat) (es : List (Entry K)) (x : Nat → K) (i : Nat)

theorem opMul_N_dense (h : ∀ e ∈ es, e.col < n ∨ x e.col = 0) :
    opMul .N es x i = ∑ c ∈ Finset.range n, denseK es i c * x c :=
  (sum_pick es Entry.row Entry.col Entry.val x n i h).symm

theorem opMul_T_dense (h : ∀ e ∈ es, e.row < n ∨ x e.row = 0) :
    opMul .T es x i = ∑ r ∈ Finset.range n, denseK es r i * x r := by
  simp only [denseK, and_comm (a := Entry.row _ = _)]
  exact (sum_pick es Entry.col Entry.row Entry.val x n i h).symm

theorem opMul_C_dense [Mag K Rat] [ScalarLaws K] (h : ∀ e ∈ es, e.row < n ∨ x e.row = 0) :
    opMul .C es x i = ∑ r ∈ Finset.range n, HasConj.conj (denseK es r i) * x r := by
  simp only [← conjRingHom_apply, map_denseK, and_comm (a := Entry.row _ = _)]
  exact (sum_pick es Entry.col Entry.row (fun e => conjRingHom e.val) x n i h).symm

end dense

section fac
variable {K : Type} [CommRing K] [Mag K Rat] [HasConj K] [ScalarLaws K]

/-- a scaling array that is in force only when `equed` names it -/
def fac (f : Bool) (s : Nat → Rat) : Nat → Rat := fun i => if f then s i else 1
def rowFac (q : Equed) (r : Nat → Rat) : Nat → Rat := fac (Equed.rowequ q) r
def colFac (q : Equed) (c : Nat → Rat) : Nat → Rat := fac (Equed.colequ q) c

theorem fac_ne_zero {f : Bool} {s : Nat → Rat} (h : f = true → ∀ i, 0 < s i) (i : Nat) : fac f s i ≠ 0 := by
  cases f
  · exact one_ne_zero
  · exact ne_of_gt (h rfl i)

/-- whatever `equed` says, the stored value becomes `a * rowFac * colFac`: the four outcomes N, R, C, B are
the four ways of replacing R or C by 1 -/
theorem laqgsEntry_exact (q : Equed) (r c : Nat → Rat) (e : Entry K) :
    laqgsEntry q r c e = e.val * iota (rowFac q r e.row) * iota (colFac q c e.col) := by
  cases q <;>
    simp only [laqgsEntry, rowFac, colFac, fac, Equed.rowequ, Equed.colequ, if_true, Bool.false_eq_true, if_false,
      rscale_iota, iota_mul, iota_one, mul_one]
  ring

theorem eqEntries_laqgs (es : List (Entry K)) (q : Equed) (r c : Nat → Rat) :
    eqEntries es (es.map (laqgsEntry q r c)) = scaleEs (rowFac q r) (colFac q c) es := by
  rw [eqEntries_map, scaleEs]
  apply List.map_congr_left
  intro e _
  rw [laqgsEntry_exact]

theorem sclBy_exact (f : Bool) (s : Nat → Rat) (i : Nat) (v : K) : sclBy f s i v = iota (fac f s i) * v := by
  cases f
  · simp only [sclBy, fac, Bool.false_eq_true, if_false, iota_one, one_mul]
  · simp only [sclBy, fac, if_true, rscale_iota, mul_comm]

end fac
end Slu.Gssvx
