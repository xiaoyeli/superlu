import SluProofs.Lemmas.GssvxExact
import SluProofs.Lemmas.Solve
import SluProofs.Lemmas.SolveT
import SluProofs.Lemmas.PermFn
/-
C05 end to end: the LU model (`Slu.LU.luFactor`, `gstrsN`, `gstrsT`) as the inner solver of the expert driver
model `Slu.Gssvx.gssvx`, on the matrix the driver hands to `gstrf`, `A_eq * Pc` (the convention of `gssv_solves`,
Props/C01.lean).
-/
namespace Slu.Gssvx
open Slu Slu.Equil Slu.Lacon Slu.LU Finset

section getD
variable {K : Type} [Zero K]

theorem list_getD_zero (l : List K) (h : ∀ z ∈ l, z = 0) (t : Nat) : l.getD t 0 = 0 := by
  rw [List.getD_eq_getElem?_getD]
  cases ht : l[t]? with
  | none => rfl
  | some v => exact h v (List.mem_of_getElem? ht)

theorem map_range_getD_zero (n : Nat) (g : Nat → K) (hg : ∀ i, g i = 0) (i : Nat) :
    ((Array.range n).map g).getD i 0 = 0 := by
  simp only [Array.getD_eq_getD_getElem?, Array.getElem?_map]
  cases (Array.range n)[i]? with
  | none => rfl
  | some v => simp [hg]

end getD

section lu
variable {K : Type} [Field K] [Mag K Rat] [HasConj K] [ScalarLaws K]

/-- the column of A that the column order `permC` sends to position `j` of the factored matrix
(`perm_c[c] = j`; the lookup `gstrsT` itself uses) -/
def invPermC (n : Nat) (permC : Array Nat) (j : Nat) : Nat :=
  ((List.range n).find? fun c => permC.getD c 0 = j).getD 0

/-- the factorization parameters of the expert driver: the matrix handed to `gstrf` is `A_eq * Pc`,
i.e. column `permC[c]` of the factored matrix is the dense column `c` of the equilibrated stored
entry list (duplicates summed); threshold, candidate orders and the pivot memory are free -/
def luParams (n : Nat) (esEq : List (Entry K)) (permC : Array Nat) (u : Rat) (order : Nat → List Nat)
    (oldPiv diagRow : Nat → Nat) : Params K Rat :=
  { m := n, n := n, col := fun j => (Array.range n).map fun i => denseK esEq i (invPermC n permC j),
    u := u, order := order, oldPiv := oldPiv, diagRow := diagRow }

/-- `gstrs(trans)` on the factors `st` with column order `permC` -/
def solveLU (st : St K) (permC : Array Nat) : Trans → Array K → Array K
  | .N, b => gstrsN st.piv st.L st.U permC b
  | .T, b => gstrsT id st.piv st.L st.U permC b
  | .C, b => gstrsT HasConj.conj st.piv st.L st.U permC b

/-- the inner solver of the expert driver built from the LU model: factor `A_eq * Pc`, then
`gstrs(trans)` with the factors; `usepr := false` because with Fact = DOFACT `gstrf` does not reuse an
earlier row permutation (dgstrf.c: `usepr = (fact == SamePattern_SameRowPerm)`) -/
def innerLU (n : Nat) (esEq : List (Entry K)) (permC : Array Nat) (u : Rat) (order : Nat → List Nat)
    (oldPiv diagRow : Nat → Nat) : Trans → Array K → Array K :=
  solveLU (luFactor (luParams n esEq permC u order oldPiv diagRow) false) permC

section params
variable (n : Nat) (esEq : List (Entry K)) (permC : Array Nat) (u : Rat) (order : Nat → List Nat)
  (oldPiv diagRow : Nat → Nat)

omit [Mag K Rat] [HasConj K] [ScalarLaws K] in
theorem luParams_col_size (j : Nat) : ((luParams n esEq permC u order oldPiv diagRow).col j).size = n := by
  show ((Array.range n).map _).size = n
  rw [Array.size_map, Array.size_range]

omit [Mag K Rat] [HasConj K] [ScalarLaws K] in
theorem luParams_col_get (hperm : ((List.range n).map fun c => permC.getD c 0).Perm (List.range n))
    (c : Nat) (hc : c < n) (i : Nat) (hi : i < n) :
    ((luParams n esEq permC u order oldPiv diagRow).col (permC.getD c 0)).get i = denseK esEq i c := by
  have hinv : invPermC n permC (permC.getD c 0) = c :=
    (PermFn.of_perm hperm).find_inv hc
  show Vec.get ((Array.range n).map fun i => denseK esEq i (invPermC n permC (permC.getD c 0))) i = _
  rw [hinv]
  simp [Vec.get, Array.getD_eq_getD_getElem?, hi]

end params

theorem getD_default_eq [Inhabited K] (a : Array K) (k : Nat) (hk : k < a.size) : a.getD k default = a.getD k 0 :=
  getD_eq_of_lt a k hk _ _

/-- **The LU model is a correct inner solver.**  If the invariant of C02 holds for the factors of
`A_eq * Pc`, the three solves `gstrs(NOTRANS / TRANS / CONJ)` return vectors of length n with
`op(A_eq) x = b` in the entry-list reading `opMul` used by C05. -/
theorem solveLU_correct [Inhabited K] (n : Nat) (esEq : List (Entry K)) (hes : InRange n esEq) (permC : Array Nat)
    (u : Rat) (order : Nat → List Nat) (oldPiv diagRow : Nat → Nat) (st : St K)
    (inv : Inv (luParams n esEq permC u order oldPiv diagRow) st n)
    (hpc : permC.size = n)
    (hperm : ((List.range n).map fun c => permC.getD c 0).Perm (List.range n))
    (tr : Trans) (b : Array K) (hb : b.size = n) :
    (solveLU st permC tr b).size = n ∧
    ∀ i < n, opMul (opOfTrans tr) esEq (fun k => (solveLU st permC tr b).getD k default) i = b.getD i default := by
  let P := luParams n esEq permC u order oldPiv diagRow
  have hsq : P.m = P.n := rfl
  have hcol : ∀ j, (P.col j).size = P.m := luParams_col_size n esEq permC u order oldPiv diagRow
  have hsz : (solveLU st permC tr b).size = n := by
    cases tr
    · exact (Array.size_map ..).trans (Array.size_range.trans hpc)
    · exact (gstrsT_size ..).trans inv.sizes.1
    · exact (gstrsT_size ..).trans inv.sizes.1
  refine ⟨hsz, fun i hi => ?_⟩
  -- `InnerCorrect` and `cell` read arrays with `default`, the solve theorems with `0`: in range they agree
  have hx : ∀ k < n, (solveLU st permC tr b).getD k default = Vec.get (solveLU st permC tr b) k :=
    fun k hk => getD_default_eq _ k (hsz ▸ hk)
  have hcolv := luParams_col_get n esEq permC u order oldPiv diagRow hperm
  rw [getD_default_eq b i (hb ▸ hi)]
  cases tr
  · rw [opOfTrans, opMul_N_dense n esEq _ i (fun e he => Or.inl (hes e he).2)]
    refine Eq.trans (Finset.sum_congr rfl fun c hc => ?_) (gstrsN_solves P st hsq inv hcol permC hpc hperm b hb i hi)
    rw [hcolv c (Finset.mem_range.mp hc) i hi, hx c (Finset.mem_range.mp hc)]; rfl
  · rw [opOfTrans, opMul_T_dense n esEq _ i (fun e he => Or.inl (hes e he).1)]
    refine Eq.trans (Finset.sum_congr rfl fun r hr => ?_) (gstrsT_solves (RingHom.id K) P st hsq inv permC hperm b i hi)
    rw [hcolv i hi r (Finset.mem_range.mp hr), hx r (Finset.mem_range.mp hr)]; rfl
  · rw [opOfTrans, opMul_C_dense n esEq _ i (fun e he => Or.inl (hes e he).1)]
    refine Eq.trans (Finset.sum_congr rfl fun r hr => ?_) (gstrsT_solves conjRingHom P st hsq inv permC hperm b i hi)
    rw [hcolv i hi r (Finset.mem_range.mp hr), hx r (Finset.mem_range.mp hr)]; rfl

end lu

section zero
variable {K : Type} [Field K]

theorem elim_zero (prev : List (Nat × Vec K)) (w : Vec K) (hw : ∀ i, w.getD i 0 = 0) :
    ∀ y ∈ (elim prev w).2, y = 0 := by
  induction prev generalizing w with
  | nil => simp [elim]
  | cons pl rest ih =>
    obtain ⟨p, l⟩ := pl
    have hp : w.get p = 0 := hw p
    simp only [elim, hp, axpy_zero]
    intro y hy
    rcases List.mem_cons.mp hy with rfl | hy
    · rfl
    · exact ih w hw y hy

theorem substStep_zero (c : Nat → K) (zs : List K) (hz : ∀ z ∈ zs, z = 0) (k : Nat) (d : K) :
    (List.range k).foldl (fun s t => s - c t * zs.getD t 0) 0 / d = 0 := by
  rw [foldl_sub_range]
  simp only [list_getD_zero _ hz, mul_zero, Finset.sum_const_zero, sub_zero, zero_div]

theorem triBack_zero (M : Nat → Nat → K) (y : Nat → K) (hy : ∀ i, y i = 0) (n k : Nat) :
    ∀ z ∈ triBack M y n k, z = 0 := by
  induction k with
  | zero => intro z hz; cases hz
  | succ k ih =>
    intro z hz
    rcases List.mem_cons.mp hz with rfl | hz
    · rw [hy]; exact substStep_zero _ _ ih k _
    · exact ih z hz

theorem backSub_zero (U : Array (Array K)) (y : Array K) (hy : ∀ i, y.getD i 0 = 0) (n k : Nat) :
    ∀ z ∈ backSub U y n k, z = 0 := by
  rw [backSub_eq_triBack]
  exact triBack_zero _ _ hy n k

section solves
variable (piv : Array Nat) (L : Array (Vec K)) (U : Array (Array K)) (permC : Array Nat) (w : Vec K)
  (hw : ∀ i, w.getD i 0 = 0) (i : Nat)
include hw

theorem gstrsN_zero : (gstrsN piv L U permC w).getD i 0 = 0 := by
  unfold gstrsN
  apply map_range_getD_zero
  intro c
  simp only [backSolve]
  rw [Array.getD_eq_getD_getElem?, List.getElem?_toArray, ← List.getD_eq_getElem?_getD]
  apply list_getD_zero
  apply backSub_zero
  intro t
  rw [Array.getD_eq_getD_getElem?, List.getElem?_toArray, ← List.getD_eq_getElem?_getD]
  exact list_getD_zero _ (elim_zero _ w hw) t

theorem gstrsT_zero (f : K → K) : (gstrsT f piv L U permC w).getD i 0 = 0 := by
  unfold gstrsT
  apply map_range_getD_zero
  intro c
  apply list_getD_zero
  apply triBack_zero
  intro k
  apply list_getD_zero
  apply triBack_zero
  intro a
  exact hw _

end solves

/-- the hypothesis `hlin` of `refine_noop_of_solution`, for any factors and a vector of any length -/
theorem solveLU_zero (st : St K) [HasConj K] (permC : Array Nat) (tr : Trans) (w : Array K)
    (hw : ∀ i, w.getD i 0 = 0) (i : Nat) : (solveLU st permC tr w).getD i 0 = 0 := by
  cases tr
  · exact gstrsN_zero _ _ _ _ w hw i
  · exact gstrsT_zero _ _ _ _ w hw i _
  · exact gstrsT_zero _ _ _ _ w hw i _
end zero
end Slu.Gssvx
