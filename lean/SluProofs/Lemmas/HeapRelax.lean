import Slu.Model.Order
import SluProofs.Lemmas.Order
import SluProofs.Lemmas.Relax
import SluProofs.Lemmas.Fold
/-
Lemmas for `heapRelaxSnode_ranges` (C10): heap_relax_snode.c on ANY heap-ordered forest.

The routine numbers the forest in postorder (`q = TreePostorder`, `iv = inv_post`), relabels it (`et'`) and runs
the loop of relax_snode on `et'`: it goes through `rounds` of `et'`, which are (`rounds_run`) the maximal
subtrees of `et'` with fewer than `relax` proper descendants, each a block `j..last` of postorder labels.  Every
block is translated back to the caller's labels: the images `iv j .. iv last` are the vertices of the subtree of
`iv last` in the caller's forest.  `iv last` is their maximum (heap order), `k` their minimum; they are
`last - j + 1` distinct numbers in `k..iv last`, so `iv last - k = last - j` iff they fill the interval
(`subtree_of_length`, `order_length_of_block`).  In that case `relax_end[k] = iv last` is recorded, otherwise every leaf of the block
is recorded as a supernode of one column (`HeapWr`).  The loop only stores: it is the flat list of the stores of
its rounds (`stores`, `heapLoop_eq_stores`), and what it leaves is `HeapEnd` (`heapEnd_of`, any heap-ordered forest).
relax_snode is the same loop with the identity for `iv` (`relaxLoop_eq_heap`, `relaxSnode_heapEnd`); on a
postordered forest the identity meets what is asked of the postorder (`heapCtx_id`), so what is proved of `HeapEnd`
holds of both routines.
-/
namespace Slu.Order

theorem mem_blk {j last i : Nat} (h : j ≤ last) :
    i ∈ (List.range (last + 1 - j)).map (· + j) ↔ j ≤ i ∧ i ≤ last := by
  rw [show (fun x => x + j) = (fun x => j + x) from funext fun x => Nat.add_comm x j, ← List.range'_eq_map_range,
    List.mem_range'_1, Nat.add_sub_cancel' (Nat.le_succ_of_le h), Nat.lt_succ_iff]

/-- heap_relax_snode.c:103-105, `k = n; for i in L: k = SUPERLU_MIN(k, f i)` is a running minimum -/
theorem minFold_eq (f : Nat → Nat) (L : List Nat) (init : Nat) :
    L.foldl (fun k i => if f i < k then f i else k) init = L.foldl (fun k i => min k (f i)) init :=
  List.foldl_ext _ _ _ fun k i _ => by
    by_cases h : f i < k
    · rw [if_pos h, Nat.min_eq_right (Nat.le_of_lt h)]
    · rw [if_neg h, Nat.min_eq_left (Nat.le_of_not_lt h)]

/-- `k`, the least caller's label in the block `j..last` of postorder labels -/
def blockMin (n : Nat) (iv : Nat → Nat) (j last : Nat) : Nat :=
  ((List.range (last + 1 - j)).map (· + j)).foldl (fun k i => if iv i < k then iv i else k) n

theorem blockMin_spec {n : Nat} {iv : Nat → Nat} {j last : Nat} (hb : j ≤ last) (hj : iv j < n) :
    (∀ i, j ≤ i → i ≤ last → blockMin n iv j last ≤ iv i) ∧
    ∃ i, j ≤ i ∧ i ≤ last ∧ blockMin n iv j last = iv i := by
  unfold blockMin
  rw [minFold_eq]
  refine ⟨fun i h1 h2 => Slu.foldl_min_le_mem iv _ n ((mem_blk hb).mpr ⟨h1, h2⟩), ?_⟩
  rcases Slu.foldl_min_attained iv ((List.range (last + 1 - j)).map (· + j)) n with e | ⟨i, hi, e⟩
  · have := Slu.foldl_min_le_mem iv _ n ((mem_blk hb).mpr ⟨Nat.le_refl j, hb⟩)
    omega
  · exact ⟨i, ((mem_blk hb).mp hi).1, ((mem_blk hb).mp hi).2, e.symm⟩

/-- the body of the main loop, heap_relax_snode.c:103-123, for the block `b = (snode_start, last)`; `iv = inv_post` -/
def heapStep (n : Nat) (desc : Array Nat) (iv : Nat → Nat) (re : Array Int) (b : Nat × Nat) : Array Int :=
  if iv b.2 - blockMin n iv b.1 b.2 = b.2 - b.1 then re.setIfInBounds (blockMin n iv b.1 b.2) (Int.ofNat (iv b.2))
  else ((List.range (b.2 + 1 - b.1)).map (· + b.1)).foldl
    (fun re i => if desc.getD i 0 == 0 then re.setIfInBounds (iv i) (Int.ofNat (iv i)) else re) re

theorem heapRelaxLoop_eq (n relax : Nat) (et desc invp : Array Nat) (fuel j : Nat) (re : Array Int) :
    heapRelaxLoop n relax et desc invp fuel j re =
      (rounds n relax et desc fuel j).foldl (heapStep n desc (fun i => invp.getD i 0)) re := by
  fun_induction rounds n relax et desc fuel j generalizing re with
  | case1 j => rfl
  | case2 f j hj => rw [heapRelaxLoop, if_pos hj]; rfl
  | case3 f j hj ih => rw [heapRelaxLoop, if_neg hj]; exact ih _

/-- what the round `b` stores: `x` at position `p` of `relax_end` -/
def HeapWr (n : Nat) (desc : Array Nat) (iv : Nat → Nat) (b : Nat × Nat) (p : Nat) (x : Int) : Prop :=
  (iv b.2 - blockMin n iv b.1 b.2 = b.2 - b.1 ∧ p = blockMin n iv b.1 b.2 ∧ x = Int.ofNat (iv b.2)) ∨
  (iv b.2 - blockMin n iv b.1 b.2 ≠ b.2 - b.1 ∧ x = Int.ofNat p ∧
    ∃ i, b.1 ≤ i ∧ i ≤ b.2 ∧ desc.getD i 0 = 0 ∧ iv i = p)

/-- the stores of the round `b = (snode_start, last)`, heap_relax_snode.c:103-123: one store `relax_end[k] = l`
if the block is contiguous in the caller's labels, else `relax_end[i] = i` for every leaf of the block.  The main
loop is the flat list of the stores of its rounds (`heapLoop_eq_stores`), to which `foldl_stores` applies. -/
def stores (n : Nat) (desc : Array Nat) (iv : Nat → Nat) (b : Nat × Nat) : List (Nat × Int) :=
  if iv b.2 - blockMin n iv b.1 b.2 = b.2 - b.1 then [(blockMin n iv b.1 b.2, Int.ofNat (iv b.2))]
  else (((List.range (b.2 + 1 - b.1)).map (· + b.1)).filter fun i => desc.getD i 0 == 0).map
    fun i => (iv i, Int.ofNat (iv i))

theorem heapStep_eq (n : Nat) (desc : Array Nat) (iv : Nat → Nat) (re : Array Int) (b : Nat × Nat) :
    heapStep n desc iv re b = (stores n desc iv b).foldl (fun re w => re.setIfInBounds w.1 w.2) re := by
  unfold heapStep stores
  split
  · rfl
  · conv_rhs => rw [List.foldl_map, List.foldl_filter]

theorem heapLoop_eq_stores (n : Nat) (desc : Array Nat) (iv : Nat → Nat) (L : List (Nat × Nat)) (re : Array Int) :
    L.foldl (heapStep n desc iv) re =
      (L.flatMap (stores n desc iv)).foldl (fun re w => re.setIfInBounds w.1 w.2) re := by
  rw [List.foldl_flatMap]
  exact List.foldl_ext _ _ _ fun re b _ => heapStep_eq n desc iv re b

section step
variable {n : Nat} {desc : Array Nat} {iv : Nat → Nat} {b : Nat × Nat} {p : Nat} {x : Int}

theorem mem_stores (hb : b.1 ≤ b.2) : (p, x) ∈ stores n desc iv b ↔ HeapWr n desc iv b p x := by
  unfold stores HeapWr
  split
  · rename_i hc
    simp only [List.mem_singleton, Prod.mk.injEq, hc, true_and, ne_eq, not_true_eq_false, false_and, or_false]
  · rename_i hc
    simp only [List.mem_map, List.mem_filter, mem_blk hb, beq_iff_eq, Prod.mk.injEq, hc, false_and, false_or,
      ne_eq, not_false_eq_true, true_and]
    constructor
    · rintro ⟨i, ⟨⟨h1, h2⟩, hd⟩, rfl, rfl⟩
      exact ⟨rfl, i, h1, h2, hd, rfl⟩
    · rintro ⟨rfl, i, h1, h2, hd, rfl⟩
      exact ⟨i, ⟨⟨h1, h2⟩, hd⟩, rfl, rfl⟩

/-- every store of a round goes to a cell `< n` whose number under `q`, a left inverse of `iv`, lies in its block;
the blocks being disjoint (`sorted_intervals_disjoint`), a cell is stored to by one round only -/
theorem HeapWr.pos {q : Nat → Nat} (hw : HeapWr n desc iv b p x) (hb : b.1 ≤ b.2) (hl : b.2 < n)
    (hiv : ∀ i < n, iv i < n) (hqiv : ∀ i < n, q (iv i) = i) : p < n ∧ b.1 ≤ q p ∧ q p ≤ b.2 := by
  have key : ∀ i, b.1 ≤ i → i ≤ b.2 → iv i = p → p < n ∧ b.1 ≤ q p ∧ q p ≤ b.2 := fun i h1 h2 e => by
    have hi := Nat.lt_of_le_of_lt h2 hl
    rw [← e, hqiv i hi]
    exact ⟨hiv i hi, h1, h2⟩
  rcases hw with ⟨_, rfl, _⟩ | ⟨_, _, i, h1, h2, _, e⟩
  · obtain ⟨_, i, h1, h2, e⟩ := blockMin_spec (iv := iv) hb (hiv _ (Nat.lt_of_le_of_lt hb hl))
    exact key i h1 h2 e.symm
  · exact key i h1 h2 e

theorem HeapWr.val_unique {x' : Int} (hw : HeapWr n desc iv b p x) (hw' : HeapWr n desc iv b p x') : x = x' := by
  rcases hw with ⟨hc, _, rfl⟩ | ⟨hc, rfl, _⟩
  · rcases hw' with ⟨_, _, rfl⟩ | ⟨hc', _⟩
    · rfl
    · exact absurd hc hc'
  · rcases hw' with ⟨hc', _⟩ | ⟨_, rfl, _⟩
    · exact absurd hc' hc
    · rfl

end step

/-- `re` is what the main loop leaves: for every round, what `HeapWr` says, and EMPTY where no round stores -/
structure HeapEnd (n relax : Nat) (et' : Array Nat) (iv : Nat → Nat) (re : Array Int) : Prop where
  size : re.size = n
  hit : ∀ b ∈ runRounds n relax et', ∀ p x, HeapWr n (descendants n et') iv b p x → re.getD p (-1) = x
  miss : ∀ p, p < n → (∀ b ∈ runRounds n relax et', ∀ x, ¬ HeapWr n (descendants n et') iv b p x) →
    re.getD p (-1) = -1

/-- `iv` with its left inverse `q`: `inv_post` and the postorder (heap_relax_snode), or the identity (relax_snode) -/
theorem heapEnd_of {n relax : Nat} {et' : Array Nat} {iv q : Nat → Nat} (h : Heap n et')
    (hiv : ∀ i < n, iv i < n) (hqiv : ∀ i < n, q (iv i) = i) :
    HeapEnd n relax et' iv ((runRounds n relax et').foldl
      (heapStep n (descendants n et') iv) (Array.replicate n (-1))) := by
  obtain ⟨r1, r2⟩ := rounds_sorted (relax := relax) (desc := descendants n et') h (n + 1) 0
  rw [heapLoop_eq_stores]
  obtain ⟨w1, w2, w3⟩ := Slu.foldl_stores (fun w : Nat × Int => w.1) (fun w => w.2) (-1)
    ((runRounds n relax et').flatMap (stores n (descendants n et') iv)) (Array.replicate n (-1))
  rw [Array.size_replicate] at w1 w2
  refine ⟨w1, fun b hb p x hw => ?_, fun p hp hno => (w3 p fun w hw e => ?_).trans (replicate_getD _ _ _ _ hp)⟩
  · obtain ⟨hp, h1, h2⟩ := hw.pos (r1 b hb).le (r1 b hb).lt hiv hqiv
    refine w2 (p, x) (List.mem_flatMap.mpr ⟨b, hb, (mem_stores (r1 b hb).le).mpr hw⟩) hp ?_
    -- another store to the same cell belongs to the same round
    rintro ⟨p', x'⟩ hw' (rfl : p' = p)
    obtain ⟨b', hb', hm'⟩ := List.mem_flatMap.mp hw'
    have hw'' := (mem_stores (r1 b' hb').le).mp hm'
    obtain ⟨_, h1', h2'⟩ := hw''.pos (r1 b' hb').le (r1 b' hb').lt hiv hqiv
    rw [← sorted_intervals_disjoint r2 hb hb' h1 h2 h1' h2'] at hw''
    exact hw''.val_unique hw
  · obtain ⟨b, hb, hm⟩ := List.mem_flatMap.mp hw
    obtain ⟨p', x⟩ := w
    exact hno b hb x ((mem_stores (r1 b hb).le).mp (e ▸ hm))

/-- what heap_relax_snode sets up before its main loop: `q` = the postorder of the caller's forest `et`,
`iv` = its inverse (`inv_post`), `et'` = the forest renumbered in postorder labels, in which the subtree of
every `v` is the block `lo v .. v`.  Of `q` only this is used: a bijection of `0..n-1` fixing `n` under which `et'` is
heap ordered, postordered and has the descendants of `et` (`IsPost.relabel` for TreePostorder; trivial for the identity
on a postordered forest, `heapCtx_id`) -/
structure HeapCtx (n : Nat) (et et' : Array Nat) (q iv lo : Nat → Nat) : Prop where
  heap : Heap n et
  qlt : ∀ j, j < n → q j < n
  qroot : q n = n
  rel : ∀ j, j < n → et'.getD (q j) 0 = q (et.getD j 0)
  heap' : Heap n et'
  post : PostBy n et' lo
  desc_iff : ∀ u, u < n → ∀ v, v < n → (Desc n et' (q u) (q v) ↔ Desc n et u v)
  ivlt : ∀ i, i < n → iv i < n
  qiv : ∀ i, i < n → q (iv i) = i
  ivq : ∀ j, j < n → iv (q j) = j

section ctx
variable {n relax : Nat} {et et' : Array Nat} {q iv lo : Nat → Nat} (C : HeapCtx n et et' q iv lo)
include C

theorem HeapCtx.q_block {u v : Nat} (hu : u < n) (hv : v < n) : Desc n et u v ↔ lo (q v) ≤ q u ∧ q u ≤ q v := by
  rw [← C.desc_iff u hu v hv]
  exact C.post (q v) (C.qlt v hv) (q u) (C.qlt u hu)

theorem HeapCtx.iv_block {u i : Nat} (hu : u < n) (hi : i < n) : Desc n et u (iv i) ↔ lo i ≤ q u ∧ q u ≤ i := by
  have := C.q_block hu (C.ivlt i hi)
  rwa [C.qiv i hi] at this

theorem HeapCtx.descendants_q {v : Nat} (hv : v < n) :
    (descendants n et').getD (q v) 0 = (descendants n et).getD v 0 := by
  have hqv := C.qlt v hv
  have h1 := descendants_eq C.heap v hv
  have h2 := C.post.descendants_add C.heap' (q v) hqv
  have h3 := order_length_of_image C.heap (f := q) (s := lo (q v)) (e := q v) hv
    (fun a ha b hb e => by rw [← C.ivq a ha, e, C.ivq b hb]) (fun u hu => C.q_block hu hv)
    (fun x _ hx => ⟨iv x, C.ivlt x (Nat.lt_of_le_of_lt hx hqv), C.qiv x (Nat.lt_of_le_of_lt hx hqv)⟩)
  omega

theorem HeapCtx.descendants_block {v : Nat} (hv : v < n) {lo' : Nat}
    (hl' : ∀ u ≤ n, Desc n et u v ↔ lo' ≤ q u ∧ q u ≤ q v) :
    (descendants n et').getD (q v) 0 = q v - lo' := by
  have hqv := C.qlt v hv
  rw [C.post.descendants C.heap' (q v) hqv, C.post.lo_unique hqv (lo' := lo') fun u' hu' => ?_]
  rw [← C.qiv u' hu', C.desc_iff _ (C.ivlt u' hu') v hv]
  exact hl' _ (Nat.le_of_lt (C.ivlt u' hu'))

theorem HeapCtx.stops_iff {e : Nat} (he : e < n) :
    Stops n relax et' (descendants n et') (q e) ↔ Stops n relax et (descendants n et) e := by
  unfold Stops
  rw [C.rel e he]
  rcases C.heap e he with hp | ⟨_, hp⟩
  · rw [hp, C.qroot]; simp
  · rw [C.descendants_q hp]
    exact or_congr ⟨fun c => absurd c (Nat.ne_of_lt (C.qlt _ hp)), fun c => absurd c (Nat.ne_of_lt hp)⟩ Iff.rfl

theorem HeapCtx.leaf_q {k : Nat} (hk : k < n) (hleaf : ∀ u < n, Desc n et u k → u = k) :
    (descendants n et').getD (q k) 0 = 0 := by
  have hqk := C.qlt k hk
  have hlt := Nat.lt_of_le_of_lt (C.post.lo_le _ hqk) hqk
  have := congrArg q (hleaf _ (C.ivlt _ hlt)
    ((C.q_block (C.ivlt _ hlt) hk).mpr (by rw [C.qiv _ hlt]; exact ⟨Nat.le_refl _, C.post.lo_le _ hqk⟩)))
  rw [C.qiv _ hlt] at this
  exact (C.post.desc_eq_zero (C.post.descendants_add C.heap') hqk).mpr this

/-! #### one block `j..last` of postorder labels that is a whole subtree of `et'` -/

variable {j last : Nat}

theorem HeapCtx.block_sub (hl : last < n) (hlo : lo last = j) {u : Nat} (hu : u < n) :
    Desc n et u (iv last) ↔ j ≤ q u ∧ q u ≤ last := by
  have := C.iv_block hu hl
  rwa [hlo] at this

theorem HeapCtx.blockMin_mem (hb : j ≤ last) (hl : last < n) :
    blockMin n iv j last < n ∧ j ≤ q (blockMin n iv j last) ∧ q (blockMin n iv j last) ≤ last := by
  obtain ⟨_, i, h1, h2, e⟩ := blockMin_spec (iv := iv) hb (C.ivlt j (Nat.lt_of_le_of_lt hb hl))
  have hi := Nat.lt_of_le_of_lt h2 hl
  rw [e, C.qiv i hi]
  exact ⟨C.ivlt i hi, h1, h2⟩

theorem HeapCtx.block_range (hb : j ≤ last) (hl : last < n) (hlo : lo last = j) {u : Nat} (hu : u < n)
    (h1 : j ≤ q u) (h2 : q u ≤ last) : blockMin n iv j last ≤ u ∧ u ≤ iv last := by
  have := (blockMin_spec (iv := iv) hb (C.ivlt j (Nat.lt_of_le_of_lt hb hl))).1 (q u) h1 h2
  rw [C.ivq u hu] at this
  exact ⟨this, desc_le_of_heap C.heap ((C.block_sub hl hlo hu).mpr ⟨h1, h2⟩)⟩

/-- the contiguity test `(l - k) == (j - snode_start)` succeeds exactly when the subtree of `iv last` in the
caller's forest consists of the consecutive columns `k .. iv last` -/
theorem HeapCtx.block_contig_iff (hb : j ≤ last) (hl : last < n) (hlo : lo last = j) :
    iv last - blockMin n iv j last = last - j ↔ Subtree n et (blockMin n iv j last) (iv last) := by
  have he := C.ivlt last hl
  -- the subtree of `iv last` has `last - j + 1` vertices, as many as the block
  have hlen : (order et (iv last)).length + j = last + 1 := by
    rw [← descendants_eq C.heap _ he, ← C.descendants_q he, C.qiv last hl, Nat.add_right_comm, ← hlo,
      C.post.descendants_add C.heap' last hl]
  have hk := (blockMin_spec (iv := iv) hb (C.ivlt j (Nat.lt_of_le_of_lt hb hl))).1 last hb (Nat.le_refl _)
  have harith : iv last - blockMin n iv j last = last - j ↔
      (order et (iv last)).length + blockMin n iv j last = iv last + 1 := by
    rw [Nat.sub_eq_iff_eq_add hk, Nat.eq_sub_of_add_eq hlen, Nat.sub_add_comm hb, Nat.add_right_comm,
      Nat.add_right_cancel_iff, eq_comm]
  refine harith.trans ⟨fun hc => subtree_of_length C.heap he (fun u hu hd => ?_) hc, order_length_of_block C.heap he⟩
  obtain ⟨a, b⟩ := (C.block_sub hl hlo hu).mp hd
  exact (C.block_range hb hl hlo hu a b).1

theorem HeapCtx.block_lo_eq (hb : j ≤ last) (hl : last < n) (hlo : lo last = j) {s : Nat}
    (hsub : Subtree n et s (iv last)) : s = blockMin n iv j last := by
  obtain ⟨k1, k2, k3⟩ := C.blockMin_mem hb hl
  have hln := C.ivlt last hl
  have hsl := hsub.le hln
  have hs := Nat.lt_of_le_of_lt hsl hln
  obtain ⟨a, b⟩ := (C.block_sub hl hlo hs).mp ((hsub s hs).mpr ⟨Nat.le_refl _, hsl⟩)
  exact Nat.le_antisymm ((hsub _ k1).mp ((C.block_sub hl hlo k1).mpr ⟨k2, k3⟩)).1 (C.block_range hb hl hlo hs a b).1

theorem HeapCtx.leaf_sub {i : Nat} (hi : i < n) (hlo : lo i = i) {u : Nat} (hu : u < n) :
    Desc n et u (iv i) ↔ iv i ≤ u ∧ u ≤ iv i := by
  rw [C.iv_block hu hi, hlo]
  constructor
  · intro hq
    have := congrArg iv (Nat.le_antisymm hq.2 hq.1)
    rw [C.ivq u hu] at this
    exact ⟨Nat.le_of_eq this.symm, Nat.le_of_eq this⟩
  · intro hu'
    rw [Nat.le_antisymm hu'.2 hu'.1, C.qiv i hi]
    exact ⟨Nat.le_refl _, Nat.le_refl _⟩

end ctx

/-- `relax_end[s] = e` records the supernode `s..e`: a whole subtree of the caller's forest, small and maximal if it has
more than one column, inside which no other supernode starts -/
structure Snode (n relax : Nat) (et : Array Nat) (re : Array Int) (s e : Nat) : Prop where
  val : re.getD s (-1) = Int.ofNat e
  le : s ≤ e
  lt : e < n
  sub : Subtree n et s e
  small : s < e → e - s < relax
  stops : s < e → Stops n relax et (descendants n et) e
  alone : ∀ t, s < t → t ≤ e → re.getD t (-1) = -1

/-- `relax_end[j]` as `Symb.relaxEndOf` reads it: `-1` is EMPTY, and so is every entry outside `0..n-1` -/
def readEnd (re : Array Int) (j : Nat) : Option Nat :=
  let v := re.getD j (-1); if v < 0 then none else some v.toNat

section result
variable {n relax : Nat} {et et' : Array Nat} {q iv lo : Nat → Nat} (C : HeapCtx n et et' q iv lo)
include C

variable {re : Array Int} (E : HeapEnd n relax et' iv re)
include E

theorem HeapEnd.entry {s : Nat} (hs : s < n) :
    re.getD s (-1) = -1 ∨ ∃ e, Snode n relax et re s e := by
  have Ru := rounds_run (relax := relax) C.heap' C.post
  by_cases hw : ∃ b ∈ runRounds n relax et', ∃ x, HeapWr n (descendants n et') iv b s x
  · right
    obtain ⟨b, hb, x, hw⟩ := hw
    have R := Ru.round b hb
    have hx := E.hit b hb s x hw
    rcases hw with ⟨hc, rfl, rfl⟩ | ⟨hc, rfl, i, h1, h2, hd, rfl⟩
    · have hsub := (C.block_contig_iff R.le R.lt R.lo_eq).mp hc
      have hen := C.ivlt b.2 R.lt
      refine ⟨iv b.2, hx, hsub.le hen, hen, hsub, fun c => ?_, fun _ => ?_,
        fun t ht1 ht2 => ?_⟩
      · -- `e - s = last - j` is the number of proper descendants of `last`
        have hd := C.post.descendants_add C.heap' _ R.lt
        rw [hc, ← R.lo_eq, Nat.sub_eq_of_eq_add hd.symm]
        exact R.small (Nat.lt_of_sub_pos (hc ▸ Nat.sub_pos_of_lt c))
      · rw [← C.stops_iff hen, C.qiv b.2 R.lt]; exact R.stops
      · have htn := Nat.lt_of_le_of_lt ht2 hen
        obtain ⟨a1, a2⟩ := (C.block_sub R.lt R.lo_eq htn).mp ((hsub t htn).mpr ⟨Nat.le_of_lt ht1, ht2⟩)
        refine E.miss t htn fun b' hb' x' hw' => ?_
        obtain ⟨_, c1, c2⟩ := hw'.pos (Ru.round b' hb').le (Ru.round b' hb').lt C.ivlt C.qiv
        rw [← sorted_intervals_disjoint Ru.sorted hb hb' a1 a2 c1 c2] at hw'
        rcases hw' with ⟨_, e, _⟩ | ⟨hc', _⟩
        · exact Nat.ne_of_lt ht1 e.symm
        · exact hc' hc
    · have hi := Nat.lt_of_le_of_lt h2 R.lt
      have hli := (C.post.desc_eq_zero (C.post.descendants_add C.heap') hi).mp hd
      exact ⟨iv i, hx, Nat.le_refl _, C.ivlt i hi, fun u hu => C.leaf_sub hi hli hu,
        fun c => absurd c (Nat.lt_irrefl _), fun c => absurd c (Nat.lt_irrefl _),
        fun t a b => absurd (Nat.lt_of_lt_of_le a b) (Nat.lt_irrefl _)⟩
  · exact Or.inl (E.miss s hs fun b hb x hx => hw ⟨b, hb, x, hx⟩)

theorem HeapEnd.converse {e : Nat} (he : e < n) {s : Nat} (hsub : Subtree n et s e)
    (hsmall : s < e → e - s < relax) (hbig : Stops n relax et (descendants n et) e) :
    re.getD s (-1) = Int.ofNat e := by
  have hsm : (descendants n et').getD (q e) 0 = 0 ∨ (descendants n et').getD (q e) 0 < relax := by
    have hd := descendants_add_of_block C.heap he hsub
    rw [C.descendants_q he]
    by_cases hse : s < e
    · exact Or.inr (Nat.eq_sub_of_add_eq hd ▸ hsmall hse)
    · rw [Nat.le_antisymm (hsub.le he) (Nat.le_of_not_lt hse)] at hd
      exact Or.inl (Nat.add_eq_right.mp hd)
  have Ru := rounds_run (relax := relax) C.heap' C.post
  have hmem := Ru.stop (q e) (C.qlt e he) hsm ((C.stops_iff he).mpr hbig)
  have R := Ru.round _ hmem
  have hsub' : Subtree n et s (iv (q e)) := by rw [C.ivq e he]; exact hsub
  have hk := C.block_lo_eq R.le R.lt R.lo_eq hsub'
  have := E.hit _ hmem s (Int.ofNat (iv (q e)))
    (Or.inl ⟨(C.block_contig_iff R.le R.lt R.lo_eq).mpr (hk ▸ hsub'), hk, rfl⟩)
  rwa [C.ivq e he] at this

theorem HeapEnd.leaf {k : Nat} (hk : k < n) (hleaf : ∀ u < n, Desc n et u k → u = k) :
    ∃ s e : Nat, s ≤ k ∧ k ≤ e ∧ re.getD s (-1) = Int.ofNat e := by
  have hlk := C.leaf_q hk hleaf
  have Ru := rounds_run (relax := relax) C.heap' C.post
  obtain ⟨b, hb, c1, c2⟩ := Ru.leaf (q k) (C.qlt k hk) hlk
  have R := Ru.round b hb
  by_cases hc : iv b.2 - blockMin n iv b.1 b.2 = b.2 - b.1
  · obtain ⟨a1, a2⟩ := C.block_range R.le R.lt R.lo_eq hk c1 c2
    exact ⟨_, _, a1, a2, E.hit b hb _ _ (Or.inl ⟨hc, rfl, rfl⟩)⟩
  · exact ⟨k, k, Nat.le_refl _, Nat.le_refl _,
      E.hit b hb _ _ (Or.inr ⟨hc, rfl, q k, c1, c2, hlk, C.ivq k hk⟩)⟩

theorem HeapEnd.subtrees (j k : Nat) (hjk : readEnd re j = some k) :
    j ≤ k ∧ k < n ∧ Subtree n et j k := by
  unfold readEnd at hjk
  by_cases hj : j < n
  · rcases E.entry C hj with e | ⟨e, S⟩
    · rw [e] at hjk; simp at hjk
    · rw [S.val] at hjk
      obtain rfl : e = k := by simpa using hjk
      exact ⟨S.le, S.lt, S.sub⟩
  · rw [Array.getD_eq_getD_getElem?, Array.getElem?_eq_none (by rw [E.size]; omega)] at hjk
    simp at hjk

end result

/-- `q`, `et'`, `iv`: what the first three loops of heap_relax_snode compute -/
theorem heapRelaxSnode_heapEnd {n : Nat} (relax : Nat) {et : Array Nat} (h : Heap n et) :
    let q := fun j => (treePostorder n et).getD j 0
    let et' := firstN n (scatter n q (fun i => q (et.getD i 0)) (Array.replicate (n + 1) 0))
    let iv := fun i => (scatter (n + 1) q id (Array.replicate (n + 1) 0)).getD i 0
    ∃ lo : Nat → Nat, HeapCtx n et et' q iv lo ∧ HeapEnd n relax et' iv (heapRelaxSnode n relax et).2 := by
  intro q et' iv
  refine Exists.imp (fun lo C => ⟨C, ?_⟩) ?_
  · show HeapEnd n relax _ _ (heapRelaxLoop n relax _ _ _ (n + 1) 0 (Array.replicate n (-1)))
    rw [heapRelaxLoop_eq]
    exact heapEnd_of C.heap' C.ivlt C.qiv
  have P : IsPost n et q := isPost_treePostorder h
  have hrel : ∀ j, j < n → et'.getD (q j) 0 = q (et.getD j 0) :=
    relabel_getD n q _ P.lt fun i hi j hj e => P.inj i (Nat.le_of_lt hi) j (Nat.le_of_lt hj) e
  obtain ⟨hheap', hiff, hpost⟩ := P.relabel h hrel
  have hlo := PostBy.of_exists hheap' hpost
  have hivq : ∀ j, j ≤ n → iv (q j) = j := by
    intro j hj
    refine scatter_getD (n + 1) q id _ (fun a ha b hb e => P.inj a (by omega) b (by omega) e) ?_ j (by omega)
    intro i hi
    rcases Nat.lt_or_eq_of_le (Nat.le_of_lt_succ hi) with c | c
    · rw [Array.size_replicate]; exact Nat.lt_succ_of_lt (P.lt i c)
    · rw [c, P.root, Array.size_replicate]; exact Nat.lt_succ_self n
  refine ⟨_, ⟨h, P.lt, P.root, hrel, hheap', hlo, hiff, fun i hi => ?_, fun i hi => ?_, fun j hj => hivq j (Nat.le_of_lt hj)⟩⟩
  · obtain ⟨j, hj, rfl⟩ := P.surj i hi
    rw [hivq j (Nat.le_of_lt hj)]; exact hj
  · obtain ⟨j, hj, rfl⟩ := P.surj i hi
    rw [hivq j (Nat.le_of_lt hj)]

theorem heapRelaxSnode_subtrees {n : Nat} (relax : Nat) {et : Array Nat} (h : Heap n et) (j k : Nat)
    (hjk : readEnd (heapRelaxSnode n relax et).2 j = some k) :
    j ≤ k ∧ k < n ∧ Subtree n et j k := by
  obtain ⟨lo, C, E⟩ := heapRelaxSnode_heapEnd relax h
  exact E.subtrees C j k hjk

/-! ### relax_snode is the case of the identity numbering

With the identity for `inv_post`, `k = snode_start` and the contiguity test always succeeds. -/

theorem blockMin_id {n j last : Nat} (hb : j ≤ last) (hj : j < n) : blockMin n id j last = j := by
  obtain ⟨h1, i, h2, _, e⟩ := blockMin_spec (iv := id) hb hj
  exact Nat.le_antisymm (h1 j (Nat.le_refl _) hb) (e ▸ h2)

theorem heapWr_id {n : Nat} {desc : Array Nat} {b : Nat × Nat} (hb : b.1 ≤ b.2) (hl : b.2 < n) {p : Nat} {x : Int} :
    HeapWr n desc id b p x ↔ p = b.1 ∧ x = Int.ofNat b.2 := by
  unfold HeapWr
  rw [blockMin_id hb (Nat.lt_of_le_of_lt hb hl)]
  exact ⟨fun h => h.elim And.right fun h => absurd rfl h.1, fun h => Or.inl ⟨rfl, h⟩⟩

theorem heapStep_id {n : Nat} {desc : Array Nat} {b : Nat × Nat} (hb : b.1 ≤ b.2) (hl : b.2 < n) (re : Array Int) :
    heapStep n desc id re b = re.setIfInBounds b.1 (Int.ofNat b.2) := by
  unfold heapStep
  rw [blockMin_id hb (Nat.lt_of_le_of_lt hb hl)]
  exact if_pos rfl

theorem relaxLoop_eq_heap {n relax : Nat} {et : Array Nat} (h : Heap n et) (desc : Array Nat) (fuel j : Nat)
    (re : Array Int) :
    relaxLoop n relax et desc fuel j re = (rounds n relax et desc fuel j).foldl (heapStep n desc id) re := by
  rw [relaxLoop_eq]
  exact List.foldl_ext _ _ _ fun re b hb =>
    (heapStep_id ((rounds_sorted h fuel j).1 b hb).le ((rounds_sorted h fuel j).1 b hb).lt re).symm

theorem relaxSnode_heapEnd {n : Nat} (relax : Nat) {et : Array Nat} (h : Heap n et) :
    HeapEnd n relax et id (relaxSnode n relax et).2 := by
  show HeapEnd n relax et id (relaxLoop n relax et (descendants n et) (n + 1) 0 (Array.replicate n (-1)))
  rw [relaxLoop_eq_heap h]
  exact heapEnd_of (q := id) h (fun _ hi => hi) fun _ _ => rfl

theorem heapCtx_id {n : Nat} {et : Array Nat} {lo : Nat → Nat} (h : Heap n et) (hp : PostBy n et lo) :
    HeapCtx n et et id id lo :=
  ⟨h, fun _ hj => hj, rfl, fun _ _ => rfl, h, hp, fun _ _ _ _ => Iff.rfl, fun _ hi => hi, fun _ _ => rfl, fun _ _ => rfl⟩

theorem relaxSnode_subtrees {n : Nat} (relax : Nat) {et : Array Nat} (h : Heap n et)
    (hpost : ∀ v < n, ∃ lo, Subtree n et lo v) (j k : Nat)
    (hjk : readEnd (relaxSnode n relax et).2 j = some k) :
    j ≤ k ∧ k < n ∧ Subtree n et j k := by
  exact (relaxSnode_heapEnd relax h).subtrees (heapCtx_id h (PostBy.of_exists h hpost)) j k hjk

end Slu.Order
