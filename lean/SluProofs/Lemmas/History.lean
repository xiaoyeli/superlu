import SluProofs.Lemmas.LUInv
import Slu.Model.History
-- `[HasConj K]` is in scope for `solveWith`; most statements below do not mention it
set_option linter.unusedSectionVars false
namespace Slu.History
open Slu Slu.LU
variable {K : Type} [Field K] [Mag K Rat] [HasConj K]

structure CallOK (c : Call K Rat) : Prop where
  -- as `Slu.LU.Legal`: the invariant needs only `0 ≤ u`
  u_pos : 0 < c.u
  u_le_one : c.u ≤ 1
  col_size : ∀ j, (c.A j).size = c.n

/-- **The history invariant.**  A state that claims to hold a factorization holds one that satisfies the C02 invariant
`Slu.LU.Inv` for the problem `s.P` of the last factoring call — its equilibrated, column-permuted matrix. -/
def HInv (s : DriverState K Rat) : Prop :=
  s.factored = true →
    s.P.m = s.n ∧ s.P.n = s.n ∧ 0 < s.P.u ∧ s.P.u ≤ 1 ∧ (∀ j, (s.P.col j).size = s.P.m) ∧
    s.fac.info = 0 ∧ Inv s.P s.fac s.n

theorem paramsOf_col_size (s : DriverState K Rat) (c : Call K Rat) (h : ∀ j, (c.A j).size = c.n) (j : Nat) :
    ((paramsOf s c).col j).size = (paramsOf s c).m := by
  simp [paramsOf, h]

/-- entry `(i, j)` of the matrix a factoring call hands to `gstrf`: `diag(R) A diag(C)` in the column
order of `perm_c` -/
theorem paramsOf_col_get (s : DriverState K Rat) (c : Call K Rat) (j i : Nat) (jc : Nat)
    (hjc : jc = (invPerm (callPermC s c)).getD j 0) (hi : i < (c.A jc).size) :
    ((paramsOf s c).col j).get i = scaleEntry c.equed c.Rs c.Cs i jc ((c.A jc).get i) := by
  subst hjc
  exact mapIdx_get _ _ i hi

/-- This is why every theorem of C02 / C04 (stated for all reuse flags and all remembered pivots) applies verbatim to the
factor state after a factoring call. -/
theorem factorCall_fac (s : DriverState K Rat) (c : Call K Rat) :
    (factorCall s c).fac = luFactor (paramsOf s c) (c.fact == .SamePattern_SameRowPerm) := rfl

theorem factorCall_P (s : DriverState K Rat) (c : Call K Rat) : (factorCall s c).P = paramsOf s c := rfl

theorem factorCall_factored (s : DriverState K Rat) (c : Call K Rat) :
    (factorCall s c).factored = true ↔ (factorCall s c).fac.info = 0 := by
  simp [factorCall]

/-- established from ANY prior state -/
theorem factorCall_inv (laws : MagLaws K) (s : DriverState K Rat) (c : Call K Rat) (hok : CallOK c) :
    HInv (factorCall s c) := by
  intro hf
  have h0 : (factorCall s c).fac.info = 0 := (factorCall_factored s c).mp hf
  refine ⟨rfl, rfl, hok.u_pos, hok.u_le_one, paramsOf_col_size s c hok.col_size, h0, ?_⟩
  have hrun : (run (paramsOf s c) (c.fact == .SamePattern_SameRowPerm) (paramsOf s c).n).info = 0 := h0
  exact run_inv laws (paramsOf s c) (le_of_lt hok.u_pos) hok.u_le_one (paramsOf_col_size s c hok.col_size) _ _ hrun

theorem HInv.inv {s : DriverState K Rat} (h : HInv s) (hf : s.factored = true) : Inv s.P s.fac s.n :=
  (h hf).2.2.2.2.2.2

theorem stepCall_factored (s : DriverState K Rat) (c : Call K Rat) (h : c.fact = .FACTORED) :
    stepCall s c = (s, { info := 0, X := c.B.map (solveWith s c.trans) }) := by
  simp [stepCall, h]

/-- what a call returns, in terms of the state before (`s`) and after (`s'`) it -/
def OutSpec (s : DriverState K Rat) (c : Call K Rat) (s' : DriverState K Rat) (o : Out K) : Prop :=
  (c.fact = .FACTORED → s' = s ∧ o.info = 0 ∧ o.X = c.B.map (solveWith s c.trans)) ∧
  (c.fact ≠ .FACTORED → s' = factorCall s c ∧ o.info = s'.fac.info ∧ (s'.factored = true ↔ o.info = 0) ∧
      (o.info = 0 → o.X = c.B.map (solveWith s' c.trans)) ∧ (o.info ≠ 0 → o.X = c.B))

theorem stepCall_outSpec (s : DriverState K Rat) (c : Call K Rat) :
    OutSpec s c (stepCall s c).1 (stepCall s c).2 := by
  refine ⟨fun hf => ?_, fun hf => ?_⟩
  · rw [stepCall_factored s c hf]
    exact ⟨rfl, rfl, rfl⟩
  · unfold stepCall
    rw [if_neg hf]
    by_cases h0 : (factorCall s c).fac.info = 0 <;> simp [h0, factorCall_factored]

theorem stepCall_factor_state (s : DriverState K Rat) (c : Call K Rat) (h : c.fact ≠ .FACTORED) :
    (stepCall s c).1 = factorCall s c :=
  ((stepCall_outSpec s c).2 h).1

theorem stepCall_factor_info (s : DriverState K Rat) (c : Call K Rat) (h : c.fact ≠ .FACTORED) :
    (stepCall s c).2.info = (factorCall s c).fac.info :=
  stepCall_factor_state s c h ▸ ((stepCall_outSpec s c).2 h).2.1

/-- `OutSpec` does not speak of the flag a successful factoring call reports -/
theorem stepCall_factor_reused (s : DriverState K Rat) (c : Call K Rat) (h : c.fact ≠ .FACTORED)
    (h0 : (factorCall s c).fac.info = 0) : (stepCall s c).2.reused = (factorCall s c).fac.usepr := by
  simp [stepCall, h, h0]

theorem runHistory_cons (s : DriverState K Rat) (c : Call K Rat) (cs : List (Call K Rat)) :
    (runHistory s (c :: cs)).1 = (runHistory (stepCall s c).1 cs).1 := rfl

theorem runHistory_append (s : DriverState K Rat) (a b : List (Call K Rat)) :
    (runHistory s (a ++ b)).1 = (runHistory (runHistory s a).1 b).1 := by
  induction a generalizing s with
  | nil => rfl
  | cons c cs ih => simp only [List.cons_append, runHistory_cons]; exact ih _

theorem runHistory_outs_length (s : DriverState K Rat) (cs : List (Call K Rat)) :
    (runHistory s cs).2.length = cs.length := by
  induction cs generalizing s with
  | nil => rfl
  | cons c cs ih => simp [runHistory, ih]

end Slu.History
