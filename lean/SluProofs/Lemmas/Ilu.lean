import Slu.Model.Ilu
import SluProofs.Lemmas.ArrayBasic
import SluProofs.Lemmas.RatBasic
import SluProofs.Lemmas.LUInv
import SluProofs.Lemmas.PermFn
/-
Lemmas for C15: permutations as arrays; the pivot policy `iluPivotChoice` (the scan, the three branches of the
decision, what the routine returns when the column has an eligible candidate); on an all-eligible column with
`drop_sum = 0` it is `Slu.LU.pivotChoice` (`scan_corr`, `iluPivotChoice_eq_pivotChoice`); what `iluApply` leaves in the
column (`iluApply_matches`).
-/
namespace Slu.Ilu
open Slu

/-- `iperm[perm[i]] = i`: the loop only stores, and `perm` is injective, so the store of step `i` is the only one at
`perm[i]` -/
theorem invPerm_perm (n : Nat) (perm : Array Nat) (h : PermOn n perm) (i : Nat) (hi : i < n) :
    (invPerm perm)[perm[i]!]! = i := by
  rw [Array.getElem!_eq_getD]
  exact (foldl_stores (fun i => perm[i]!) id 0 (List.range perm.size) (Array.replicate perm.size 0)).2.1 i
    (List.mem_range.mpr (h.1 ▸ hi)) (by rw [Array.size_replicate, h.1]; exact h.2.1 i hi)
    fun j hj e => h.2.2 j i (h.1 ▸ List.mem_range.mp hj) hi e

theorem permOn_surj (n : Nat) (p : Array Nat) (h : PermOn n p) (v : Nat) (hv : v < n) : ∃ i, i < n ∧ p[i]! = v :=
  PermFn.surj (f := fun i => p[i]!) ⟨h.2.1, fun i hi j hj => h.2.2 i j hi hj⟩ hv

theorem foldPerm_get (permr perm : Array Nat) (i : Nat) (hi : i < perm.size) :
    (foldPerm permr perm)[i]! = permr[perm[i]!]! :=
  getElem!_map_range perm.size _ i hi

theorem Milu.absVariant_iff (m : Milu) : m.absVariant = true ↔ m = .smilu2 ∨ m = .smilu3 := by
  cases m <;> simp [Milu.absVariant]

section scan
variable {K : Type} [Inhabited K] [Mag K Rat] [Add K]

def magAt (inp : PivIn K Rat) (k : Nat) : Rat := scanMag inp.milu inp.dropSum (inp.cands[k]!).val

variable (inp : PivIn K Rat)

theorem scanStep_skip (s : Scan Rat) (k : Nat) (h : (inp.cands[k]!).elig = false) : scanStep inp s k = s := by
  simp only [scanStep, h, Bool.not_false, if_true]

theorem scanStep_elig (s : Scan Rat) (k : Nat) (h : (inp.cands[k]!).elig = true) :
    scanStep inp s k =
      { pivmax := if magAt inp k > s.pivmax then magAt inp k else s.pivmax,
        pivptr := if magAt inp k > s.pivmax then k else s.pivptr,
        oldPtr := if inp.usepr && (inp.cands[k]!).row == inp.pivrowIn then some k else s.oldPtr,
        diag := if (inp.cands[k]!).row == inp.diagind then some k else s.diag,
        ptr0 := if s.ptr0.isNone then some k else s.ptr0 } := by
  simp only [scanStep, h, Bool.not_true, Bool.false_eq_true, if_false]
  rfl

theorem magAt_nonneg (hnn : ∀ v : K, 0 ≤ (Mag.abs1 v : Rat)) (k : Nat) : 0 ≤ magAt inp k := by
  unfold magAt scanMag
  split <;> exact hnn _

/-- invariant of the scan after the first `m` positions -/
structure ScanInv (inp : PivIn K Rat) (m : Nat) (s : Scan Rat) : Prop where
  alt : (s.pivmax = -1 ∧ s.ptr0 = none ∧ ∀ k, k < m → (inp.cands[k]!).elig = false) ∨
        (0 ≤ s.pivmax ∧ s.pivptr < m ∧ magAt inp s.pivptr = s.pivmax ∧
          ∃ p0, p0 < m ∧ s.ptr0 = some p0 ∧ (inp.cands[p0]!).elig = true)
  diag_lt : ∀ d, s.diag = some d → d < m
  old : ∀ d, s.oldPtr = some d → d < m ∧ (inp.cands[d]!).row = inp.pivrowIn

theorem scanInv_scan (hnn : ∀ v : K, 0 ≤ (Mag.abs1 v : Rat)) : ScanInv inp inp.cands.length (scan inp) := by
  apply foldl_range_inv (ScanInv inp) (scanStep inp)
  · exact ⟨Or.inl ⟨rfl, rfl, fun k hk => by omega⟩, fun d hd => (by cases hd), fun d hd => (by cases hd)⟩
  · intro s m _ ih
    by_cases he : (inp.cands[m]!).elig = true
    · rw [scanStep_elig inp s m he]
      have hnn := magAt_nonneg inp hnn m
      refine ⟨Or.inr ?_, fun d hd => ?_, fun d hd => ?_⟩
      · rcases ih.alt with ⟨h1, h2, _⟩ | ⟨h1, h2, h3, p0, h4, h5, h6⟩
        · have hgt : magAt inp m > s.pivmax := by rw [h1]; linarith
          simp only [hgt, if_true, h2, Option.isNone_none]
          exact ⟨hnn, by omega, trivial, m, by omega, rfl, he⟩
        · simp only [h5, Option.isNone_some, Bool.false_eq_true, if_false]
          by_cases hgt : magAt inp m > s.pivmax
          · simp only [hgt, if_true]
            exact ⟨hnn, by omega, trivial, p0, by omega, rfl, h6⟩
          · simp only [hgt, if_false]
            exact ⟨h1, by omega, h3, p0, by omega, rfl, h6⟩
      · simp only at hd
        split at hd
        · injection hd with hd; omega
        · have := ih.diag_lt d hd; omega
      · simp only at hd
        split at hd
        · rename_i h
          injection hd with hd; subst hd
          simp only [Bool.and_eq_true, beq_iff_eq] at h
          exact ⟨by omega, h.2⟩
        · have := ih.old d hd; exact ⟨by omega, this.2⟩
    · have he' : (inp.cands[m]!).elig = false := by simpa using he
      rw [scanStep_skip inp s m he']
      refine ⟨?_, fun d hd => by have := ih.diag_lt d hd; omega,
        fun d hd => by have := ih.old d hd; exact ⟨by omega, this.2⟩⟩
      rcases ih.alt with ⟨h1, h2, h3⟩ | ⟨h1, h2, h3, p0, h4, h5, h6⟩
      · left
        refine ⟨h1, h2, fun k hk => ?_⟩
        by_cases hkm : k = m
        · subst hkm; exact he'
        · exact h3 k (by omega)
      · right; exact ⟨h1, by omega, h3, p0, by omega, h5, h6⟩

end scan

section choice
variable {K : Type} [Inhabited K] [Mag K Rat] [Add K]

/-- the column maximum the routine branches on (`pivmax`, plus `drop_sum` in the SMILU_2/3 variants) -/
def pivMaxOf (inp : PivIn K Rat) (ds : Rat) : Rat :=
  if inp.milu.absVariant then (scan inp).pivmax + ds else (scan inp).pivmax

/-- the MILU reset of the chosen pivot value `v` (l.229-241) -/
def resetVal (inp : PivIn K Rat) (rinc : K → K) (v : K) : K :=
  match inp.milu with
  | .silu => v
  | .smilu1 => v + inp.dropSum
  | _ => v + rinc v

/-- the acceptance test of the reuse / diagonal preference at position `k` -/
def accepts (inp : PivIn K Rat) (thr : Rat → Rat) (ds pm : Rat) (k : Nat) : Bool :=
  !(testMag inp.milu inp.dropSum ds (inp.cands[k]!).val == 0) &&
    decide (testMag inp.milu inp.dropSum ds (inp.cands[k]!).val ≥ thr pm)

variable (inp : PivIn K Rat) (thr : Rat → Rat) (ds : Rat) (ofR : Rat → K) (rinc : K → K)

theorem choosePtr_eq_prefer (pm : Rat) (s : Scan Rat) :
    choosePtr inp thr ds s pm =
      LU.prefer (if inp.usepr then s.oldPtr else none) s.diag (accepts inp thr ds pm) s.pivptr := by
  -- the reuse test of the C text (`usepr && old_pivptr != EMPTY && …`) as a filtered option
  have hm : choosePtr inp thr ds s pm =
      match (if inp.usepr then s.oldPtr else none).filter (accepts inp thr ds pm) with
      | some op => (op, true)
      | none =>
        match s.diag with
        | some d => if accepts inp thr ds pm d then (d, false) else (s.pivptr, false)
        | none => (s.pivptr, false) := by
    unfold choosePtr accepts
    cases inp.usepr
    · simp only [Bool.false_and, Bool.false_eq_true, if_false, Option.filter_none]
      rfl
    · cases s.oldPtr
      · simp only [Option.isSome_none, Bool.and_false, Bool.false_and, Bool.false_eq_true, if_false, if_true,
          Option.filter_none]
        rfl
      · simp only [Option.isSome_some, Bool.true_and, Option.getD_some, if_true, Option.filter_some]
        split <;> rfl
  rw [hm, LU.prefer]
  cases Option.filter (accepts inp thr ds pm) (if inp.usepr then s.oldPtr else none) with
  | some op => rfl
  | none =>
    cases s.diag with
    | none => rfl
    | some d => cases h : accepts inp thr ds pm d <;> simp [Option.filter, h]

/-- `iluPivotChoice` branches on the column maximum (`_neg`, `_zero`, `_pos`); first branch: no eligible magnitude -/
theorem iluPivotChoice_neg (h : pivMaxOf inp ds < 0) :
    iluPivotChoice inp thr ds ofR rinc =
      { ret := inp.jcol + 1, pos := none, pivrow := inp.pivrowIn, usepr := false, pivVal := default } := by
  unfold iluPivotChoice
  exact if_pos h

theorem iluPivotChoice_zero (h : pivMaxOf inp ds = 0) :
    iluPivotChoice inp thr ds ofR rinc =
      match (scan inp).diag, (scan inp).ptr0 with
      | some d, _ => { ret := inp.jcol + 1, pos := some d, pivrow := (inp.cands[d]!).row, usepr := false, pivVal := ofR inp.fillTol }
      | none, some p => { ret := inp.jcol + 1, pos := some p, pivrow := (inp.cands[p]!).row, usepr := false, pivVal := ofR inp.fillTol }
      | none, none =>
        match inp.freeRow with
        | none => { ret := inp.jcol + 1, pos := none, pivrow := inp.pivrowIn, usepr := false, pivVal := default }
        | some fr =>
          { ret := inp.jcol + 1,
            pos := some (((List.range inp.cands.length).find? (fun k => (inp.cands[k]!).row == fr)).getD 0),
            pivrow := fr, usepr := false, pivVal := ofR inp.fillTol } := by
  have h1 : ¬ pivMaxOf inp ds < 0 := by rw [h]; exact lt_irrefl 0
  have h2 : (pivMaxOf inp ds == 0) = true := by rw [h]; rfl
  unfold iluPivotChoice
  exact (if_neg h1).trans (if_pos h2)

theorem iluPivotChoice_pos (h : 0 < pivMaxOf inp ds) :
    iluPivotChoice inp thr ds ofR rinc =
      { ret := 0, pos := some (choosePtr inp thr ds (scan inp) (pivMaxOf inp ds)).1,
        pivrow := if (choosePtr inp thr ds (scan inp) (pivMaxOf inp ds)).2 then inp.pivrowIn
                  else (inp.cands[(choosePtr inp thr ds (scan inp) (pivMaxOf inp ds)).1]!).row,
        usepr := (choosePtr inp thr ds (scan inp) (pivMaxOf inp ds)).2,
        pivVal := resetVal inp rinc (inp.cands[(choosePtr inp thr ds (scan inp) (pivMaxOf inp ds)).1]!).val } := by
  have h1 : ¬ pivMaxOf inp ds < 0 := not_lt.mpr (le_of_lt h)
  have h2 : ¬ (pivMaxOf inp ds == 0) = true := by simpa using ne_of_gt h
  unfold iluPivotChoice
  exact (if_neg h1).trans (if_neg h2)

theorem pivMaxOf_pos_of_ret (hr : (iluPivotChoice inp thr ds ofR rinc).ret = 0) : 0 < pivMaxOf inp ds := by
  rcases lt_trichotomy (pivMaxOf inp ds) 0 with h | h | h
  · rw [iluPivotChoice_neg inp thr ds ofR rinc h] at hr; cases hr
  · rw [iluPivotChoice_zero inp thr ds ofR rinc h] at hr
    split at hr
    · cases hr
    · cases hr
    · split at hr <;> cases hr
  · exact h

omit [Inhabited K] in
theorem testMag_eq (milu : Milu) (dropSum : K) (ds : Rat) (v : K) :
    testMag milu dropSum ds v =
      (if milu.absVariant = true then scanMag milu dropSum v + ds else scanMag milu dropSum v) := by
  cases milu <;> rfl

theorem choosePtr_cases (pm : Rat) (s : Scan Rat) :
    (∃ op, s.oldPtr = some op ∧ accepts inp thr ds pm op = true ∧ choosePtr inp thr ds s pm = (op, true)) ∨
    (∃ d, s.diag = some d ∧ accepts inp thr ds pm d = true ∧ choosePtr inp thr ds s pm = (d, false)) ∨
    choosePtr inp thr ds s pm = (s.pivptr, false) := by
  rw [choosePtr_eq_prefer]
  rcases LU.prefer_cases (if inp.usepr then s.oldPtr else none) s.diag (accepts inp thr ds pm) s.pivptr with
    ⟨op, ho, hp, e⟩ | ⟨_, d, hd, hp, e⟩ | ⟨_, e⟩
  · exact Or.inl ⟨op, (Option.ite_none_right_eq_some.mp ho).2, hp, e⟩
  · exact Or.inr (Or.inl ⟨d, hd, hp, e⟩)
  · exact Or.inr (Or.inr e)

theorem accepts_ne_zero (pm : Rat) (k : Nat) (h : accepts inp thr ds pm k = true) : testMag inp.milu inp.dropSum ds (inp.cands[k]!).val ≠ 0 := by
  simp only [accepts, Bool.and_eq_true, Bool.not_eq_true', beq_eq_false_iff_ne] at h
  exact h.1

theorem choosePtr_spec (inv : ScanInv inp inp.cands.length (scan inp))
    (h2 : (scan inp).pivptr < inp.cands.length) (h3 : magAt inp (scan inp).pivptr = (scan inp).pivmax)
    (hpos : 0 < pivMaxOf inp ds) :
    (choosePtr inp thr ds (scan inp) (pivMaxOf inp ds)).1 < inp.cands.length ∧
    testMag inp.milu inp.dropSum ds (inp.cands[(choosePtr inp thr ds (scan inp) (pivMaxOf inp ds)).1]!).val ≠ 0 := by
  rcases choosePtr_cases inp thr ds (pivMaxOf inp ds) (scan inp) with ⟨op, ho, ha, e⟩ | ⟨d, hd, ha, e⟩ | e <;> rw [e]
  · exact ⟨(inv.old op ho).1, accepts_ne_zero inp thr ds _ op ha⟩
  · exact ⟨inv.diag_lt d hd, accepts_ne_zero inp thr ds _ d ha⟩
  · refine ⟨h2, ?_⟩
    rw [testMag_eq]
    have : scanMag inp.milu inp.dropSum (inp.cands[(scan inp).pivptr]!).val = (scan inp).pivmax := h3
    rw [this]
    exact ne_of_gt hpos

/-- a reuse is reported only for a position at which the scan saw the remembered row (`ScanInv.old`) -/
theorem iluPivotChoice_pos_row (inv : ScanInv inp inp.cands.length (scan inp)) (hpos : 0 < pivMaxOf inp ds) :
    (inp.cands[(choosePtr inp thr ds (scan inp) (pivMaxOf inp ds)).1]!).row =
      (iluPivotChoice inp thr ds ofR rinc).pivrow := by
  rw [iluPivotChoice_pos inp thr ds ofR rinc hpos]
  rcases choosePtr_cases inp thr ds (pivMaxOf inp ds) (scan inp) with ⟨op, ho, _, e⟩ | ⟨d, _, _, e⟩ | e <;> rw [e]
  · exact (inv.old op ho).2
  · rfl
  · rfl

omit [Inhabited K] in
theorem resetVal_ne_zero [Zero K] (hz : (Mag.abs1 (0 : K) : Rat) = 0) (v : K)
    (hr : inp.milu = .smilu2 ∨ inp.milu = .smilu3 → (Mag.abs1 v : Rat) + ds ≠ 0 → v + rinc v ≠ 0)
    (h : testMag inp.milu inp.dropSum ds v ≠ 0) : resetVal inp rinc v ≠ 0 := by
  unfold resetVal
  cases hm : inp.milu <;> rw [hm] at h hr <;> simp only [testMag] at h ⊢
  · intro hv; exact h (hv ▸ hz)
  · intro hv; exact h (hv ▸ hz)
  · exact hr (Or.inl rfl) h
  · exact hr (Or.inr rfl) h

/-- **The routine is total on a column with an eligible candidate and leaves a nonzero pivot.**  `hds`: `drop_sum ≥ 0`
where it is a sum of magnitudes, so the maximum of a column with a candidate is not negative; `hreset`: the SMILU_2/3
increment cannot cancel the pivot (`real_reset_ne_zero`, `cx_add_sgn_ne_zero` below).  `hnn`, `hz` are the two laws of
`LU.MagLaws` the proof uses, passed one by one because `MagLaws` asks for a field and `K` has only `0` and `+` here.  The
row clause stands apart so that Props/C15 can state totality without it. -/
theorem iluPivotChoice_total [Zero K] (hnn : ∀ v : K, 0 ≤ (Mag.abs1 v : Rat)) (hz : (Mag.abs1 (0 : K) : Rat) = 0)
    (hds : inp.milu = .smilu2 ∨ inp.milu = .smilu3 → 0 ≤ ds)
    (hreset : ∀ v, inp.milu = .smilu2 ∨ inp.milu = .smilu3 → (Mag.abs1 v : Rat) + ds ≠ 0 → v + rinc v ≠ 0)
    (hfill : ofR inp.fillTol ≠ 0)
    (hc : ∃ k, k < inp.cands.length ∧ (inp.cands[k]!).elig = true) :
    ∃ p, ((iluPivotChoice inp thr ds ofR rinc).pos = some p ∧ p < inp.cands.length ∧
        (iluPivotChoice inp thr ds ofR rinc).pivVal ≠ 0 ∧
        ((iluPivotChoice inp thr ds ofR rinc).ret = 0 ∨
          ((iluPivotChoice inp thr ds ofR rinc).ret = inp.jcol + 1 ∧
            (iluPivotChoice inp thr ds ofR rinc).pivVal = ofR inp.fillTol))) ∧
      (inp.cands[p]!).row = (iluPivotChoice inp thr ds ofR rinc).pivrow := by
  have inv := scanInv_scan inp hnn
  obtain ⟨k0, hk0, hel⟩ := hc
  rcases inv.alt with ⟨_, _, h3⟩ | ⟨h1, h2, h3, p0, h4, h5, _⟩
  · rw [h3 k0 hk0] at hel; cases hel
  have hpm0 : 0 ≤ pivMaxOf inp ds := by
    unfold pivMaxOf
    split
    · rename_i hm; have := hds ((Milu.absVariant_iff _).mp hm); linarith
    · exact h1
  rcases eq_or_lt_of_le hpm0 with hz0 | hpos
  · -- zero column: the diagonal, else the first eligible candidate, holds `fill_tol`
    rw [iluPivotChoice_zero inp thr ds ofR rinc hz0.symm]
    cases hd : (scan inp).diag with
    | some d => exact ⟨d, ⟨rfl, inv.diag_lt d hd, hfill, Or.inr ⟨rfl, rfl⟩⟩, rfl⟩
    | none => rw [h5]; exact ⟨p0, ⟨rfl, h4, hfill, Or.inr ⟨rfl, rfl⟩⟩, rfl⟩
  · -- the policy proper: the chosen value has a nonzero test magnitude, which the reset keeps nonzero
    obtain ⟨c1, c2⟩ := choosePtr_spec inp thr ds inv h2 h3 hpos
    have hne := resetVal_ne_zero inp ds rinc hz _ (hreset _) c2
    refine ⟨_, ⟨?_, c1, ?_, Or.inl ?_⟩, iluPivotChoice_pos_row inp thr ds ofR rinc inv hpos⟩ <;>
      rw [iluPivotChoice_pos inp thr ds ofR rinc hpos]
    exact hne

/-- no hypothesis on eligibility: `ds ≤ 1` keeps an all-ineligible column, whose maximum stays at its initial value −1,
out of the third branch -/
theorem iluPivotChoice_ret0 (hnn : ∀ v : K, 0 ≤ (Mag.abs1 v : Rat)) (hds : ds ≤ 1) (hr : (iluPivotChoice inp thr ds ofR rinc).ret = 0) :
    ∃ p, (iluPivotChoice inp thr ds ofR rinc).pos = some p ∧ p < inp.cands.length ∧
      (inp.cands[p]!).row = (iluPivotChoice inp thr ds ofR rinc).pivrow ∧
      (iluPivotChoice inp thr ds ofR rinc).pivVal = resetVal inp rinc (inp.cands[p]!).val := by
  have inv := scanInv_scan inp hnn
  have hpos := pivMaxOf_pos_of_ret inp thr ds ofR rinc hr
  rcases inv.alt with ⟨a1, _, _⟩ | ⟨_, a2, a3, _⟩
  · exfalso
    unfold pivMaxOf at hpos
    rw [a1] at hpos
    split at hpos <;> linarith
  · refine ⟨_, ?_, (choosePtr_spec inp thr ds inv a2 a3 hpos).1,
      iluPivotChoice_pos_row inp thr ds ofR rinc inv hpos, ?_⟩ <;>
      rw [iluPivotChoice_pos inp thr ds ofR rinc hpos]

theorem iluPivotChoice_row_recorded (hnn : ∀ v : K, 0 ≤ (Mag.abs1 v : Rat)) (p : Nat)
    (hp : (iluPivotChoice inp thr ds ofR rinc).pos = some p) (hr : (iluPivotChoice inp thr ds ofR rinc).ret = 0) :
    (inp.cands[p]!).row = (iluPivotChoice inp thr ds ofR rinc).pivrow := by
  have hpos := pivMaxOf_pos_of_ret inp thr ds ofR rinc hr
  have hrow := iluPivotChoice_pos_row inp thr ds ofR rinc (scanInv_scan inp hnn) hpos
  rw [iluPivotChoice_pos inp thr ds ofR rinc hpos] at hp
  injection hp with hp
  rw [← hp]; exact hrow

theorem scan_pivmax_of_no_elig (hnn : ∀ v : K, 0 ≤ (Mag.abs1 v : Rat))
    (hn : ∀ k, k < inp.cands.length → (inp.cands[k]!).elig = false) : (scan inp).pivmax = -1 := by
  rcases (scanInv_scan inp hnn).alt with ⟨h1, _, _⟩ | ⟨_, _, _, p0, h4, _, h6⟩
  · exact h1
  · rw [hn p0 h4] at h6; cases h6

end choice

/- `hreset` of `iluPivotChoice_total` for the two flavours: `v + SGN(v) * d` (`real_reset_ne_zero`) and
`v + z_sgn(v) * (d + 0i)` (`cx_add_sgn_ne_zero`) with `d ≥ 0` vanish only if `v = 0` and `d = 0`. -/
theorem rabs_add_sgn (v d : Rat) (hd : 0 ≤ d) : rabs (v + sgnR v * d) = rabs v + d := by
  simp only [rabs_eq_abs]
  unfold sgnR sgnG
  by_cases hv : v ≥ 0
  · simp only [hv, if_true, one_mul]
    rw [abs_of_nonneg (by linarith), abs_of_nonneg hv]
  · simp only [hv, if_false]
    have hv' : v < 0 := not_le.mp hv
    rw [abs_of_neg (by linarith), abs_of_neg hv']
    ring

theorem real_reset_ne_zero (v d : Rat) (hd : 0 ≤ d) (h : (Mag.abs1 v : Rat) + d ≠ 0) : v + sgnG v * d ≠ 0 := by
  intro hz
  apply h
  rw [show (Mag.abs1 v : Rat) + d = rabs (v + sgnR v * d) from (rabs_add_sgn v d hd).symm]
  show rabs (v + sgnG v * d) = 0
  rw [hz]; rfl

/-- scaling by `1 + d/τ > 0` does not create a zero -/
theorem eq_zero_of_add_div_mul (a τ d : Rat) (hτ : 0 < τ) (hd : 0 ≤ d) (h : a + a / τ * d = 0) : a = 0 := by
  have hfac : 0 < 1 + d / τ := add_pos_of_pos_of_nonneg one_pos (div_nonneg hd hτ.le)
  have : a * (1 + d / τ) = 0 := by rw [← h]; ring
  exact (mul_eq_zero.mp this).resolve_right (ne_of_gt hfac)

theorem cx_add_sgn_ne_zero (t : Cx Rat → Rat) (ht0 : ∀ z, 0 ≤ t z) (ht : ∀ z, t z = 0 ↔ z = 0)
    (v D : Cx Rat) (hd : 0 ≤ D.re) (hi : D.im = 0) (h : (Mag.abs1 v : Rat) + D.re ≠ 0) :
    v + sgnC t v * D ≠ 0 := by
  intro hz
  -- the two components of `v + s * (d + 0i)`
  have h1 : v.re + ((sgnC t v).re * D.re - (sgnC t v).im * D.im) = 0 := congrArg Cx.re hz
  have h2 : v.im + ((sgnC t v).im * D.re + (sgnC t v).re * D.im) = 0 := congrArg Cx.im hz
  rw [hi, mul_zero, sub_zero] at h1
  rw [hi, mul_zero, add_zero] at h2
  by_cases htv : t v = 0
  · -- `z_sgn(0) = 1`, so the sum is `d`
    have hs : sgnC t v = ⟨1, 0⟩ := if_pos (by rw [htv]; rfl)
    rw [(ht v).mp htv, LU.magLaws_cx.zero, zero_add] at h
    rw [hs, (ht v).mp htv] at h1
    exact h (by rw [← h1]; show D.re = 0 + 1 * D.re; ring)
  · have hs : sgnC t v = ⟨v.re / t v, v.im / t v⟩ := if_neg (by simpa using htv)
    have htp : 0 < t v := lt_of_le_of_ne (ht0 v) (Ne.symm htv)
    rw [hs] at h1 h2
    have r0 := eq_zero_of_add_div_mul v.re (t v) D.re htp hd h1
    have i0 := eq_zero_of_add_div_mul v.im (t v) D.re htp hd h2
    apply htv
    apply (ht v).mpr
    cases v
    simp only at r0 i0
    rw [r0, i0]; rfl

section corr
open Slu.LU
variable {K : Type} [Field K] [Inhabited K] [Mag K Rat]

/-- the ILU candidate list of a complete-LU candidate list: every row eligible -/
def toCands (lc : List (Nat × K)) : List (Cand K) := lc.map fun c => { row := c.1, val := c.2, elig := true }

omit [Field K] [Inhabited K] [Mag K Rat] in
theorem toCands_length (lc : List (Nat × K)) : (toCands lc).length = lc.length := by simp [toCands]

omit [Field K] [Mag K Rat] in
theorem toCands_get (lc : List (Nat × K)) (k : Nat) (c : Nat × K) (h : lc[k]? = some c) :
    (toCands lc)[k]! = { row := c.1, val := c.2, elig := true } := by
  simp [toCands, h]

omit [Field K] [Mag K Rat] in
theorem toCands_get_none (lc : List (Nat × K)) (k : Nat) (h : lc[k]? = none) : (toCands lc)[k]! = default := by
  simp [toCands, h]

omit [Field K] [Inhabited K] in
theorem scanPivAux_snoc (l1 : List (Nat × K)) (c : Nat × K) (k : Nat) (acc : Rat × Nat) :
    scanPivAux (l1 ++ [c]) k acc =
      (if (Mag.abs1 c.2 : Rat) > (scanPivAux l1 k acc).1 then ((Mag.abs1 c.2 : Rat), k + l1.length) else scanPivAux l1 k acc) := by
  induction l1 generalizing k acc with
  | nil => simp [scanPivAux]
  | cons a l1 ih =>
    simp only [List.cons_append, scanPivAux, ih, List.length_cons]
    have : k + 1 + l1.length = k + (l1.length + 1) := by omega
    rw [this]
    rfl

omit [Field K] [Inhabited K] [Mag K Rat] in
theorem findRowAux_snoc (l1 : List (Nat × K)) (c : Nat × K) (r k : Nat) (acc : Option Nat) :
    findRowAux (l1 ++ [c]) r k acc = (if c.1 = r then some (k + l1.length) else findRowAux l1 r k acc) := by
  induction l1 generalizing k acc with
  | nil => simp [findRowAux]
  | cons a l1 ih =>
    simp only [List.cons_append, findRowAux, ih, List.length_cons]
    have : k + 1 + l1.length = k + (l1.length + 1) := by omega
    rw [this]

omit [Field K] [Inhabited K] in
/-- on a nonempty column the scan of `?pivotL` may as well start from −1, as the scan of `ilu_?pivotL` does -/
theorem scanPivAux_init (hnn : ∀ v : K, 0 ≤ (Mag.abs1 v : Rat)) (c : Nat × K) (rest : List (Nat × K)) :
    scanPivAux (c :: rest) 0 ((-1 : Rat), 0) = scanPivAux (c :: rest) 0 ((0 : Rat), 0) := by
  have h1 : (Mag.abs1 c.2 : Rat) > -1 := by have := hnn c.2; linarith
  simp only [scanPivAux, h1, if_true]
  by_cases h2 : (Mag.abs1 c.2 : Rat) > 0
  · rw [if_pos h2]
  · rw [if_neg h2, le_antisymm (not_lt.mp h2) (hnn c.2)]

/-- the scan of `ilu_?pivotL` on an all-eligible column with `drop_sum = 0` is the scan of `?pivotL` -/
theorem scan_corr (inp : PivIn K Rat) (lc : List (Nat × K)) (hc : inp.cands = toCands lc) (hds : inp.dropSum = 0) :
    ((scan inp).pivmax, (scan inp).pivptr) = scanPivAux lc 0 ((-1 : Rat), 0) ∧
    (scan inp).diag = findRow lc inp.diagind ∧
    (scan inp).oldPtr = (if inp.usepr then findRow lc inp.pivrowIn else none) := by
  have hlen : inp.cands.length = lc.length := by rw [hc, toCands_length]
  have key := foldl_range_inv
    (fun m (s : Scan Rat) =>
      (s.pivmax, s.pivptr) = scanPivAux (lc.take m) 0 ((-1 : Rat), 0) ∧
      s.diag = findRow (lc.take m) inp.diagind ∧
      s.oldPtr = (if inp.usepr then findRow (lc.take m) inp.pivrowIn else none))
    (scanStep inp) inp.cands.length scanInit
    ⟨rfl, rfl, by cases inp.usepr <;> rfl⟩
    (fun s m hm ⟨ih1, ih2, ih3⟩ => by
      have hlt : m < lc.length := hlen ▸ hm
      have hcm : inp.cands[m]! = { row := lc[m].1, val := lc[m].2, elig := true } := by
        rw [hc]; exact toCands_get lc m lc[m] (List.getElem?_eq_getElem hlt)
      have hmag : magAt inp m = (Mag.abs1 lc[m].2 : Rat) := by
        unfold magAt scanMag
        rw [hcm, hds]
        split
        · rw [add_zero]
        · rfl
      have hlen' : (lc.take m).length = m := by rw [List.length_take]; omega
      rw [scanStep_elig inp s m (by rw [hcm]), List.take_succ_eq_append_getElem hlt, hmag, hcm]
      refine ⟨?_, ?_, ?_⟩
      · rw [scanPivAux_snoc, hlen', ← ih1, Nat.zero_add]
        split <;> rfl
      · rw [findRow, findRowAux_snoc, hlen', ih2, Nat.zero_add]
        simp [findRow]
      · rw [findRow, findRowAux_snoc, hlen', ih3, Nat.zero_add]
        cases inp.usepr <;> simp [findRow])
  rw [show lc.take inp.cands.length = lc by rw [hlen, List.take_length]] at key
  exact key

omit [Inhabited K] in
theorem testMag_zero (milu : Milu) (v : K) : testMag milu (0 : K) (0 : Rat) v = (Mag.abs1 v : Rat) := by
  cases milu <;> simp [testMag]

/-- **The two pivot policies coincide** on a column all of whose candidate rows are eligible and with `drop_sum = 0`:
`ilu_[sdcz]pivotL` returns 0 exactly when `[sdcz]pivotL` does (otherwise both return `jcol+1`), and then records the
same pivot row and reuse flag. -/
theorem iluPivotChoice_eq_pivotChoice (laws : MagLaws K) (inp : PivIn K Rat) (lc : List (Nat × K))
    (hc : inp.cands = toCands lc) (hds : inp.dropSum = 0) (thr : Rat → Rat) (ofR : Rat → K) (rinc : K → K) :
    (iluPivotChoice inp thr 0 ofR rinc).ret =
      (pivotChoice (R := Rat) inp.jcol lc thr inp.usepr inp.pivrowIn inp.diagind).info ∧
    ((pivotChoice (R := Rat) inp.jcol lc thr inp.usepr inp.pivrowIn inp.diagind).info = 0 →
      (iluPivotChoice inp thr 0 ofR rinc).pivrow =
        (pivotChoice (R := Rat) inp.jcol lc thr inp.usepr inp.pivrowIn inp.diagind).row ∧
      (iluPivotChoice inp thr 0 ofR rinc).usepr =
        (pivotChoice (R := Rat) inp.jcol lc thr inp.usepr inp.pivrowIn inp.diagind).usepr) := by
  obtain ⟨c1, c2, c3⟩ := scan_corr inp lc hc hds
  have hpm : pivMaxOf inp 0 = (scan inp).pivmax := by unfold pivMaxOf; rw [add_zero, ite_self]
  cases lc with
  | nil =>
    -- empty column: both report it singular
    have hneg : pivMaxOf inp 0 < 0 := by
      rw [hpm, show (scan inp).pivmax = -1 from congrArg Prod.fst c1]; norm_num
    rw [iluPivotChoice_neg inp thr 0 ofR rinc hneg, pivotChoice_of_zero rfl]
    exact ⟨rfl, fun h => absurd h (Nat.succ_ne_zero _)⟩
  | cons c0 rest =>
    rw [scanPivAux_init laws.nonneg] at c1
    generalize c0 :: rest = lc at *
    have e1 : (scan inp).pivmax = (scanPiv (R := Rat) lc).1 := congrArg Prod.fst c1
    have e2 : (scan inp).pivptr = (scanPiv (R := Rat) lc).2 := congrArg Prod.snd c1
    rcases eq_or_lt_of_le (scanPiv_spec (K := K) lc).2.1 with h0 | hpos
    · -- zero column: `jcol+1` from both, whatever row is taken
      rw [pivotChoice_of_zero h0.symm, iluPivotChoice_zero inp thr 0 ofR rinc (by rw [hpm, e1, ← h0])]
      refine ⟨?_, fun h => absurd h (Nat.succ_ne_zero _)⟩
      split
      · rfl
      · rfl
      · split <;> rfl
    · have hacc : ∀ r k, findRow lc r = some k →
          accepts inp thr 0 (scanPiv (R := Rat) lc).1 k = passes lc (thr (scanPiv (R := Rat) lc).1) k := by
        intro r k hk
        obtain ⟨c, hck, _⟩ := findRow_spec lc r k hk
        unfold accepts passes
        rw [hck, hds, testMag_zero, hc, toCands_get lc k c hck]
        rfl
      have hrow : ∀ k : Nat, (inp.cands[k]! : Cand K).row = (Option.map (fun x : Nat × K => x.1) lc[k]?).getD 0 := by
        intro k
        cases hk : lc[k]? with
        | some c => rw [hc, toCands_get lc k c hk]; rfl
        | none => rw [hc, toCands_get_none lc k hk]; rfl
      have hO : (if inp.usepr then (scan inp).oldPtr else none) = (if inp.usepr then findRow lc inp.pivrowIn else none) := by
        rw [c3]; cases inp.usepr <;> rfl
      rw [pivotChoice_pos (ne_of_gt hpos), iluPivotChoice_pos inp thr 0 ofR rinc (by rw [hpm, e1]; exact hpos),
        choosePtr_eq_prefer, hpm, e1, e2, c2, hO,
        prefer_congr _ (fun k hk => hacc inp.pivrowIn k (Option.ite_none_right_eq_some.mp hk).2) (fun k hk => hacc _ k hk)]
      generalize prefer (if inp.usepr then findRow lc inp.pivrowIn else none) _ _ _ = c
      exact ⟨rfl, fun _ => ⟨congrArg (fun r => if c.2 then inp.pivrowIn else r) (hrow c.1), rfl⟩⟩

end corr

section apply
open Slu.LU
variable {K : Type} [Field K]

theorem lcol_get (w : Vec K) (p : Nat) (pv : K) (r : Nat) (hr : r ≠ p) :
    Vec.get ((w.setIfInBounds p pv).map (· * (1 / pv))) r = w.get r * (1 / pv) := by
  by_cases h : r < w.size
  · rw [setmap_get w p pv _ r h, if_neg hr]
  · simp [Vec.get, Array.getD, h]

/-- the row interchange of `iluApply` as two stores (for `p = 0` the second overwrites the first) -/
theorem iluApply_eq (cands : List (Cand K)) (o : PivOut K) (p : Nat) (hpos : o.pos = some p) (hp : p < cands.length) :
    iluApply cands o =
      (((cands.set p (cands[0]'(by omega))).set 0 { cands[p] with val := o.pivVal }).zipIdx.map fun c =>
        if c.2 = 0 then c.1 else { c.1 with val := c.1.val * (1 / o.pivVal) }) := by
  unfold iluApply
  rw [hpos]
  simp only [List.getElem?_eq_getElem hp, List.getElem?_eq_getElem (show 0 < cands.length by omega)]
  by_cases hp0 : p = 0
  · subst hp0; rw [if_pos rfl, List.set_set]
  · rw [if_neg hp0]

/-- **`iluApply` and the vector step agree**, for any candidate list with distinct rows that holds the values of `w`: what
`ilu_?pivotL` leaves in the supernode column (pivot value stored, row interchange, cdiv) is what `colStep` stores as the
new L column. -/
theorem iluApply_matches (cands : List (Cand K)) (w : Vec K) (o : PivOut K) (hnd : (cands.map (·.row)).Nodup)
    (hw : ∀ c ∈ cands, c.val = w.get c.row) (p : Nat) (hpos : o.pos = some p) (hp : p < cands.length)
    (hrow : cands[p].row = o.pivrow) (k : Nat) (e : Cand K) (he : (iluApply cands o)[k]? = some e) :
    (k = 0 → e.row = o.pivrow ∧ e.val = o.pivVal) ∧
    (k ≠ 0 → e.row ≠ o.pivrow ∧ e.row ∈ cands.map (·.row) ∧
      e.val = Vec.get ((w.setIfInBounds o.pivrow o.pivVal).map (· * (1 / o.pivVal))) e.row) := by
  have hlen0 : 0 < cands.length := by omega
  rw [iluApply_eq _ o p hpos hp, List.getElem?_map, List.getElem?_zipIdx, List.getElem?_set, List.getElem?_set] at he
  simp only [List.length_set, hlen0, hp, if_true, Nat.zero_add] at he
  have hne : ∀ a (ha : a < cands.length), a ≠ p → cands[a].row ≠ o.pivrow := fun a ha hap heq =>
    hap ((List.Nodup.getElem_inj_iff hnd (hi := by rwa [List.length_map]) (hj := by rwa [List.length_map])).mp
      (by rw [List.getElem_map, List.getElem_map]; exact heq.trans hrow.symm))
  -- a position `a` other than `p` ends with the row of `cands[a]` and the entry of the new L column at that row
  have hother : ∀ a (ha : a < cands.length), a ≠ p →
      cands[a].row ≠ o.pivrow ∧ cands[a].row ∈ cands.map (·.row) ∧
      cands[a].val * (1 / o.pivVal) = Vec.get ((w.setIfInBounds o.pivrow o.pivVal).map (· * (1 / o.pivVal))) cands[a].row :=
    fun a ha hap => ⟨hne a ha hap, List.mem_map_of_mem (List.getElem_mem ha),
      by rw [lcol_get w o.pivrow o.pivVal _ (hne a ha hap), hw _ (List.getElem_mem ha)]⟩
  by_cases hk0 : k = 0
  · subst hk0
    simp only [if_true, Option.map_some, Option.some.injEq] at he
    subst he
    exact ⟨fun _ => ⟨hrow, rfl⟩, fun h => absurd rfl h⟩
  · simp only [show ¬ 0 = k from fun h => hk0 h.symm, if_false] at he
    refine ⟨fun h => absurd h hk0, fun _ => ?_⟩
    by_cases hpk : p = k
    · -- position `p` received the candidate of position 0
      rw [if_pos hpk] at he
      simp only [Option.map_some, hk0, if_false, Option.some.injEq] at he
      subst he
      exact hother 0 hlen0 fun h => hk0 (h.trans hpk).symm
    · rw [if_neg hpk] at he
      cases hk : cands[k]? with
      | none => rw [hk] at he; cases he
      | some c =>
        obtain ⟨hlt, rfl⟩ := List.getElem?_eq_some_iff.mp hk
        rw [hk] at he
        simp only [Option.map_some, hk0, if_false, Option.some.injEq] at he
        subst he
        exact hother k hlt (Ne.symm hpk)
end apply

end Slu.Ilu
