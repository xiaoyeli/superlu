import Slu.Model.IluDropU
import SluProofs.Lemmas.IluDrop
import SluProofs.Lemmas.RatBasic
import SluProofs.Lemmas.SumBasic
import SluProofs.Lemmas.Dropped
/-
C15 — lemmas about the U-dropping model `Slu.IluDropU` (Slu/Model/IluDropU.lean), valid for EVERY scalar instance `UOps`: the
first loop of `ilu_[sdcz]copy_to_ucol` is a dropping rule (`Dropped`) on the pairs it visits, the second sweep one on what the
first loop kept (`USpec`).
-/
namespace Slu.IluDropU
open Slu Slu.Ilu Slu.IluDrop

theorem range_map_get_eq_take {α} [Inhabited α] (a : Array α) (c : Nat) (h : c ≤ a.size) :
    (List.range c).map (fun i => a[i]!) = a.toList.take c := by
  apply List.ext_getElem
  · simp; omega
  · intro i h1 h2
    simp only [List.length_map, List.length_range] at h1
    simp [getElem!_pos a i (by omega)]

section
variable {K R T : Type} [Inhabited K] [Inhabited R] [LT R] [DecidableLT R]

/-- the `(row, value)` pairs as the first loop reads them: a row listed again is read as zero -/
def visits (z : K) : Array K → List Nat → List (Nat × K)
  | _, [] => []
  | d, r :: rs => (r, d[r]!) :: visits z (d.setIfInBounds r z) rs

/-- the test of the first rule (l.128) -/
def keepC (ops : UOps K R T) (dropTol : T) (quota : Int) (x : K) : Bool :=
  decide (0 < quota) && ops.geTol (ops.abs1 x) dropTol

/-- what the first loop adds to `*sum` for a dropped value (l.134-147) -/
def acc1 (ops : UOps K R T) (milu : Milu) (s x : K) : K :=
  match milu with
  | .smilu1 | .smilu2 => ops.addK s x
  | .smilu3 => ops.addR s (ops.abs1 x)
  | .silu => s

/-- what the second sweep adds (l.198-210; `tmp` is the stale register) -/
def acc2 (ops : UOps K R T) (milu : Milu) (tmp : R) (s x : K) : K :=
  match milu with
  | .smilu1 | .smilu2 => ops.addK s x
  | .smilu3 => ops.sec3 s x tmp
  | .silu => s

variable (ops : UOps K R T) (milu : Milu) (dt : T) (q : Int) (pr : Array Int)

omit [Inhabited R] in
theorem step1_dense (s : S1 K R) (r : Nat) :
    (step1 ops milu dt q pr s r).dense = s.dense.setIfInBounds r ops.zeroK := by
  unfold step1; dsimp only; split <;> rfl

/-- invariant of the first loop: the pairs `inp` read so far are split into those kept and those dropped by the test of l.128,
and `*sum` is the fold of the loop's rule over what was dropped, oldest first -/
structure Loop1Inv (inp : List (Int × K)) (s : S1 K R) : Prop where
  split : Dropped inp s.kept.toList (s.dropped.map fun e => (pr[e.1]!, e.2)) (fun e => keepC ops dt q e.2 = true)
    (fun e => keepC ops dt q e.2 = false)
  sum : s.sum = s.dropped.reverse.foldl (fun a e => acc1 ops milu a e.2) ops.zeroK

omit [Inhabited R] in
theorem step1_inv {inp : List (Int × K)} {s : S1 K R} (h : Loop1Inv ops milu dt q pr inp s) (r : Nat) :
    Loop1Inv ops milu dt q pr (inp ++ [(pr[r]!, s.dense[r]!)]) (step1 ops milu dt q pr s r) := by
  unfold step1
  dsimp only
  cases hk : keepC ops dt q (s.dense[r]!) with
  | true =>
    rw [if_pos (show (decide (0 < q) && ops.geTol (ops.abs1 s.dense[r]!) dt) = true from hk)]
    refine ⟨?_, h.sum⟩
    show Dropped _ (s.kept.push _).toList _ _ _
    rw [Array.toList_push]
    exact h.split.keep hk
  | false =>
    rw [if_neg (show ¬ (decide (0 < q) && ops.geTol (ops.abs1 s.dense[r]!) dt) = true from ne_true_of_eq_false hk)]
    refine ⟨h.split.drop hk, ?_⟩
    show _ = ((_ :: s.dropped).reverse.foldl _ _)
    rw [List.reverse_cons, List.foldl_append, ← h.sum]
    cases milu <;> rfl

omit [Inhabited R] in
theorem loop1_inv (rows : List Nat) : ∀ (s : S1 K R) (inp : List (Int × K)), Loop1Inv ops milu dt q pr inp s →
    Loop1Inv ops milu dt q pr (inp ++ (visits ops.zeroK s.dense rows).map fun e => (pr[e.1]!, e.2))
      (rows.foldl (step1 ops milu dt q pr) s) ∧
    (rows.foldl (step1 ops milu dt q pr) s).dense = rows.foldl (fun d r => d.setIfInBounds r ops.zeroK) s.dense := by
  induction rows with
  | nil => intro s inp h; rw [visits, List.map_nil, List.append_nil]; exact ⟨h, rfl⟩
  | cons r rs ih =>
    intro s inp h
    rw [List.foldl_cons, List.foldl_cons, visits, List.map_cons, List.append_cons, ← step1_dense ops milu dt q pr s r]
    exact ih _ _ (step1_inv ops milu dt q pr h r)

theorem zeroed_get (z : K) (rows : List Nat) (d : Array K) (r : Nat) :
    (rows.foldl (fun d r => d.setIfInBounds r z) d).size = d.size ∧
    (rows.foldl (fun d r => d.setIfInBounds r z) d)[r]! = if r ∈ rows ∧ r < d.size then z else d[r]! := by
  obtain ⟨h1, h2, h3⟩ := foldl_stores id (fun _ => z) default rows d
  refine ⟨h1, ?_⟩
  by_cases hm : r ∈ rows
  · by_cases hr : r < d.size
    · rw [if_pos ⟨hm, hr⟩, Array.getElem!_eq_getD]
      exact h2 r hm hr fun _ _ _ => rfl
    · rw [if_neg fun c => hr c.2]
      exact getElem!_of_size_le _ _ h1 r (Nat.le_of_not_lt hr)
  · rw [if_neg fun c => hm c.1, Array.getElem!_eq_getD, Array.getElem!_eq_getD]
    exact h3 r fun b hb e => hm (e ▸ hb)

theorem visits_length (z : K) (rows : List Nat) : ∀ d : Array K, (visits z d rows).length = rows.length := by
  induction rows with
  | nil => intro d; rfl
  | cons r rs ih => intro d; exact congrArg Nat.succ (ih _)

/-- with distinct rows every value is read as it was on entry -/
theorem visits_nodup (z : K) (rows : List Nat) : ∀ d : Array K, rows.Nodup → visits z d rows = rows.map fun t => (t, d[t]!) := by
  induction rows with
  | nil => intro d _; rfl
  | cons r rs ih =>
    intro d hnd
    obtain ⟨hr, hrs⟩ := List.nodup_cons.mp hnd
    rw [visits, List.map_cons, ih _ hrs]
    refine congrArg _ (List.map_congr_left fun t ht => ?_)
    rw [getElem!_setIfInBounds_ne _ _ (fun (h : r = t) => hr (h ▸ ht))]

variable (tol : T) (tmp : R)

/-- invariant of the second sweep at position `i`: the `n0` slots hold `cnt` live entries, which with the entries removed split
`inp`; the live entries before `i` have been examined and kept; `*sum` is the fold of the sweep's rule over what was removed,
starting from `z0` -/
structure SweepInv (inp : List (Int × K)) (Keep : Int × K → Prop) (z0 : K) (n0 i : Nat) (s : S2 K) : Prop where
  size : s.a.size = n0
  cnt_le : s.cnt ≤ n0
  split : Dropped inp (s.a.toList.take s.cnt) s.removed Keep (fun e => ops.base.leTol (ops.abs1 e.2) tol = true)
  passed : ∀ k, k < i → k < s.cnt → ops.base.leTol (ops.abs1 (s.a[k]!).2) tol = false
  sum : s.sum = s.removed.reverse.foldl (fun a e => acc2 ops milu tmp a e.2) z0

variable {inp : List (Int × K)} {Keep : Int × K → Prop} {z0 : K} {n0 : Nat}

omit [Inhabited R] [LT R] [DecidableLT R] in
theorem sweep_inv (f i : Nat) (s : S2 K) (hf : s.cnt - i ≤ f) (h : SweepInv ops milu tol tmp inp Keep z0 n0 i s) :
    SweepInv ops milu tol tmp inp Keep z0 n0 (sweep ops milu tol tmp f i s).cnt (sweep ops milu tol tmp f i s) := by
  have stop : ∀ i (s : S2 K), s.cnt ≤ i → SweepInv ops milu tol tmp inp Keep z0 n0 i s →
      SweepInv ops milu tol tmp inp Keep z0 n0 s.cnt s := fun i s hi h => { h with passed := fun k hk _ => h.passed k (by omega) hk }
  fun_induction sweep ops milu tol tmp f i s with
  | case1 i s => exact stop i s (by omega) h
  | case2 f i s hic e ht sum ih =>
    have hn := h.size
    have hc := h.cnt_le
    exact ih (by dsimp only; omega)
      ⟨by rw [Array.size_setIfInBounds]; exact hn, Nat.le_trans (Nat.sub_le _ _) hc,
        h.split.swapRemoveArray hic (by omega) ht,
        fun k hki hkc => by
          dsimp only; rw [getElem!_setIfInBounds_ne _ _ (Nat.ne_of_gt hki)]; exact h.passed k hki (by dsimp only at hkc; omega),
        by dsimp only; rw [List.reverse_cons, List.foldl_append, ← h.sum]; cases milu <;> rfl⟩
  | case3 f i s hic e ht ih =>
    refine ih (by omega) { h with passed := fun k hki hkc => ?_ }
    rcases Nat.eq_or_lt_of_le (Nat.le_of_lt_succ hki) with rfl | hki
    · exact Bool.eq_false_iff.mpr ht
    · exact h.passed k hki hkc
  | case4 f i s hic => exact stop i s (Nat.le_of_not_lt hic) h

omit [Inhabited R] [LT R] [DecidableLT R] in
theorem SweepInv.kept {s : S2 K} (h : SweepInv ops milu tol tmp inp Keep z0 n0 s.cnt s) :
    Dropped inp (s.a.toList.take s.cnt) s.removed (fun e => Keep e ∧ ops.base.leTol (ops.abs1 e.2) tol = false)
      (fun e => ops.base.leTol (ops.abs1 e.2) tol = true) :=
  h.split.mono (fun e he hK => by
    obtain ⟨k, hk, rfl⟩ := List.mem_take_iff_getElem.mp he
    rw [Array.length_toList] at hk
    have hks : k < s.a.size := by omega
    refine ⟨hK, ?_⟩
    rw [Array.getElem_toList, ← getElem!_pos s.a k hks]
    exact h.passed k (by omega) (by omega)) fun _ _ => id

/-- the effective arguments after l.91-93 -/
def effTol (ops : UOps K R T) (rule : Rule) (dt : T) : T := if rule.nodrop then ops.negOneT else dt
def effQuota (rule : Rule) (q : Int) (n : Nat) : Int := if rule.nodrop then (n : Int) else q

theorem dropCore_cases (rule : Rule) (dt0 : T) (q0 : Int) (n : Nat) (dense : Array K) (work : Array R) (rows : List Nat) :
    let c := dropCore ops rule milu dt0 q0 n pr dense work rows
    c.1 = pass1 ops milu (effTol ops rule dt0) (effQuota rule q0 n) pr dense rows ∧
    ((c.2.2.1 = none ∧ c.2.1 = { a := c.1.kept, cnt := c.1.kept.size, sum := c.1.sum }) ∨
      ∃ tol, c.2.2.1 = some tol ∧
        c.2.1 = sweep ops milu tol c.1.tmp c.1.kept.size 0 { a := c.1.kept, cnt := c.1.kept.size, sum := c.1.sum }) := by
  unfold dropCore effTol effQuota
  dsimp only
  generalize (if rule.nodrop = true then ops.negOneT else dt0) = dt
  generalize (if rule.nodrop = true then (n : Int) else q0) = q
  split
  · exact ⟨rfl, Or.inr ⟨_, rfl, rfl⟩⟩
  · exact ⟨rfl, Or.inl ⟨rfl, rfl⟩⟩

/-- what the two rules guarantee, on the `(usub, value)` pairs of the column: the first loop is a dropping rule on the pairs
visited, the second sweep one on what the first loop kept.  `s1`, `s2`, `tol` are variables so that the statement reads the same
on the tuple `dropCore` returns and on the record of `copyToUcol` -/
structure USpec (ops : UOps K R T) (rule : Rule) (milu : Milu) (dt0 : T) (q0 : Int) (n : Nat) (pr : Array Int)
    (dense : Array K) (rows : List Nat) (s1 : S1 K R) (s2 : S2 K) (tol : Option T) : Prop where
  first : Dropped ((visits ops.zeroK dense rows).map fun e => (pr[e.1]!, e.2)) s1.kept.toList
    (s1.dropped.map fun e => (pr[e.1]!, e.2))
    (fun e => keepC ops (effTol ops rule dt0) (effQuota rule q0 n) e.2 = true)
    (fun e => keepC ops (effTol ops rule dt0) (effQuota rule q0 n) e.2 = false)
  second : Dropped s1.kept.toList (s2.a.toList.take s2.cnt) s2.removed
    (fun e => ∀ t, tol = some t → ops.base.leTol (ops.abs1 e.2) t = false)
    (fun e => ∃ t, tol = some t ∧ ops.base.leTol (ops.abs1 e.2) t = true)
  size_eq : s2.a.size = s1.kept.size
  cnt_le : s2.cnt ≤ s1.kept.size
  sum_eq : s2.sum = s2.removed.reverse.foldl (fun a e => acc2 ops milu s1.tmp a e.2)
    (s1.dropped.reverse.foldl (fun a e => acc1 ops milu a e.2) ops.zeroK)
  dense_eq : s1.dense = rows.foldl (fun d r => d.setIfInBounds r ops.zeroK) dense

theorem dropCore_spec (ops : UOps K R T) (rule : Rule) (milu : Milu) (dt0 : T) (q0 : Int) (n : Nat) (pr : Array Int)
    (dense : Array K) (work : Array R) (rows : List Nat) :
    USpec ops rule milu dt0 q0 n pr dense rows (dropCore ops rule milu dt0 q0 n pr dense work rows).1
      (dropCore ops rule milu dt0 q0 n pr dense work rows).2.1 (dropCore ops rule milu dt0 q0 n pr dense work rows).2.2.1 := by
  obtain ⟨e1, hc⟩ := dropCore_cases ops milu pr rule dt0 q0 n dense work rows
  generalize dropCore ops rule milu dt0 q0 n pr dense work rows = c at e1 hc ⊢
  obtain ⟨s1, s2, ot, rest⟩ := c
  dsimp only at e1 hc ⊢
  obtain ⟨⟨h1, hs⟩, hd⟩ := loop1_inv ops milu (effTol ops rule dt0) (effQuota rule q0 n) pr rows
    { kept := #[], dense := dense, sum := ops.zeroK, dmax := ops.base.zeroR, dmin := ops.dminInit, tmp := ops.base.zeroR } []
    ⟨⟨.refl _, nofun, nofun⟩, rfl⟩
  rw [List.nil_append, ← pass1, ← e1] at h1
  rw [← pass1, ← e1] at hs hd
  have h0 : ∀ D, Dropped s1.kept.toList (s1.kept.toList.take s1.kept.size) [] (fun _ => True) D := fun D => by
    rw [← Array.length_toList, List.take_length]; exact .refl _ D
  rcases hc with ⟨rfl, rfl⟩ | ⟨tol, rfl, rfl⟩
  · exact ⟨h1, ⟨(h0 fun _ => True).perm, fun _ _ => nofun, nofun⟩, rfl, Nat.le_refl _, hs, hd⟩
  · have h := sweep_inv ops milu tol s1.tmp s1.kept.size 0 { a := s1.kept, cnt := s1.kept.size, sum := s1.sum }
      (Nat.le_refl _) ⟨rfl, Nat.le_refl _, h0 _, nofun, rfl⟩
    exact ⟨h1, h.kept.mono (fun _ _ hk t ht => Option.some.inj ht ▸ hk.2) fun _ _ hd => ⟨tol, rfl, hd⟩, h.size, h.cnt_le,
      hs ▸ h.sum, hd⟩

omit [Inhabited R] [LT R] [DecidableLT R] in
theorem USpec.count {ops : UOps K R T} {rule : Rule} {milu : Milu} {dt0 : T} {q0 : Int} {n : Nat} {pr : Array Int}
    {dense : Array K} {rows : List Nat} {s1 : S1 K R} {s2 : S2 K} {tol : Option T}
    (h : USpec ops rule milu dt0 q0 n pr dense rows s1 s2 tol) :
    s2.cnt + s2.removed.length = s1.kept.size ∧ s1.kept.size + s1.dropped.length = rows.length := by
  have c1 := h.first.count
  have c2 := h.second.count
  rw [List.length_map, List.length_map, visits_length, Array.length_toList] at c1
  rw [List.length_take, Array.length_toList, Array.length_toList, Nat.min_eq_left (h.size_eq ▸ h.cnt_le)] at c2
  exact ⟨c2, c1⟩

variable (inp : UIn K R T)

/-- the rows the U-segments of the call list, in the order of the routine -/
def rowsOf (inp : UIn K R T) : List Nat :=
  segRows inp.jcol inp.nseg inp.segrep inp.repfnz inp.xsup inp.supno inp.lsub inp.xlsub

/-- the column on entry: the `(perm_r[row], value)` pairs of the listed rows (a row listed again counts with value 0) -/
def colPairs : List (Int × K) := (visits ops.zeroK inp.dense (rowsOf inp)).map fun e => (inp.permR[e.1]!, e.2)

/-- the column on exit: `(usub[i], ucol[i])` for `xusub[jcol] <= i < xusub[jcol+1]` -/
def stored (o : UOut K R T) : List (Int × K) :=
  (List.range o.cnt).map fun i => (o.usub[(inp.xusub[inp.jcol]!).toNat + i]!, o.ucol[(inp.xusub[inp.jcol]!).toNat + i]!)

theorem copyToUcol_spec : USpec ops inp.rule inp.milu inp.dropTol inp.quota inp.n inp.permR inp.dense (rowsOf inp)
    (copyToUcol ops inp).s1 (copyToUcol ops inp).s2 (copyToUcol ops inp).tol :=
  dropCore_spec ops inp.rule inp.milu inp.dropTol inp.quota inp.n inp.permR inp.dense inp.work (rowsOf inp)

theorem stored_eq (hU : (inp.xusub[inp.jcol]!).toNat + (rowsOf inp).length ≤ inp.ucol.size)
    (hS : (inp.xusub[inp.jcol]!).toNat + (rowsOf inp).length ≤ inp.usub.size) :
    stored inp (copyToUcol ops inp) = (copyToUcol ops inp).s2.a.toList.take (copyToUcol ops inp).s2.cnt := by
  have h := copyToUcol_spec ops inp
  have hc := h.cnt_le
  have hm := h.count.2
  rw [← range_map_get_eq_take (copyToUcol ops inp).s2.a _ (h.size_eq ▸ hc)]
  refine List.map_congr_left fun i hi => ?_
  have hi' : i < (copyToUcol ops inp).s1.kept.size := Nat.lt_of_lt_of_le (List.mem_range.mp hi) hc
  have g1 := (storeRange_spec (copyToUcol ops inp).s1.kept.size (inp.xusub[inp.jcol]!).toNat
    (fun i => ((copyToUcol ops inp).s2.a[i]!).1) inp.usub).2 ((inp.xusub[inp.jcol]!).toNat + i)
  have g2 := (storeRange_spec (copyToUcol ops inp).s1.kept.size (inp.xusub[inp.jcol]!).toNat
    (fun i => ((copyToUcol ops inp).s2.a[i]!).2) inp.ucol).2 ((inp.xusub[inp.jcol]!).toNat + i)
  rw [if_pos (by omega), Nat.add_sub_cancel_left] at g1 g2
  exact Prod.ext g1 g2

end

theorem foldl_add_sum {α} (g : α → Rat) (l : List α) : ∀ init : Rat, l.foldl (fun a e => a + g e) init = init + (l.map g).sum :=
  foldl_add_eq_sum l g

theorem acc1_rat (nrm2 : Array Rat → Rat) (d0 : Rat) (milu : Milu) (s x : Rat) :
    acc1 (uopsRat nrm2 d0) milu s x = s + miluTerm milu x := by
  cases milu
  · exact (add_zero s).symm
  all_goals rfl

theorem acc2_rat (nrm2 : Array Rat → Rat) (d0 : Rat) (milu : Milu) (tmp s x : Rat) :
    acc2 (uopsRat nrm2 d0) milu tmp s x = s + miluTerm milu x := by
  cases milu
  · exact (add_zero s).symm
  all_goals rfl

end Slu.IluDropU
