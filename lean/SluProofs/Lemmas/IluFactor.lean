import Slu.Model.IluFactor
import SluProofs.Lemmas.LUInv
import SluProofs.Lemmas.Ilu
/-
Lemmas for C15 about the column loop `Slu.Ilu.iluFactor` (Slu/Model/IluFactor.lean). The two steps of a column
(`colStep`, `lStep`) get their equations and entry lemmas; the invariant `IInv` — the factors are an LU (`Slu.LU.Core`:
unit-lower L̃, distinct pivot rows) of `Pr A Pc + E` — is preserved by both for every drop oracle, the column step being
`Core.extend`. On top of it: an oracle that drops nothing gives the complete LU driven by the same policy with `E = 0`, and
`Slu.LU.luFactor` itself when every row is eligible (`iluPivotChoice_eq_pivotChoice` of Lemmas/Ilu); without row dropping
finished columns never change; the diagonal of Ũ is nonzero when no column step stops.
-/
namespace Slu.Ilu
open Slu Slu.LU

section arrays
variable {α β : Type}

theorem getD_mapIdx_lt (a : Array α) (g : Nat → α → β) (d : α) (d' : β) {t : Nat} (h : t < a.size) :
    (a.mapIdx g).getD t d' = g t (a.getD t d) := by
  simp [Array.getD, h]

/-- `mapIdx` read at any index, when the map sends the default to the default -/
theorem getD_mapIdx (a : Array α) (g : Nat → α → β) (d : α) (d' : β) (t : Nat) (hg : g t d = d') :
    (a.mapIdx g).getD t d' = g t (a.getD t d) := by
  by_cases h : t < a.size
  · exact getD_mapIdx_lt a g d d' h
  · simp [Array.getD, h, hg]

theorem mapIdx_id_of (a : Array α) (g : Nat → α → α) (h : ∀ i x, g i x = x) : a.mapIdx g = a := by
  apply Array.ext
  · simp
  · intro i h1 h2; simp [h]

theorem toList_getD (a : Array α) (t : Nat) (d : α) : a.toList.getD t d = a.getD t d := by
  simp only [List.getD_eq_getElem?_getD, Array.getD_eq_getD_getElem?, Array.getElem?_toList]

theorem getD_of_toList (a : Array α) (f : Nat → α) (n : Nat) (h : a.toList = (List.range n).map f) (d : α)
    {k : Nat} (hk : k < n) : a.getD k d = f k := by
  rw [← toList_getD, h]; simp [hk]

end arrays

section
variable {K : Type} [Zero K]

theorem setIfInBounds_self (w : Vec K) (p : Nat) : w.setIfInBounds p (w.get p) = w := by
  apply Array.ext_getElem?
  intro i
  rw [Array.getElem?_setIfInBounds]
  split
  · rename_i h; subst h
    split
    · rename_i h2; simp [Vec.get, Array.getD, h2]
    · rename_i h2; rw [Array.getElem?_eq_none (by omega)]
  · rfl

end

section lists
variable {K : Type} [Field K]

/-- the model file is core Lean only and cannot name `dotL`, which is defined with the LU lemmas; `edot` is the same
expression -/
theorem edot_eq_dotL (us : List K) (Ls : List (Nat × Vec K)) (i : Nat) : edot us Ls i = dotL us Ls i := rfl

theorem keepU_length (us : List K) (d : Nat → Bool) : (keepU us d).length = us.length := by simp [keepU]
theorem dropdU_length (us : List K) (d : Nat → Bool) : (dropdU us d).length = us.length := by simp [dropdU]

theorem dotL_split_aux (us : List K) (d : Nat → Bool) (Ls : List (Nat × Vec K)) (i s : Nat) :
    dotL us Ls i =
      dotL ((us.zipIdx s).map fun x => if d x.2 then 0 else x.1) Ls i +
      dotL ((us.zipIdx s).map fun x => if d x.2 then x.1 else 0) Ls i := by
  induction us generalizing Ls s with
  | nil => simp [dotL]
  | cons u us ih =>
    cases Ls with
    | nil => simp [dotL]
    | cons pl Ls =>
      simp only [List.zipIdx_cons, List.map_cons, dotL_cons]
      rw [ih Ls (s + 1)]
      cases d s <;> simp only [Bool.false_eq_true, if_false, if_true] <;> ring

/-- stored + dropped = computed -/
theorem dotL_keep_drop (us : List K) (d : Nat → Bool) (Ls : List (Nat × Vec K)) (i : Nat) :
    dotL us Ls i = dotL (keepU us d) Ls i + dotL (dropdU us d) Ls i := dotL_split_aux us d Ls i 0

theorem keepU_none (us : List K) (d : Nat → Bool) (h : ∀ t, d t = false) : keepU us d = us := by
  simp only [keepU, h, Bool.false_eq_true, if_false]
  exact List.zipIdx_map_fst 0 us

omit [Field K] in
theorem droppedVals_none [Zero K] (us : List K) (d : Nat → Bool) (h : ∀ t, d t = false) : droppedVals us d = [] := by
  simp [droppedVals, h]

theorem dotL_dropd_none (us : List K) (d : Nat → Bool) (h : ∀ t, d t = false) (Ls : List (Nat × Vec K)) (i : Nat) :
    dotL (dropdU us d) Ls i = 0 := by
  have := dotL_keep_drop us d Ls i
  rwa [keepU_none us d h, left_eq_add] at this

theorem sum_map_sub {ι : Type} (l : List ι) (f g : ι → K) :
    (l.map fun t => f t - g t).sum = (l.map f).sum - (l.map g).sum := by
  induction l with
  | nil => simp
  | cons a l ih => simp only [List.map_cons, List.sum_cons, ih]; ring

theorem sum_mask (n : Nat) (u l : Nat → K) (d : Nat → Bool) :
    ((List.range n).map fun t => u t * (if d t then 0 else l t)).sum =
      ((List.range n).map fun t => u t * l t).sum - ((List.range n).map fun t => if d t then u t * l t else 0).sum := by
  rw [← sum_map_sub]
  refine congrArg List.sum (List.map_congr_left fun t _ => ?_)
  cases d t
  · rw [if_neg Bool.false_ne_true, if_neg Bool.false_ne_true, sub_zero]
  · rw [if_pos rfl, if_pos rfl, mul_zero, sub_self]

theorem sum_scale_last (k : Nat) (u m : Nat → K) (f : K) :
    ((List.range (k + 1)).map fun t => (if t = k then u t * f else u t) * m t).sum =
      ((List.range (k + 1)).map fun t => u t * m t).sum + (f - 1) * u k * m k := by
  rw [List.sum_range_succ, List.sum_range_succ, if_pos rfl,
    List.map_congr_left fun t ht => by rw [if_neg (Nat.ne_of_lt (List.mem_range.mp ht))]]
  ring

/-- the array form of `dotL_prev` -/
theorem dotL_prev_toList (st : LU.St K) (a : Array K) (k i : Nat) (h : a.size = k) :
    dotL a.toList (prev st k) i = ((List.range k).map fun t => a.getD t 0 * (st.L.getD t #[]).get i).sum := by
  rw [dotL_prev st a.toList k i (by rw [Array.length_toList]; exact h)]
  simp only [toList_getD]

/-- replacing each L column by one that keeps its own pivot entry and is zero wherever the old one was keeps the
unit-lower structure -/
theorem unitLower_map_mask {ι : Type} (ts : List ι) (g g' : ι → Nat × Vec K) (h1 : ∀ t, (g' t).1 = (g t).1)
    (hp : ∀ t, (g' t).2.get (g t).1 = (g t).2.get (g t).1) (h0 : ∀ t q, (g t).2.get q = 0 → (g' t).2.get q = 0)
    (hU : UnitLower (ts.map g)) : UnitLower (ts.map g') := by
  rw [unitLower_iff, List.forall_mem_map, List.pairwise_map] at hU ⊢
  refine ⟨fun t ht => by rw [h1, hp]; exact hU.1 t ht, hU.2.imp fun {a b} hab => ?_⟩
  rw [h1]; exact h0 b _ hab

end lists

section inv
variable {K : Type} [Field K] [Inhabited K] [Mag K Rat]

/-- what holds after `j` columns of the incomplete factorization (model not stopped): the factors are an LU of
`Pr A Pc + E` (`Slu.LU.Core` with the ghost error columns added to the matrix columns), and `E` has the shape of L -/
structure IInv (P : IluParams K Rat) (st : IluSt K) (j : Nat) : Prop where
  core : Core P.m (fun k i => (P.col k).get i + (st.E.getD k #[]).get i) st.toLU j
  esizes : st.E.size = j
  esize : ∀ k < j, (st.E.getD k #[]).size = P.m

end inv

section col
variable {K : Type} [Field K] [Inhabited K] [Mag K Rat]

/- The data of column `j` as `colStep` computes them from the state `st` it finds (`c` for "of the column"):
`cW` eliminated column, `cUs` multipliers `u_0j .. u_(j-1)j`, `cD` the oracle's U-drop decision per multiplier,
`cDsum` the damped `drop_sum` handed to the pivot routine, `cOut` the pivot decision, `cBad` the condition on which the
model stops; `cL`, `cU`, `cE` the columns of L̃, Ũ and E it appends.  `cW`, `cUs` are by definition `Slu.LU.stepW`, `stepUs`
of the factors (`st.toLU`, `P.toLU`): the two `rfl`s of `colStep_dropsNothing` rest on this. -/
def cW (P : IluParams K Rat) (st : IluSt K) (j : Nat) : Vec K := (elim (prev st.toLU j) (P.col j)).1
def cUs (P : IluParams K Rat) (st : IluSt K) (j : Nat) : List K := (elim (prev st.toLU j) (P.col j)).2
def cD (P : IluParams K Rat) (drop : DropOracle K) (st : IluSt K) (j : Nat) : Nat → Bool :=
  drop.dropU st j (cW P st j) (cUs P st j)
def cDsum (F : Flavour K Rat) (P : IluParams K Rat) (drop : DropOracle K) (st : IluSt K) (j : Nat) : K :=
  dropSumOf F P j (droppedVals (cUs P st j) (cD P drop st j))
def cOut (F : Flavour K Rat) (P : IluParams K Rat) (drop : DropOracle K) (st : IluSt K) (j : Nat) : PivOut K :=
  iluPivOut F P st.piv st.usepr j (cW P st j) (cDsum F P drop st j)
def cBad (F : Flavour K Rat) (P : IluParams K Rat) (drop : DropOracle K) (st : IluSt K) (j : Nat) : Bool :=
  (cOut F P drop st j).pos.isNone || st.piv.contains (cOut F P drop st j).pivrow ||
    decide (P.m ≤ (cOut F P drop st j).pivrow) || (Mag.abs1 (cOut F P drop st j).pivVal : Rat) == 0
def cL (F : Flavour K Rat) (P : IluParams K Rat) (drop : DropOracle K) (st : IluSt K) (j : Nat) : Vec K :=
  ((cW P st j).setIfInBounds (cOut F P drop st j).pivrow (cOut F P drop st j).pivVal).map
    (· * (1 / (cOut F P drop st j).pivVal))
def cU (F : Flavour K Rat) (P : IluParams K Rat) (drop : DropOracle K) (st : IluSt K) (j : Nat) : Array K :=
  (keepU (cUs P st j) (cD P drop st j) ++ [(cOut F P drop st j).pivVal]).toArray
def cE (F : Flavour K Rat) (P : IluParams K Rat) (drop : DropOracle K) (st : IluSt K) (j : Nat) : Vec K :=
  (Array.range P.m).map fun i =>
    (if i = (cOut F P drop st j).pivrow then (cOut F P drop st j).pivVal - (cW P st j).get (cOut F P drop st j).pivrow else 0)
      - edot (dropdU (cUs P st j) (cD P drop st j)) (prev st.toLU j) i

variable (F : Flavour K Rat) (P : IluParams K Rat) (drop : DropOracle K) (st : IluSt K) (j : Nat)

theorem colStep_stuck (h : st.fail ≠ 0) : colStep F P drop st j = st := by
  simp [colStep, h]

theorem colStep_eq (h0 : st.fail = 0) :
    colStep F P drop st j =
      if cBad F P drop st j = true then
        { st with fail := j + 1, usepr := false, rets := st.rets.push (cOut F P drop st j).ret }
      else
        { piv := st.piv.push (cOut F P drop st j).pivrow, L := st.L.push (cL F P drop st j),
          U := st.U.push (cU F P drop st j), E := st.E.push (cE F P drop st j),
          usepr := (cOut F P drop st j).usepr, rets := st.rets.push (cOut F P drop st j).ret, fail := 0 } := by
  unfold colStep cBad cL cU cE cOut cDsum cD cW cUs
  simp only [h0, ne_eq, not_true_eq_false, if_false, prev]
  rfl

theorem colStep_fail (h0 : st.fail = 0) : (colStep F P drop st j).fail = 0 ↔ cBad F P drop st j = false := by
  rw [colStep_eq F P drop st j h0]
  cases cBad F P drop st j
  · exact ⟨fun _ => rfl, fun _ => rfl⟩
  · exact ⟨fun h => absurd h (Nat.succ_ne_zero j), fun h => by cases h⟩

theorem colStep_good (h0 : st.fail = 0) (hb : cBad F P drop st j = false) :
    colStep F P drop st j =
      { piv := st.piv.push (cOut F P drop st j).pivrow, L := st.L.push (cL F P drop st j),
        U := st.U.push (cU F P drop st j), E := st.E.push (cE F P drop st j),
        usepr := (cOut F P drop st j).usepr, rets := st.rets.push (cOut F P drop st j).ret, fail := 0 } := by
  rw [colStep_eq F P drop st j h0, hb]
  rfl

theorem colStep_rets (h0 : st.fail = 0) : (colStep F P drop st j).rets = st.rets.push (cOut F P drop st j).ret := by
  rw [colStep_eq F P drop st j h0]
  split <;> rfl

theorem cBad_eq_false :
    cBad F P drop st j = false ↔
      (cOut F P drop st j).pos.isNone = false ∧ (cOut F P drop st j).pivrow ∉ st.piv.toList ∧
      (cOut F P drop st j).pivrow < P.m ∧ (Mag.abs1 (cOut F P drop st j).pivVal : Rat) ≠ 0 := by
  simp [cBad, and_assoc]

omit [Inhabited K] [Mag K Rat] in
theorem cUs_length : (cUs P st j).length = j := by
  rw [cUs, elim_length, prev_length]

omit [Inhabited K] [Mag K Rat] in
theorem cW_size (hcol : ∀ j, (P.col j).size = P.m) : (cW P st j).size = P.m := by
  rw [cW, elim_size, hcol]

theorem cU_diag : (cU F P drop st j).getD j 0 = (cOut F P drop st j).pivVal := by
  simp [cU, Array.getD, keepU_length, cUs_length]

theorem cL_get (hcol : ∀ j, (P.col j).size = P.m) (i : Nat) (hi : i < P.m) :
    (cL F P drop st j).get i =
      (if i = (cOut F P drop st j).pivrow then (cOut F P drop st j).pivVal else (cW P st j).get i)
        * (1 / (cOut F P drop st j).pivVal) :=
  setmap_get _ _ _ _ i (by rw [cW_size P _ _ hcol]; exact hi)

theorem cE_get (i : Nat) (hi : i < P.m) :
    (cE F P drop st j).get i =
      (if i = (cOut F P drop st j).pivrow then (cOut F P drop st j).pivVal - (cW P st j).get (cOut F P drop st j).pivrow else 0)
        - dotL (dropdU (cUs P st j) (cD P drop st j)) (prev st.toLU j) i := by
  rw [← edot_eq_dotL]; exact getD_map_arrayRange P.m _ 0 hi

/-- **Preservation (column step)**, for every drop oracle: the step is `Core.extend` by the kept multipliers and the
value the policy left at the pivot; `cE` is what the new column of `L̃Ũ` then differs from the matrix column by. -/
theorem colStep_inv (laws : MagLaws K) (hcol : ∀ j, (P.col j).size = P.m) (h : IInv P st j) (h0 : st.fail = 0)
    (h1 : (colStep F P drop st j).fail = 0) : IInv P (colStep F P drop st j) (j + 1) := by
  have hb := (colStep_fail F P drop st j h0).mp h1
  obtain ⟨_, hnew, hplt, hmag⟩ := (cBad_eq_false F P drop st j).mp hb
  rw [colStep_good F P drop st j h0 hb]
  have hpv : (cOut F P drop st j).pivVal ≠ 0 := fun hz => hmag (by rw [hz]; exact laws.zero)
  refine ⟨h.core.extend (cW P st j) (cL F P drop st j) (keepU (cUs P st j) (cD P drop st j)) _ _ _
    (fun t ht => h.core.elim_zero (P.col j) t ht)
    (by rw [keepU_length, cUs_length]) hplt hnew hpv
    (by rw [cL, Array.size_map, Array.size_setIfInBounds, cW_size P _ _ hcol])
    (fun i hi => by rw [cL_get F P drop st j hcol i hi]; field_simp) (fun k hk i hi => ?_) (fun i hi => ?_), by simp [h.esizes],
    forall_getD_push h.esizes _ #[] (fun _ c => c.size = P.m) h.esize (by rw [cE, Array.size_map, Array.size_range])⟩
  · show _ + ((st.E.push _).getD k #[]).get i = _
    rw [getD_push_lt _ _ #[] (lt_of_lt_of_eq hk h.esizes.symm)]
  · show (P.col j).get i + ((st.E.push (cE F P drop st j)).getD j #[]).get i =
      dotL (keepU (cUs P st j) (cD P drop st j)) (prev st.toLU j) i +
        if i = (cOut F P drop st j).pivrow then (cOut F P drop st j).pivVal else (cW P st j).get i
    -- `col = Σ u L + w` (elimination), `u = kept + dropped`, and the pivot row carries `pivVal` instead of `w`
    rw [getD_push_eq _ _ _ h.esizes, cE_get F P drop st j i hi,
      show (P.col j).get i = dotL (cUs P st j) (prev st.toLU j) i + (cW P st j).get i from
        elim_spec (prev st.toLU j) (P.col j) i (by rw [hcol]; exact hi),
      dotL_keep_drop (cUs P st j) (cD P drop st j)]
    by_cases hip : i = (cOut F P drop st j).pivrow
    · rw [if_pos hip, if_pos hip, ← hip]; ring
    · rw [if_neg hip, if_neg hip]; ring

end col

section lstep
variable {K : Type} [Field K]

/-- the effective L-drop decision of `lStep`: the oracle's choice, except on the unit diagonal -/
def dlOf (drop : DropOracle K) (st : IluSt K) (j t i : Nat) : Bool :=
  drop.dropL st j t i && !(i == st.piv.getD t 0)

def lStepL (drop : DropOracle K) (st : IluSt K) (j : Nat) : Array (Vec K) :=
  st.L.mapIdx fun t l => l.mapIdx fun i x => if dlOf drop st j t i then 0 else x
def lStepU (drop : DropOracle K) (st : IluSt K) (j : Nat) : Array (Array K) :=
  st.U.mapIdx fun k uc => uc.mapIdx fun t x => if t = k then x * drop.diagMul st j k else x
def lStepE (drop : DropOracle K) (st : IluSt K) (j : Nat) : Array (Vec K) :=
  st.E.mapIdx fun k e => e.mapIdx fun i x =>
    x - ((List.range (k + 1)).map fun t =>
          if dlOf drop st j t i then (st.U.getD k #[]).getD t 0 * (st.L.getD t #[]).get i else 0).sum
      + (drop.diagMul st j k - 1) * (st.U.getD k #[]).getD k 0 * ((lStepL drop st j).getD k #[]).get i

variable (drop : DropOracle K) (st : IluSt K) (j : Nat)

theorem lStep_eq :
    lStep drop st j =
      if st.fail ≠ 0 then st else { st with L := lStepL drop st j, U := lStepU drop st j, E := lStepE drop st j } :=
  rfl

theorem lStep_stuck (h : st.fail ≠ 0) : lStep drop st j = st := by
  rw [lStep_eq, if_pos h]

theorem lStep_run (h0 : st.fail = 0) :
    lStep drop st j = { st with L := lStepL drop st j, U := lStepU drop st j, E := lStepE drop st j } := by
  rw [lStep_eq, if_neg (not_not.mpr h0)]

theorem lStep_frame :
    ∃ L U E, lStep drop st j = { st with L := L, U := U, E := E } ∧
      L.size = st.L.size ∧ U.size = st.U.size ∧ E.size = st.E.size := by
  by_cases h0 : st.fail = 0
  · exact ⟨_, _, _, lStep_run drop st j h0, Array.size_mapIdx, Array.size_mapIdx, Array.size_mapIdx⟩
  · exact ⟨st.L, st.U, st.E, lStep_stuck drop st j h0, rfl, rfl, rfl⟩

theorem lStep_piv : (lStep drop st j).piv = st.piv := by
  obtain ⟨L, U, E, h, _⟩ := lStep_frame drop st j; rw [h]
theorem lStep_fail : (lStep drop st j).fail = st.fail := by
  obtain ⟨L, U, E, h, _⟩ := lStep_frame drop st j; rw [h]
theorem lStep_rets : (lStep drop st j).rets = st.rets := by
  obtain ⟨L, U, E, h, _⟩ := lStep_frame drop st j; rw [h]

theorem lStep_inner_sizes (h0 : st.fail = 0) (t : Nat) :
    ((lStep drop st j).L.getD t #[]).size = (st.L.getD t #[]).size ∧
    ((lStep drop st j).U.getD t #[]).size = (st.U.getD t #[]).size ∧
    ((lStep drop st j).E.getD t #[]).size = (st.E.getD t #[]).size := by
  rw [lStep_run drop st j h0]
  dsimp only [lStepL, lStepU, lStepE]
  rw [getD_mapIdx st.L _ #[] #[] t rfl, getD_mapIdx st.U _ #[] #[] t rfl, getD_mapIdx st.E _ #[] #[] t rfl]
  exact ⟨Array.size_mapIdx, Array.size_mapIdx, Array.size_mapIdx⟩

theorem lStep_L_get (h0 : st.fail = 0) (t i : Nat) :
    ((lStep drop st j).L.getD t #[]).get i = if dlOf drop st j t i then 0 else (st.L.getD t #[]).get i := by
  rw [lStep_run drop st j h0]
  unfold Vec.get
  dsimp only [lStepL]
  rw [getD_mapIdx st.L _ #[] #[] t rfl, getD_mapIdx (st.L.getD t #[]) _ 0 0 i (ite_self 0)]

theorem lStep_U_get (h0 : st.fail = 0) (k t : Nat) :
    ((lStep drop st j).U.getD k #[]).getD t 0 =
      if t = k then (st.U.getD k #[]).getD t 0 * drop.diagMul st j k else (st.U.getD k #[]).getD t 0 := by
  rw [lStep_run drop st j h0]
  dsimp only [lStepU]
  rw [getD_mapIdx st.U _ #[] #[] k rfl, getD_mapIdx (st.U.getD k #[]) _ 0 0 t (by rw [zero_mul, ite_self])]

theorem lStep_E_get (h0 : st.fail = 0) (k i : Nat) (hi : i < (st.E.getD k #[]).size) :
    ((lStep drop st j).E.getD k #[]).get i =
      (st.E.getD k #[]).get i
        - ((List.range (k + 1)).map fun t =>
            if dlOf drop st j t i then (st.U.getD k #[]).getD t 0 * (st.L.getD t #[]).get i else 0).sum
        + (drop.diagMul st j k - 1) * (st.U.getD k #[]).getD k 0 * ((lStep drop st j).L.getD k #[]).get i := by
  rw [lStep_run drop st j h0]
  unfold Vec.get
  dsimp only [lStepE]
  rw [getD_mapIdx st.E _ #[] #[] k rfl, getD_mapIdx_lt (st.E.getD k #[]) _ 0 0 hi]
  rfl

/-- **Preservation (row-dropping step)**, for every oracle; the unit diagonal is never zeroed (`dlOf`), so L̃ stays unit
lower. -/
theorem lStep_inv (P : IluParams K Rat) (n : Nat) (h : IInv P st n) : IInv P (lStep drop st j) n := by
  by_cases h0 : st.fail = 0
  swap
  · rw [lStep_stuck drop st j h0]; exact h
  obtain ⟨hs1, hs2, hs3⟩ := h.core.sizes
  have hpiv := lStep_piv drop st j
  have hsz := lStep_inner_sizes drop st j h0
  obtain ⟨L, U, E, e, z2, z3, z4⟩ := lStep_frame drop st j
  have husize : ∀ k < n, ((lStep drop st j).U.getD k #[]).size = k + 1 := fun k hk => by
    rw [(hsz k).2.1]; exact h.core.usize k hk
  refine ⟨⟨?_, ?_, ?_, husize, ?_, ?_, ?_⟩, ?_, ?_⟩
  · rw [e]; exact ⟨hs1, z2.trans hs2, z3.trans hs3⟩
  · exact fun k hk => (hsz k).1.trans (h.core.lsize k hk)
  · exact fun k hk => lt_of_eq_of_lt (congrArg (·.getD k 0) hpiv) (h.core.prange k hk)
  · intro k hk i hi
    rw [dotL_prev_toList (lStep drop st j).toLU ((lStep drop st j).toLU.U.getD k #[]) (k + 1) i (husize k hk)]
    show ((List.range (k + 1)).map fun t =>
      ((lStep drop st j).U.getD k #[]).getD t 0 * ((lStep drop st j).L.getD t #[]).get i).sum = _
    -- zeroing `L(i,t)` removes the product `U(t,k) L(i,t)`, scaling `U(k,k)` changes the last term; `E` takes up both
    rw [lStep_E_get drop st j h0 k i (by rw [h.esize k hk]; exact hi), lStep_L_get drop st j h0 k i]
    simp only [lStep_U_get drop st j h0, lStep_L_get drop st j h0]
    rw [sum_scale_last, sum_mask, show ((List.range (k + 1)).map fun t => (st.U.getD k #[]).getD t 0 * (st.L.getD t #[]).get i).sum = _ from
      h.core.identity k hk i hi]
    ring
  · have hprev : prev (lStep drop st j).toLU n =
        (List.range n).map fun t => (st.piv.getD t 0, (lStep drop st j).L.getD t #[]) := by
      show (List.range n).map (fun t => ((lStep drop st j).piv.getD t 0, _)) = _
      rw [hpiv]
      rfl
    rw [hprev]
    apply unitLower_map_mask _ (fun t => (st.piv.getD t 0, st.L.getD t #[]))
      (fun t => (st.piv.getD t 0, (lStep drop st j).L.getD t #[])) (fun _ => rfl) _ _ h.core.unit
    · intro t
      show ((lStep drop st j).L.getD t #[]).get (st.piv.getD t 0) = (st.L.getD t #[]).get (st.piv.getD t 0)
      rw [lStep_L_get drop st j h0, dlOf, beq_self_eq_true, Bool.not_true, Bool.and_false, if_neg Bool.false_ne_true]
    · intro t q hq
      show ((lStep drop st j).L.getD t #[]).get q = 0
      rw [lStep_L_get drop st j h0, show (st.L.getD t #[]).get q = 0 from hq, ite_self]
  · exact (congrArg (·.toList.Nodup) hpiv).mpr h.core.nodup
  · rw [e]; exact z4.trans h.esizes
  · intro k hk; rw [(hsz k).2.2]; exact h.esize k hk

variable [Inhabited K] [Mag K Rat]

-- takes the section's `Inhabited K` and `Mag K Rat` as instance arguments, though only `Field K` is used
set_option linter.unusedSectionVars false in
theorem lStep_usepr (drop : DropOracle K) (st : IluSt K) (j : Nat) : (lStep drop st j).usepr = st.usepr := by
  obtain ⟨L, U, E, h, _⟩ := lStep_frame drop st j; rw [h]

end lstep

section run
variable {K : Type} [Field K] [Inhabited K] [Mag K Rat]

variable (F : Flavour K Rat) (P : IluParams K Rat) (drop : DropOracle K) (b : Bool)

theorem iluRun_zero : iluRun F P drop b 0 = { usepr := b } := by simp [iluRun]

theorem iluRun_succ (j : Nat) :
    iluRun F P drop b (j + 1) = lStep drop (colStep F P drop (iluRun F P drop b j) j) j :=
  foldl_range_succ _ _ j

theorem iluFactor_eq_run : iluFactor F P drop b = iluRun F P drop b P.n := rfl

theorem round_stuck (s : IluSt K) (i : Nat) (hs : ¬ s.fail = 0) : ¬ (lStep drop (colStep F P drop s i) i).fail = 0 := by
  rwa [colStep_stuck F P drop s i hs, lStep_stuck drop s i hs]

theorem iluRun_fail_le (j k : Nat) (hk : k ≤ j) (h : (iluRun F P drop b j).fail = 0) : (iluRun F P drop b k).fail = 0 :=
  (foldl_range_ok (fun s : IluSt K => s.fail = 0) (fun _ _ => True) _ j _ (round_stuck F P drop) trivial
    (fun _ _ _ _ _ _ => trivial) h).2 k hk

theorem iluRun_inv (laws : MagLaws K) (hcol : ∀ j, (P.col j).size = P.m) (j : Nat)
    (h : (iluRun F P drop b j).fail = 0) : IInv P (iluRun F P drop b j) j :=
  (foldl_range_ok (fun s : IluSt K => s.fail = 0) (fun j st => IInv P st j) _ j _ (round_stuck F P drop)
    ⟨Core.init _ _ _ rfl rfl rfl, rfl, fun k hk => absurd hk (Nat.not_lt_zero k)⟩
    (fun s i _ hi hs hs' =>
      lStep_inv drop _ i P (i + 1) (colStep_inv F P drop s i laws hcol hi hs (by rwa [lStep_fail] at hs'))) h).1

end run

section cands
variable {K : Type} [Field K] [Inhabited K] (P : IluParams K Rat)

omit [Inhabited K] in
theorem iluCands_length (piv : Array Nat) (j : Nat) (w : Vec K) :
    (iluCands P piv j w).length = ((P.order j).filter (fun r => !(piv.contains r))).length := by
  simp [iluCands]

theorem iluCands_get (piv : Array Nat) (j : Nat) (w : Vec K) (p : Nat) (hp : p < (iluCands P piv j w).length) :
    ∃ r, r ∈ P.order j ∧ r ∉ piv.toList ∧
      ((iluCands P piv j w)[p]! : Cand K) = { row := r, val := w.get r, elig := P.elig j r } := by
  have hp' : p < ((P.order j).filter (fun r => !(piv.contains r))).length := by rwa [iluCands_length] at hp
  have hf := List.mem_filter.mp (List.getElem_mem hp')
  refine ⟨_, hf.1, by simpa using hf.2, ?_⟩
  unfold iluCands
  generalize (P.order j).filter (fun r => !(piv.contains r)) = fl at hp' ⊢
  simp [hp']

theorem iluCands_elig (piv : Array Nat) (j : Nat) (w : Vec K) (r : Nat)
    (hr : r ∈ P.order j) (hnp : r ∉ piv.toList) (he : P.elig j r = true) :
    ∃ k, k < (iluCands P piv j w).length ∧ ((iluCands P piv j w)[k]! : Cand K).elig = true := by
  have hmem : r ∈ (P.order j).filter (fun r => !(piv.contains r)) :=
    List.mem_filter.mpr ⟨hr, by simpa using hnp⟩
  obtain ⟨k, hk, hget⟩ := List.getElem_of_mem hmem
  refine ⟨k, by rw [iluCands_length]; exact hk, ?_⟩
  unfold iluCands
  generalize (P.order j).filter (fun r => !(piv.contains r)) = fl at hk hget ⊢
  simp [hk, hget, he]

end cands

section nodrop
variable {K : Type} [Field K] [Inhabited K] [Mag K Rat]

/-- the laws of the scalar flavour that make `drop_sum = 0` a no-op -/
structure FlavourLaws (F : Flavour K Rat) : Prop where
  ds0 : F.dsOf 0 = 0
  ofR0 : F.ofR 0 = 0
  reset0 : ∀ v, F.resetInc 0 v = 0
  rscale0 : ∀ r : Rat, Mag.rscale (0 : K) r = 0

/-- the oracle drops nothing (dropping disabled: `drop_rule = NODROP`, or tolerances never met) -/
structure DropsNothing (drop : DropOracle K) : Prop where
  u : ∀ st j w us t, drop.dropU st j w us t = false
  l : ∀ st j t i, drop.dropL st j t i = false
  d : ∀ st j k, drop.diagMul st j k = 1

-- takes the section's `Field K`, `Inhabited K` and `Mag K Rat` as instance arguments, though only `One K` is used
set_option linter.unusedSectionVars false in
theorem noDrop_dropsNothing : DropsNothing (noDrop : DropOracle K) := ⟨fun _ _ _ _ _ => rfl, fun _ _ _ _ => rfl, fun _ _ _ => rfl⟩

variable (F : Flavour K Rat) (P : IluParams K Rat) (drop : DropOracle K) (b : Bool)

omit [Inhabited K] [Mag K Rat] in
theorem lStep_noL (hl : ∀ st j t i, drop.dropL st j t i = false)
    (hdm : ∀ st j k, drop.diagMul st j k = 1) (st : IluSt K) (j : Nat) :
    lStep drop st j = st := by
  by_cases h0 : st.fail = 0
  swap
  · exact lStep_stuck drop st j h0
  have hd : ∀ t i, dlOf drop st j t i = false := fun t i => by rw [dlOf, hl, Bool.false_and]
  have hL : lStepL drop st j = st.L :=
    mapIdx_id_of _ _ fun t l => mapIdx_id_of _ _ fun i x => by rw [hd]; rfl
  have hU : lStepU drop st j = st.U :=
    mapIdx_id_of _ _ fun k uc => mapIdx_id_of _ _ fun t x => by rw [hdm, mul_one, ite_self]
  have hE : lStepE drop st j = st.E :=
    mapIdx_id_of _ _ fun k e => mapIdx_id_of _ _ fun i x => by
      simp only [hd, Bool.false_eq_true, if_false, hdm, sub_self, zero_mul, add_zero]
      simp
  rw [lStep_run drop st j h0, hL, hU, hE]

/-- without row dropping finished columns never change: the run is the list of what its column steps wrote, each from the
state it found -/
theorem iluRun_noL_cols (hl : ∀ st j t i, drop.dropL st j t i = false) (hdm : ∀ st j k, drop.diagMul st j k = 1) (n : Nat)
    (h : (iluRun F P drop b n).fail = 0) :
    (iluRun F P drop b n).piv.toList = (List.range n).map (fun k => (cOut F P drop (iluRun F P drop b k) k).pivrow) ∧
    (iluRun F P drop b n).L.toList = (List.range n).map (fun k => cL F P drop (iluRun F P drop b k) k) ∧
    (iluRun F P drop b n).U.toList = (List.range n).map (fun k => cU F P drop (iluRun F P drop b k) k) ∧
    (iluRun F P drop b n).E.toList = (List.range n).map (fun k => cE F P drop (iluRun F P drop b k) k) := by
  induction n with
  | zero => simp [iluRun_zero]
  | succ n ih =>
    have hn := iluRun_fail_le F P drop b (n + 1) n (Nat.le_succ n) h
    obtain ⟨i1, i2, i3, i4⟩ := ih hn
    rw [iluRun_succ, lStep_noL drop hl hdm] at h ⊢
    rw [colStep_good F P drop _ n hn ((colStep_fail F P drop _ n hn).mp h)]
    simp only [Array.toList_push, List.range_succ, List.map_append, i1, i2, i3, i4]
    exact ⟨rfl, rfl, rfl, rfl⟩

omit [Inhabited K] in
theorem rawSum_nil (laws : MagLaws K) (hF : FlavourLaws F) (milu : Milu) : rawSum F milu ([] : List K) = 0 := by
  cases milu <;> simp [rawSum, laws.zero, hF.ofR0]

omit [Inhabited K] in
theorem cDsum_dropsNothing (laws : MagLaws K) (hF : FlavourLaws F)
    (hd : DropsNothing drop) (st : IluSt K) (j : Nat) : cDsum F P drop st j = 0 := by
  unfold cDsum dropSumOf
  rw [droppedVals_none _ _ (fun t => by unfold cD; exact hd.u _ _ _ _ t)]
  simp only [rawSum_nil F laws hF, hF.rscale0]

omit [Inhabited K] in
theorem resetVal_zero (hF : FlavourLaws F) (inp : PivIn K Rat) (hds : inp.dropSum = 0) (v : K) :
    resetVal inp (F.resetInc 0) v = v := by
  unfold resetVal
  split
  · rfl
  · rw [hds, add_zero]
  · rw [hF.reset0, add_zero]

theorem iluPivOut_ret0_val (laws : MagLaws K) (hF : FlavourLaws F)
    (piv : Array Nat) (b : Bool) (j : Nat) (w : Vec K) (hr : (iluPivOut F P piv b j w 0).ret = 0) :
    (iluPivOut F P piv b j w 0).pivVal = w.get (iluPivOut F P piv b j w 0).pivrow := by
  unfold iluPivOut at hr ⊢
  rw [hF.ds0] at hr ⊢
  obtain ⟨p, _, hp, hrow, hval⟩ := iluPivotChoice_ret0 (iluPivIn P piv b j w 0) (fun p => P.u * p) 0 F.ofR
    (F.resetInc 0) laws.nonneg (by norm_num) hr
  obtain ⟨r, _, _, hc⟩ := iluCands_get P piv j w p hp
  change ((iluCands P piv j w)[p]! : Cand K).row = _ at hrow
  rw [hval, resetVal_zero F hF _ rfl, ← hrow]
  change ((iluCands P piv j w)[p]! : Cand K).val = _
  rw [hc]

/-- the pivot decision of `luStepIluPivot` (the ILU policy with `drop_sum = 0` on the eliminated column) -/
def ipOut (F : Flavour K Rat) (P : IluParams K Rat) (st : LU.St K) (j : Nat) : PivOut K :=
  iluPivOut F P st.piv st.usepr j (stepW P.toLU st j) 0

/-- the new state produced by `luStepIluPivot`, in the vocabulary of `Slu.LU.step_unfold` -/
theorem luStepIluPivot_unfold (st : LU.St K) (j : Nat) (h0 : st.info = 0) :
    luStepIluPivot F P st j =
      if (ipOut F P st j).ret ≠ 0 then { st with info := (ipOut F P st j).ret, usepr := false } else
      { piv := st.piv.push (ipOut F P st j).pivrow,
        L := st.L.push ((stepW P.toLU st j).map (· * (1 / (stepW P.toLU st j).get (ipOut F P st j).pivrow))),
        U := st.U.push ((stepUs P.toLU st j ++ [(stepW P.toLU st j).get (ipOut F P st j).pivrow]).toArray),
        usepr := (ipOut F P st j).usepr, info := 0 } := by
  unfold luStepIluPivot ipOut stepW stepUs
  simp only [h0, ne_eq, not_true_eq_false, if_false, prev]
  rfl

/-- **No dropping, no replacement: one column** of the ILU loop is one column of the complete LU with the same policy,
and its error column vanishes. -/
theorem colStep_dropsNothing (laws : MagLaws K) (hF : FlavourLaws F)
    (hd : DropsNothing drop) (st : IluSt K) (j : Nat) (h0 : st.fail = 0)
    (h1 : (colStep F P drop st j).fail = 0) (hr : (cOut F P drop st j).ret = 0) :
    (colStep F P drop st j).toLU = luStepIluPivot F P st.toLU j ∧
    (colStep F P drop st j).E = st.E.push (cE F P drop st j) ∧ ∀ i, (cE F P drop st j).get i = 0 := by
  have hout : cOut F P drop st j = ipOut F P st.toLU j := by
    unfold cOut; rw [cDsum_dropsNothing F P drop laws hF hd st j]; rfl
  have hdn : ∀ t, cD P drop st j t = false := fun t => by unfold cD; exact hd.u _ _ _ _ t
  rw [colStep_good F P drop st j h0 ((colStep_fail F P drop st j h0).mp h1)]
  rw [hout] at hr
  have hval : (ipOut F P st.toLU j).pivVal = (cW P st j).get (ipOut F P st.toLU j).pivrow :=
    iluPivOut_ret0_val F P laws hF st.piv st.usepr j (cW P st j) hr
  refine ⟨?_, rfl, ?_⟩
  · rw [luStepIluPivot_unfold F P st.toLU j h0, if_neg (not_not.mpr hr)]
    unfold cL cU
    rw [hout, hval, setIfInBounds_self, keepU_none _ _ hdn]
    rfl
  · intro i
    by_cases hi : i < P.m
    · rw [cE_get F P drop st j i hi, dotL_dropd_none _ _ hdn, hout, hval]
      simp
    · unfold cE; simp [Vec.get, Array.getD, hi]

/-- a round from a state that has not stopped records the return value of the pivot routine: `iinfo = 0`, like
`fail = 0`, is lost for good once it is lost, and while it holds the routine returned 0 -/
theorem round_iinfo (s : IluSt K) (i : Nat) (h0 : s.fail = 0) (h : (lStep drop (colStep F P drop s i) i).iinfo = 0) :
    s.iinfo = 0 ∧ (cOut F P drop s i).ret = 0 := by
  rw [IluSt.iinfo, lStep_rets, colStep_rets F P drop s i h0, Array.toList_push, replaceCount, List.filter_append,
    List.length_append, Nat.add_eq_zero_iff] at h
  refine ⟨h.1, Classical.byContradiction fun hne => ?_⟩
  rw [List.filter_cons_of_pos (by simpa using hne)] at h
  exact absurd h.2 (Nat.succ_ne_zero _)

def luRunIluPivot (F : Flavour K Rat) (P : IluParams K Rat) (b : Bool) (j : Nat) : LU.St K :=
  (List.range j).foldl (luStepIluPivot F P) { usepr := b }

theorem luFactorIluPivot_eq_run : luFactorIluPivot F P b = luRunIluPivot F P b P.n := rfl

theorem luRunIluPivot_succ (j : Nat) :
    luRunIluPivot F P b (j + 1) = luStepIluPivot F P (luRunIluPivot F P b j) j :=
  foldl_range_succ _ _ j

/-- **No dropping, no replacement: the whole loop.**  A run that ends with `fail = 0` and `iinfo = 0` had both after
every round, so every column step went on and every call of the policy returned 0. -/
theorem iluRun_dropsNothing (laws : MagLaws K) (hF : FlavourLaws F) (hd : DropsNothing drop) (n : Nat)
    (h : (iluRun F P drop b n).fail = 0) (hi : (iluRun F P drop b n).iinfo = 0) :
    (iluRun F P drop b n).toLU = luRunIluPivot F P b n ∧
    ∀ k i, ((iluRun F P drop b n).E.getD k #[]).get i = 0 := by
  refine (foldl_range_ok (fun s : IluSt K => s.fail = 0 ∧ s.iinfo = 0)
    (fun j st => st.toLU = luRunIluPivot F P b j ∧ ∀ k i, ((st.E.getD k #[]).get i = 0)) _ n _
    (fun s i hs hs' => ?_) ⟨rfl, fun k i => by simp [Vec.get, Array.getD]⟩ (fun s i _ ih hs hs' => ?_) ⟨h, hi⟩).1
  · have h0 : s.fail = 0 := not_not.mp fun hc => round_stuck F P drop s i hc hs'.1
    exact hs ⟨h0, (round_iinfo F P drop s i h0 hs'.2).1⟩
  · obtain ⟨c1, c2, c3⟩ := colStep_dropsNothing F P drop laws hF hd s i hs.1 (by rw [← lStep_fail drop _ i]; exact hs'.1)
      (round_iinfo F P drop s i hs.1 hs'.2).2
    rw [lStep_noL drop hd.l hd.d]
    refine ⟨by rw [c1, ih.1]; exact (luRunIluPivot_succ F P b i).symm, fun k i => ?_⟩
    rw [c2, getD_push]
    by_cases h1 : k < s.E.size
    · rw [if_pos h1]; exact ih.2 k i
    · rw [if_neg h1]
      by_cases h2 : k = s.E.size
      · rw [if_pos h2]; exact c3 i
      · rw [if_neg h2]; rfl

omit [Inhabited K] [Mag K Rat] in
theorem iluCands_eq_toCands (hel : ∀ j r, P.elig j r = true) (piv : Array Nat) (j : Nat) (w : Vec K) :
    iluCands P piv j w = toCands (((P.order j).filter (fun r => !(piv.contains r))).map fun r => (r, w.get r)) := by
  simp [iluCands, toCands, hel]

/-- **Same policy, same step.** When every candidate row is eligible, one column of the complete LU
driven by `ilu_?pivotL` (drop_sum = 0) is one column of `Slu.LU.luFactor` — including the singular
stop (both report `jcol+1` exactly when every candidate is zero). -/
theorem luStepIluPivot_eq_step (laws : MagLaws K) (hF : FlavourLaws F)
    (hel : ∀ j r, P.elig j r = true) (st : LU.St K) (j : Nat) :
    luStepIluPivot F P st j = LU.step P.toLU st j := by
  by_cases h0 : st.info = 0
  swap
  · rw [step_stuck _ _ _ h0]; simp [luStepIluPivot, h0]
  obtain ⟨hc1, hc2⟩ := iluPivotChoice_eq_pivotChoice laws (iluPivIn P st.piv st.usepr j (stepW P.toLU st j) 0)
    (stepCands P.toLU st j) (iluCands_eq_toCands P hel st.piv j _) rfl (fun p => P.u * p) F.ofR (F.resetInc 0)
  have hout : ipOut F P st j =
      iluPivotChoice (iluPivIn P st.piv st.usepr j (stepW P.toLU st j) 0) (fun p => P.u * p) 0 F.ofR (F.resetInc 0) := by
    unfold ipOut iluPivOut; rw [hF.ds0]
  change _ = (stepOut P.toLU st j).info at hc1
  change (stepOut P.toLU st j).info = 0 → _ = (stepOut P.toLU st j).row ∧ _ = (stepOut P.toLU st j).usepr at hc2
  rw [luStepIluPivot_unfold F P st j h0, step_unfold P.toLU st j h0, hout, hc1]
  by_cases hi : (stepOut P.toLU st j).info = 0
  · obtain ⟨hc3, hc4⟩ := hc2 hi
    rw [if_neg (not_not.mpr hi), if_neg (not_not.mpr hi), hc3, hc4]
  · rw [if_pos hi, if_pos hi]

end nodrop

section udiag
variable {K : Type} [Field K] [Inhabited K] [Mag K Rat]
variable (F : Flavour K Rat) (P : IluParams K Rat) (drop : DropOracle K) (b : Bool)

/-- **The column step goes on when the column has a free eligible row**: `iluPivotChoice_total` on the candidates of
the column; `hfill`, `hds`, `hreset` are its hypotheses at the flavour's `drop_sum`. -/
theorem cBad_false_of_elig (laws : MagLaws K)
    (st : IluSt K) (j : Nat) (hrows : ∀ r ∈ P.order j, r < P.m) (hfill : F.ofR (P.fillTol j) ≠ 0)
    (hds : P.milu = .smilu2 ∨ P.milu = .smilu3 → 0 ≤ F.dsOf (cDsum F P drop st j))
    (hreset : ∀ v, P.milu = .smilu2 ∨ P.milu = .smilu3 → (Mag.abs1 v : Rat) + F.dsOf (cDsum F P drop st j) ≠ 0 →
      v + F.resetInc (cDsum F P drop st j) v ≠ 0)
    (hc : ∃ r ∈ P.order j, r ∉ st.piv.toList ∧ P.elig j r = true) :
    cBad F P drop st j = false := by
  obtain ⟨r, hr, hnp, he⟩ := hc
  obtain ⟨p, ⟨hpos, hplt, hpv, _⟩, hrow⟩ := iluPivotChoice_total
    (iluPivIn P st.piv st.usepr j (cW P st j) (cDsum F P drop st j)) (fun p => P.u * p)
    (F.dsOf (cDsum F P drop st j)) F.ofR (F.resetInc (cDsum F P drop st j)) laws.nonneg laws.zero hds hreset hfill
    (iluCands_elig P st.piv j (cW P st j) r hr hnp he)
  change (cOut F P drop st j).pos = some p at hpos
  change _ = (cOut F P drop st j).pivrow at hrow
  change (cOut F P drop st j).pivVal ≠ 0 at hpv
  obtain ⟨r', h1, h2, hc'⟩ := iluCands_get P st.piv j (cW P st j) p hplt
  have hr' : (cOut F P drop st j).pivrow = r' := by
    rw [← hrow]; change ((iluCands P st.piv j (cW P st j))[p]! : Cand K).row = r'; rw [hc']
  rw [cBad_eq_false]
  exact ⟨by rw [hpos]; rfl, hr' ▸ h2, hr' ▸ hrows r' h1, fun h => hpv (laws.definite _ h)⟩

theorem iluRun_udiag (laws : MagLaws K) (hcol : ∀ j, (P.col j).size = P.m) (hdm : ∀ st j k, drop.diagMul st j k ≠ 0)
    (hgo : ∀ j < P.n, (iluRun F P drop b j).fail = 0 → cBad F P drop (iluRun F P drop b j) j = false)
    (j : Nat) (hj : j ≤ P.n) :
    (iluRun F P drop b j).fail = 0 ∧ ∀ k < j, ((iluRun F P drop b j).U.getD k #[]).getD k 0 ≠ 0 := by
  induction j with
  | zero => exact ⟨by rw [iluRun_zero], fun k hk => by omega⟩
  | succ j ih =>
    obtain ⟨ih1, ih2⟩ := ih (by omega)
    have hb := hgo j (by omega) ih1
    have hs3 : (iluRun F P drop b j).U.size = j := (iluRun_inv F P drop b laws hcol j ih1).core.sizes.2.2
    have hcf := (colStep_fail F P drop _ j ih1).mpr hb
    -- the column step appends a column whose diagonal entry is the nonzero pivot; the row-dropping step scales the diagonal
    have hpush := forall_getD_push hs3 (cU F P drop _ j) #[] (fun k c => c.getD k 0 ≠ 0) ih2
      (by rw [cU_diag]; exact fun hz => ((cBad_eq_false F P drop _ j).mp hb).2.2.2 (by rw [hz]; exact laws.zero))
    rw [iluRun_succ]
    refine ⟨by rw [lStep_fail]; exact hcf, fun k hk => ?_⟩
    rw [lStep_U_get drop _ j hcf k k, if_pos rfl]
    refine mul_ne_zero ?_ (hdm _ _ _)
    rw [colStep_good F P drop _ j ih1 hb]
    exact hpush k hk

end udiag
end Slu.Ilu
