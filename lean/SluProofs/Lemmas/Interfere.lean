import Slu.Model.Interfere
/-
Lemmas for C09 about `Slu/Model/Interfere.lean`: a call run alone depends on its footprint only (`runAlone_local`), and
in any interleaving of calls that do not write what another touches each call does what it does alone
(`run_projection`); hence the final configuration depends only on the run-alone traces (`run_eq_of_runAlone_eq`).
-/
namespace Slu.Interfere

variable {ι σ V : Type}

theorem agreeOn_refl (f : Loc → Bool) (s : Store V) : agreeOn f s s := fun _ _ => rfl

theorem agreeOn_symm {f : Loc → Bool} {s t : Store V} (h : agreeOn f s t) : agreeOn f t s :=
  fun x hx => (h x hx).symm

theorem agreeOn_trans {f : Loc → Bool} {s t u : Store V} (h₁ : agreeOn f s t) (h₂ : agreeOn f t u) :
    agreeOn f s u := fun x hx => (h₁ x hx).trans (h₂ x hx)

theorem acc_of_wr (p : Proc σ V) {x : Loc} (h : p.wr x = true) : p.acc x = true := by
  simp [Proc.acc, h]

theorem step1_local {p : Proc σ V} (hp : p.Respects) (l : σ) {s t : Store V} (h : agreeOn p.acc s t) :
    (p.step1 (l, s)).1 = (p.step1 (l, t)).1 ∧ agreeOn p.acc (p.step1 (l, s)).2 (p.step1 (l, t)).2 := by
  rcases hp.locality l s t h with ⟨h1, h2⟩ | ⟨l', s', t', h1, h2, h3⟩
  · simp [Proc.step1, h1, h2]; exact h
  · have e1 : p.step1 (l, s) = (l', s') := by simp [Proc.step1, h1]
    have e2 : p.step1 (l, t) = (l', t') := by simp [Proc.step1, h2]
    rw [e1, e2]
    refine ⟨rfl, fun x hx => ?_⟩
    cases hw : p.wr x with
    | true => exact h3 x hw
    | false =>
      show s' x = t' x
      rw [hp.frame l s l' s' h1 x hw, hp.frame l t l' t' h2 x hw]; exact h x hx

theorem runAlone_local {p : Proc σ V} (hp : p.Respects) (k : Nat) :
    ∀ (l : σ) (s t : Store V), agreeOn p.acc s t →
      (p.runAlone k (l, s)).1 = (p.runAlone k (l, t)).1 ∧
      agreeOn p.acc (p.runAlone k (l, s)).2 (p.runAlone k (l, t)).2 := by
  induction k with
  | zero => intro l s t h; exact ⟨rfl, h⟩
  | succ k ih =>
    intro l s t h
    obtain ⟨h1, h2⟩ := step1_local hp l h
    simp only [Proc.runAlone]
    have e1 : p.step1 (l, s) = ((p.step1 (l, s)).1, (p.step1 (l, s)).2) := rfl
    have e2 : p.step1 (l, t) = ((p.step1 (l, s)).1, (p.step1 (l, t)).2) := by rw [h1]
    rw [e1, e2]
    exact ih _ _ _ h2

theorem runAlone_add (p : Proc σ V) (j k : Nat) (c : σ × Store V) :
    p.runAlone (j + k) c = p.runAlone k (p.runAlone j c) := by
  induction j generalizing c with
  | zero => simp [Proc.runAlone]
  | succ j ih =>
    have : j + 1 + k = (j + k) + 1 := by omega
    rw [this]; simp only [Proc.runAlone]; exact ih _

theorem runAlone_stuck (p : Proc σ V) (c : σ × Store V) (h : p.step c.1 c.2 = none) (k : Nat) :
    p.runAlone k c = c := by
  induction k with
  | zero => rfl
  | succ k ih =>
    simp only [Proc.runAlone]
    have : p.step1 c = c := by simp [Proc.step1, h]
    rw [this]; exact ih

theorem runAlone_eq_of_stuck (p : Proc σ V) (c : σ × Store V) {m n : Nat}
    (hm : p.step (p.runAlone m c).1 (p.runAlone m c).2 = none)
    (hn : p.step (p.runAlone n c).1 (p.runAlone n c).2 = none) : p.runAlone m c = p.runAlone n c := by
  have a := runAlone_stuck p _ hm n
  have b := runAlone_stuck p _ hn m
  rw [← runAlone_add] at a b
  rw [← a, ← b, Nat.add_comm]

theorem Config.ext {a b : Config ι σ V} (hloc : ∀ i, a.loc i = b.loc i) (hst : ∀ x, a.st x = b.st x) : a = b := by
  obtain ⟨l, s⟩ := a
  obtain ⟨l', s'⟩ := b
  rw [show l = l' from funext hloc, show s = s' from funext hst]

section system
variable [DecidableEq ι] (ps : ι → Proc σ V)

theorem stepAt_self (i : ι) (c : Config ι σ V) :
    (stepAt ps i c).loc i = ((ps i).step1 (c.loc i, c.st)).1 ∧ (stepAt ps i c).st = ((ps i).step1 (c.loc i, c.st)).2 := by
  unfold stepAt Proc.step1
  cases h : (ps i).step (c.loc i) c.st with
  | none => exact ⟨rfl, rfl⟩
  | some r => exact ⟨if_pos rfl, rfl⟩

theorem stepAt_other_loc {i j : ι} (hij : j ≠ i) (c : Config ι σ V) : (stepAt ps i c).loc j = c.loc j := by
  unfold stepAt
  cases h : (ps i).step (c.loc i) c.st with
  | none => rfl
  | some r => obtain ⟨l', s'⟩ := r; simp [hij]

variable (hR : ∀ i, (ps i).Respects)
include hR

theorem stepAt_frame (i : ι) (c : Config ι σ V) (x : Loc)
    (hx : (ps i).wr x = false) : (stepAt ps i c).st x = c.st x := by
  unfold stepAt
  cases h : (ps i).step (c.loc i) c.st with
  | none => rfl
  | some r => obtain ⟨l', s'⟩ := r; exact (hR i).frame _ _ _ _ h x hx

theorem run_frame (sched : List ι) (x : Loc) (hx : ∀ i, (ps i).wr x = false) :
    ∀ c : Config ι σ V, (run ps sched c).st x = c.st x := by
  induction sched with
  | nil => intro c; rfl
  | cons j rest ih => intro c; simp only [run]; rw [ih, stepAt_frame ps hR j c x (hx j)]

variable (hD : NonInterf ps)
include hD

theorem stepAt_other_agree {i j : ι} (hij : j ≠ i)
    (c : Config ι σ V) : agreeOn (ps j).acc (stepAt ps i c).st c.st := by
  intro x hx
  apply stepAt_frame ps hR
  cases hw : (ps i).wr x with
  | false => rfl
  | true => rw [hD i j (Ne.symm hij) x hw] at hx; cases hx

/-- **projection**: in any interleaving, what thread `i` sees and produces is what it produces when
run alone for as many steps as it was scheduled -/
theorem run_projection (i : ι) (sched : List ι) :
    ∀ (c : Config ι σ V) (s0 : Store V), agreeOn (ps i).acc c.st s0 →
      (run ps sched c).loc i = ((ps i).runAlone (sched.count i) (c.loc i, s0)).1 ∧
      agreeOn (ps i).acc (run ps sched c).st ((ps i).runAlone (sched.count i) (c.loc i, s0)).2 := by
  induction sched with
  | nil => intro c s0 h; exact ⟨rfl, h⟩
  | cons j rest ih =>
    intro c s0 h
    simp only [run]
    by_cases hji : j = i
    · subst hji
      rw [List.count_cons_self]
      obtain ⟨hl, hs⟩ := stepAt_self ps j c
      obtain ⟨h1, h2⟩ := step1_local (hR j) (c.loc j) h
      have := ih (stepAt ps j c) ((ps j).step1 (c.loc j, s0)).2 (hs ▸ h2)
      rwa [hl, h1] at this
    · have hij : i ≠ j := fun e => hji e.symm
      rw [List.count_cons_of_ne hji]
      have := ih (stepAt ps j c) s0 (agreeOn_trans (stepAt_other_agree ps hR hD hij c) h)
      rwa [stepAt_other_loc ps hij c] at this

theorem stuck_of_run (i : ι) (sched : List ι)
    (c : Config ι σ V) (s0 : Store V) (h0 : agreeOn (ps i).acc c.st s0)
    (hf : (ps i).step ((run ps sched c).loc i) (run ps sched c).st = none) :
    (ps i).step ((ps i).runAlone (sched.count i) (c.loc i, s0)).1 ((ps i).runAlone (sched.count i) (c.loc i, s0)).2 = none := by
  obtain ⟨p1, p2⟩ := run_projection ps hR hD i sched c s0 h0
  rw [p1] at hf
  rcases (hR i).locality _ _ _ p2 with ⟨_, h⟩ | ⟨l', s', t', h, _, _⟩
  · exact h
  · rw [h] at hf; cases hf

/-- Two interleavings end in the same configuration as soon as every call, run alone from the start, is in the same
state after the number of steps it gets in the one and in the other.  The control states are those of the run-alone
traces (`run_projection`); so is the store wherever some call writes, and nothing else changes (`run_frame`). -/
theorem run_eq_of_runAlone_eq (c : Config ι σ V) (s₁ s₂ : List ι)
    (h : ∀ i, (ps i).runAlone (s₁.count i) (c.loc i, c.st) = (ps i).runAlone (s₂.count i) (c.loc i, c.st)) :
    run ps s₁ c = run ps s₂ c := by
  have proj := fun i s => run_projection ps hR hD i s c c.st (agreeOn_refl _ _)
  refine Config.ext (fun i => by rw [(proj i s₁).1, (proj i s₂).1, h i]) fun x => ?_
  by_cases hx : ∃ i, (ps i).wr x = true
  · obtain ⟨i, hi⟩ := hx
    rw [(proj i s₁).2 x (acc_of_wr _ hi), (proj i s₂).2 x (acc_of_wr _ hi), h i]
  · have hx' : ∀ i, (ps i).wr x = false := fun i => by simpa using fun hi => hx ⟨i, hi⟩
    rw [run_frame ps hR s₁ x hx', run_frame ps hR s₂ x hx']

end system
end Slu.Interfere
