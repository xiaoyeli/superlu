import Slu.Model.Kernels
import SluProofs.Lemmas.ArrayBasic
import SluProofs.Lemmas.SumBasic
import Mathlib.Algebra.BigOperators.Ring.Finset
import Mathlib.Algebra.BigOperators.Intervals
import Mathlib.Algebra.Field.Basic
import Mathlib.Tactic.Ring
import Mathlib.Tactic.FieldSimp
import Mathlib.Tactic.Linarith
/-
The state of a triangular solve in place (`Sweep`) with its laws.  `rowSweep_spec` packs the dot-product form of a solve (the
block solves of `sp_trsv` and the transposed sweeps of `?trsv_` are instances); the axpy forms apply `Sweep.run` /
`Sweep.run_down` with `Sweep.step1` themselves.  Then the column-by-column update of a padded array (`gstrs`, `sp_gemm`) and the
reference substitutions `fwdSub` / `bwdSub`.
-/
namespace Slu.Kernels
open Finset

section sums
variable {K : Type} [AddCommMonoid K]

theorem sumTo_eq_sum (n : Nat) (f : Nat → K) : sumTo n f = ∑ j ∈ range n, f j := by
  unfold sumTo; rw [foldl_add_range, zero_add]

end sums

section generic
variable {K : Type} [Inhabited K]

theorem getElem!_eq_getD_of_lt [Zero K] (a : Array K) (i : Nat) (h : i < a.size) : a[i]! = a.getD i 0 :=
  getD_eq_of_lt a i h default 0

theorem toArray_get [Zero K] (l : List K) (i : Nat) (hi : i < l.length) : l.toArray[i]! = l.getD i 0 := by
  simp [hi, List.getD_eq_getElem?_getD]

theorem foldl_upd_spec (n : Nat) (pos : Nat → Nat) (f : Nat → K → K) (y : Array K)
    (hinj : ∀ i j, i < n → j < n → pos i = pos j → i = j) :
    ((List.range n).foldl (fun (y : Array K) i => y.setIfInBounds (pos i) (f i y[pos i]!)) y).size = y.size ∧
    (∀ i, i < n → pos i < y.size →
      ((List.range n).foldl (fun (y : Array K) i => y.setIfInBounds (pos i) (f i y[pos i]!)) y)[pos i]! = f i y[pos i]!) ∧
    (∀ p, (∀ i, i < n → pos i ≠ p) →
      ((List.range n).foldl (fun (y : Array K) i => y.setIfInBounds (pos i) (f i y[pos i]!)) y)[p]! = y[p]!) :=
  foldl_store_spec n pos (fun i y' => f i y'[pos i]!) (fun i => f i y[pos i]!) y hinj
    fun j hj y' _ _ h => by rw [h _ fun i hi hc => absurd (hinj i j (by omega) hj hc) (by omega)]

end generic

section sweep
variable {K : Type} [CommRing K] [Inhabited K]

/-- State of an in-place substitution for the unknowns `y 0 .. y (n-1)`, unknown `i` living at position `P i` of an array
that started as `x0`: the unknowns in `S` are final; every other one holds its start value minus the part `A` of its
products with the finished ones (`A` is the matrix in a column-oriented sweep, `A = 0` in a row-oriented one); nothing
else has changed.  Every triangular solve of the development is a loop through such states (`Sweep.run`), each step
finishing a set `T` of unknowns (`Sweep.step`): one unknown in the scalar sweeps, a supernode or a block of columns in
the blocked ones. -/
structure Sweep (P : Nat → Nat) (A : Nat → Nat → K) (y : Nat → K) (n : Nat) (x0 : Array K) (S : Finset Nat) (x : Array K) :
    Prop where
  size : x.size = x0.size
  done : ∀ i, i ∈ S → x[P i]! = y i
  todo : ∀ i, i ∉ S → i < n → x[P i]! = x0[P i]! - ∑ j ∈ S, A i j * y j
  frame : ∀ p, (∀ i, i < n → P i ≠ p) → x[p]! = x0[p]!

variable {P : Nat → Nat} {A : Nat → Nat → K} {y : Nat → K} {n : Nat} {x0 x x' : Array K} {S T : Finset Nat}

theorem Sweep.init (P : Nat → Nat) (A : Nat → Nat → K) (y : Nat → K) (n : Nat) (x0 : Array K) : Sweep P A y n x0 ∅ x0 :=
  ⟨rfl, fun _ h => absurd h (Finset.notMem_empty _), fun _ _ _ => by simp, fun _ _ => rfl⟩

theorem Sweep.step (h : Sweep P A y n x0 S x) (hST : Disjoint S T) (hs : x'.size = x.size)
    (hT : ∀ j, j ∈ T → x'[P j]! = y j) (hS : ∀ i, i ∈ S → x'[P i]! = x[P i]!)
    (hO : ∀ i, i ∉ S → i ∉ T → i < n → x'[P i]! = x[P i]! - ∑ j ∈ T, A i j * y j)
    (hF : ∀ p, (∀ i, i < n → P i ≠ p) → x'[p]! = x[p]!) :
    Sweep P A y n x0 (S ∪ T) x' := by
  refine ⟨hs.trans h.size, fun i hi => ?_, fun i hi hin => ?_, fun p hp => (hF p hp).trans (h.frame p hp)⟩
  · rcases mem_union.mp hi with hi | hi
    · rw [hS i hi, h.done i hi]
    · exact hT i hi
  · rw [mem_union, not_or] at hi
    rw [hO i hi.1 hi.2 hin, h.todo i hi.1 hin, Finset.sum_union hST, sub_sub]

theorem Sweep.run (F : Nat → Finset Nat) (step : Nat → Array K → Array K) (m : Nat) (h0 : F 0 = ∅)
    (hstep : ∀ t, t < m → ∀ x, Sweep P A y n x0 (F t) x → Sweep P A y n x0 (F (t + 1)) (step t x)) :
    Sweep P A y n x0 (F m) ((List.range m).foldl (fun x t => step t x) x0) :=
  foldl_range_inv (fun t x => Sweep P A y n x0 (F t) x) _ m x0 (h0 ▸ Sweep.init P A y n x0) fun x t ht h => hstep t ht x h

/-- `Sweep.run` for a loop that counts down, `k = m, m - 1, ...`, stated for its first `t` steps -/
theorem Sweep.run_down (F : Nat → Finset Nat) (step : Nat → Array K → Array K) (m t : Nat) (ht : t ≤ m + 1)
    (h0 : F (m + 1) = ∅)
    (hstep : ∀ k, k < m + 1 → ∀ x, Sweep P A y n x0 (F (k + 1)) x → Sweep P A y n x0 (F k) (step k x)) :
    Sweep P A y n x0 (F (m + 1 - t)) ((List.range t).foldl (fun x kk => step (m - kk) x) x0) :=
  Sweep.run (P := P) (A := A) (y := y) (n := n) (x0 := x0) (fun s => F (m + 1 - s)) (fun kk => step (m - kk)) t h0
    fun s hs x h => by
      rw [show m + 1 - s = m - s + 1 by omega] at h
      rw [show m + 1 - (s + 1) = m - s by omega]
      exact hstep _ (by omega) x h

theorem Sweep.step1 (h : Sweep P A y n x0 S x) {j : Nat} (hjS : j ∉ S) (hs : x'.size = x.size) (hv : x'[P j]! = y j)
    (hS : ∀ i, i ∈ S → x'[P i]! = x[P i]!)
    (hO : ∀ i, i ∉ S → i ≠ j → i < n → x'[P i]! = x[P i]! - A i j * y j)
    (hF : ∀ p, (∀ i, i < n → P i ≠ p) → x'[p]! = x[p]!) :
    Sweep P A y n x0 (insert j S) x' := by
  rw [Finset.insert_eq, Finset.union_comm]
  exact h.step (by simpa using hjS) hs (fun i hi => by rw [Finset.mem_singleton.mp hi, hv]) hS
    (fun i hi hiT hin => by rw [hO i hi (by simpa using hiT) hin, Finset.sum_singleton]) hF

/-- in a row-oriented sweep whatever is not finished is as at the start -/
theorem Sweep.lazy (h : Sweep P (fun _ _ => 0) y n x0 S x) (p : Nat) (hp : ∀ i, i ∈ S → P i ≠ p) : x[p]! = x0[p]! := by
  by_cases hq : ∃ i, i < n ∧ P i = p
  · obtain ⟨i, hin, rfl⟩ := hq
    rw [h.todo i (fun hi => hp i hi rfl) hin]; simp
  · exact h.frame p fun i hin hi => hq ⟨i, hin, hi⟩

/-- The dot-product form of a triangular solve in place: step `j` writes `val j x` at `P j`, and `val j x'` is `z j` for every
state `x'` in which the earlier positions hold `z` and everything else is as at the start. -/
theorem rowSweep_spec (n : Nat) (P : Nat → Nat) (val : Nat → Array K → K) (z : Nat → K) (x : Array K)
    (hinj : ∀ i j, i < n → j < n → P i = P j → i = j) (hb : ∀ i, i < n → P i < x.size)
    (hval : ∀ j, j < n → ∀ x' : Array K, x'.size = x.size → (∀ i, i < j → x'[P i]! = z i) →
      (∀ p, (∀ i, i < j → P i ≠ p) → x'[p]! = x[p]!) → val j x' = z j)
    (m : Nat) (hm : m ≤ n) :
    Sweep P (fun _ _ => 0) z n x (range m) ((List.range m).foldl (fun (x : Array K) j => x.setIfInBounds (P j) (val j x)) x) := by
  obtain ⟨h1, h2, h3⟩ := foldl_store_spec m P val z x (fun i j hi hj => hinj i j (by omega) (by omega))
    fun j hj x' hs g1 g2 => hval j (by omega) x' hs (fun i hi => g1 i hi (hb i (by omega))) g2
  exact ⟨h1, fun i hi => h2 i (mem_range.mp hi) (hb i (by have := mem_range.mp hi; omega)),
    fun i hi hin => by
      rw [h3 _ fun j hj hc => hi (mem_range.mpr (hinj j i (by omega) hin hc ▸ hj))]
      simp,
    fun p hp => h3 p fun i hi => hp i (by omega)⟩

end sweep

theorem Tr.beq_N_eq_false {tr : Tr} (htr : tr ≠ Tr.N) : (tr == Tr.N) = false := by
  cases tr
  · exact absurd rfl htr
  · rfl
  · rfl

theorem vpos_one (len i : Nat) : vpos len 1 i = i := by simp [vpos]

theorem vpos_inj (len : Nat) (inc : Int) (hinc : inc ≠ 0) (i j : Nat) (hi : i < len) (hj : j < len)
    (h : vpos len inc i = vpos len inc j) : i = j := by
  unfold vpos at h
  by_cases hp : inc > 0
  · simp only [hp, if_true] at h
    have : 0 < inc.toNat := by omega
    exact Nat.eq_of_mul_eq_mul_right this h
  · simp only [hp, if_false] at h
    have : 0 < (-inc).toNat := by omega
    have := Nat.eq_of_mul_eq_mul_right this h
    omega

section arrays
variable {K : Type} [Inhabited K]

theorem slice_get (a : Array K) (off len i : Nat) (hi : i < len) : (slice a off len)[i]! = a[off + i]! := by
  simp [slice, Array.getElem!_eq_getD, Array.getD_eq_getD_getElem?, hi]

theorem slice_size (a : Array K) (off len : Nat) : (slice a off len).size = len := by simp [slice]

theorem unslice_size (a : Array K) (off : Nat) (v : Array K) : (unslice a off v).size = a.size :=
  (storeRange_spec v.size off (fun i => v[i]!) a).1

theorem unslice_get (a : Array K) (off : Nat) (v : Array K) (p : Nat) :
    (unslice a off v)[p]! = if off ≤ p ∧ p < off + v.size ∧ p < a.size then v[p - off]! else a[p]! :=
  (storeRange_spec v.size off (fun i => v[i]!) a).2 p

/-- the first `m` columns of a column-by-column update (`gstrs`, `sp_gemm`); the per-column map may depend on the
column index -/
def gstrsTo (solve : Nat → Array K → Array K) (n ldb : Nat) (B : Array K) (m : Nat) : Array K :=
  (List.range m).foldl (fun (B : Array K) j => unslice B (ldb * j) (solve j (slice B (ldb * j) n))) B

theorem gstrs_eq_gstrsTo (solve : Array K → Array K) (n ldb nrhs : Nat) (B : Array K) :
    gstrs solve n ldb nrhs B = gstrsTo (fun _ => solve) n ldb B nrhs := rfl

theorem gstrsTo_spec (solve : Nat → Array K → Array K) (n ldb : Nat) (B : Array K) (m : Nat)
    (hs : ∀ j v, v.size = n → (solve j v).size = n) (hld : n ≤ ldb) (hB : ldb * m ≤ B.size) :
    (gstrsTo solve n ldb B m).size = B.size ∧
    (∀ j i, j < m → i < n → (gstrsTo solve n ldb B m)[ldb * j + i]! = (solve j (slice B (ldb * j) n))[i]!) ∧
    (∀ p, p < B.size → (ldb * m ≤ p ∨ n ≤ p % ldb) → (gstrsTo solve n ldb B m)[p]! = B[p]!) := by
  induction m with
  | zero => exact ⟨rfl, fun j i hj => absurd hj (Nat.not_lt_zero _), fun p _ _ => rfl⟩
  | succ m ih =>
    have hmul : ldb * (m + 1) = ldb * m + ldb := Nat.mul_succ ldb m
    obtain ⟨h1, h2, h3⟩ := ih (by omega)
    have hstep : gstrsTo solve n ldb B (m + 1) =
        unslice (gstrsTo solve n ldb B m) (ldb * m) (solve m (slice (gstrsTo solve n ldb B m) (ldb * m) n)) := by
      simp [gstrsTo, List.range_succ, List.foldl_append]
    -- column m of the intermediate array is still the original column m
    have hcol : slice (gstrsTo solve n ldb B m) (ldb * m) n = slice B (ldb * m) n :=
      ext_getElem! _ _ (by rw [slice_size, slice_size]) (fun i hi => by
        rw [slice_size] at hi
        rw [slice_get _ _ _ _ hi, slice_get _ _ _ _ hi, h3 _ (by omega) (Or.inl (by omega))])
    rw [hstep, hcol]
    have hsz := hs m _ (slice_size B (ldb * m) n)
    refine ⟨by rw [unslice_size, h1], fun j i hj hi => ?_, fun p hp hpad => ?_⟩
    · rw [unslice_get, hsz, h1]
      by_cases hjm : j = m
      · subst hjm
        rw [if_pos (by omega), Nat.add_sub_cancel_left]
      · have : ldb * (j + 1) ≤ ldb * m := Nat.mul_le_mul_left _ (by omega)
        rw [Nat.mul_succ] at this
        rw [if_neg (by omega), h2 j i (by omega) hi]
    · rw [unslice_get, hsz, if_neg, h3 p hp (by omega)]
      rintro ⟨ha, hb, -⟩
      obtain ⟨q, rfl⟩ : ∃ q, p = ldb * m + q := ⟨p - ldb * m, by omega⟩
      rw [Nat.mul_add_mod, Nat.mod_eq_of_lt (by omega)] at hpad
      omega

end arrays

section subst
variable {K : Type} [Field K]

theorem fwdSub_size (M : Nat → Nat → K) (d b : Nat → K) (n : Nat) : (fwdSub M d b n).size = n := by
  induction n with
  | zero => simp [fwdSub]
  | succ n ih => simp [fwdSub, ih]

theorem fwdSub_prefix (M : Nat → Nat → K) (d b : Nat → K) (n j : Nat) (hj : j < n) :
    (fwdSub M d b (n + 1)).getD j 0 = (fwdSub M d b n).getD j 0 := by
  have hs := fwdSub_size M d b n
  simp only [fwdSub, Array.getD_eq_getD_getElem?, Array.getElem?_push]
  rw [if_neg (by omega)]

theorem fwdSub_stable (M : Nat → Nat → K) (d b : Nat → K) (n m j : Nat) (hj : j < n) (hnm : n ≤ m) :
    (fwdSub M d b m).getD j 0 = (fwdSub M d b n).getD j 0 := by
  induction m with
  | zero => omega
  | succ m ih =>
    by_cases h : n = m + 1
    · subst h; rfl
    · rw [fwdSub_prefix M d b m j (by omega)]; exact ih (by omega)

theorem fwdSub_last (M : Nat → Nat → K) (d b : Nat → K) (n : Nat) :
    (fwdSub M d b (n + 1)).getD n 0 =
      (b n - ∑ j ∈ range n, M n j * (fwdSub M d b n).getD j 0) / d n := by
  have hs := fwdSub_size M d b n
  simp only [fwdSub, Array.getD_eq_getD_getElem?, Array.getElem?_push, sumTo_eq_sum]
  simp [hs]

theorem fwd_rec (M : Nat → Nat → K) (d b : Nat → K) (n i : Nat) (hi : i < n) :
    (fwdSub M d b n).getD i 0 = (b i - ∑ j ∈ range i, M i j * (fwdSub M d b n).getD j 0) / d i := by
  rw [fwdSub_stable M d b (i + 1) n i (by omega) (by omega), fwdSub_last]
  congr 2
  exact Finset.sum_congr rfl fun j hj => by rw [fwdSub_stable M d b i n j (mem_range.mp hj) (by omega)]

theorem fwdSub_row (M : Nat → Nat → K) (d b : Nat → K) (n i : Nat) (hi : i < n) (hd : d i ≠ 0) :
    (∑ j ∈ range i, M i j * (fwdSub M d b n).getD j 0) + d i * (fwdSub M d b n).getD i 0 = b i := by
  rw [fwd_rec M d b n i hi]
  field_simp
  ring

theorem fwdSub_rows (M : Nat → Nat → K) (d b : Nat → K) (n : Nat) (r : Nat → K)
    (hr : ∀ j, j < n → r j = (fwdSub M d b n).getD j 0) (i : Nat) (hi : i < n) (hd : d i ≠ 0) :
    (∑ j ∈ range i, M i j * r j) + d i * r i = b i := by
  rw [hr i hi, Finset.sum_congr rfl fun j hj => by rw [hr j (by have := mem_range.mp hj; omega)]]
  exact fwdSub_row M d b n i hi hd

/-- back substitution read as the forward substitution of the system with its indices reversed; the sum runs from the last
column down, as the reversed sweeps visit them -/
theorem fwdSub_rows_rev (M : Nat → Nat → K) (d b : Nat → K) (n m : Nat) (r : Nat → K)
    (hr : ∀ t, t < m → r (n - 1 - t) =
      (fwdSub (fun t s => M (n - 1 - t) (n - 1 - s)) (fun t => d (n - 1 - t)) (fun t => b (n - 1 - t)) m).getD t 0)
    (i : Nat) (hi : i < n) (him : n - 1 - i < m) (hd : d i ≠ 0) :
    (∑ s ∈ range (n - 1 - i), M i (n - 1 - s) * r (n - 1 - s)) + d i * r i = b i := by
  have e : n - 1 - (n - 1 - i) = i := by omega
  have row := fwdSub_rows _ _ _ m (fun t => r (n - 1 - t)) hr (n - 1 - i) him (by rw [e]; exact hd)
  rwa [e] at row

theorem bwdSub_length (M : Nat → Nat → K) (d b : Nat → K) (n k : Nat) : (bwdSub M d b n k).length = k := by
  induction k with
  | zero => simp [bwdSub]
  | succ k ih => simp [bwdSub, ih]

theorem bwdSub_getD (M : Nat → Nat → K) (d b : Nat → K) (n m t : Nat) (ht : t < m) :
    (bwdSub M d b n m).getD t 0 = (bwdSub M d b n (m - t)).getD 0 0 := by
  induction m generalizing t with
  | zero => omega
  | succ m ih =>
    cases t with
    | zero => rfl
    | succ s =>
      have : m + 1 - (s + 1) = m - s := by omega
      rw [this, ← ih s (by omega)]
      simp [bwdSub]

theorem bwdSub_head (M : Nat → Nat → K) (d b : Nat → K) (n k : Nat) :
    (bwdSub M d b n (k + 1)).getD 0 0 =
      (b (n - (k + 1)) - ∑ t ∈ range k, M (n - (k + 1)) (n - (k + 1) + 1 + t) * (bwdSub M d b n k).getD t 0) /
        d (n - (k + 1)) := by
  simp [bwdSub, sumTo_eq_sum]

theorem bwd_rec (M : Nat → Nat → K) (d b : Nat → K) (n i : Nat) (hi : i < n) :
    (bwdSub M d b n n).getD i 0 = (b i - ∑ j ∈ Ico (i + 1) n, M i j * (bwdSub M d b n n).getD j 0) / d i := by
  have hk : n - (n - (i + 1) + 1) = i := by omega
  have h1 : n - i = n - (i + 1) + 1 := by omega
  rw [bwdSub_getD M d b n n i hi, h1, bwdSub_head, hk, Finset.sum_Ico_eq_sum_range]
  congr 2
  refine Finset.sum_congr rfl fun t ht => ?_
  have ht' := mem_range.mp ht
  have h2 : n - (i + 1) - t = n - (i + 1 + t) := by omega
  rw [bwdSub_getD M d b n (n - (i + 1)) t ht', bwdSub_getD M d b n n (i + 1 + t) (by omega), h2]

theorem bwdSub_row (M : Nat → Nat → K) (d b : Nat → K) (n i : Nat) (hi : i < n) (hd : d i ≠ 0) :
    d i * (bwdSub M d b n n).getD i 0 + (∑ j ∈ Ico (i + 1) n, M i j * (bwdSub M d b n n).getD j 0) = b i := by
  rw [bwd_rec M d b n i hi]
  field_simp
  ring

end subst
end Slu.Kernels
