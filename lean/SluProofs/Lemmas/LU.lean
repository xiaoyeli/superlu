import Slu.Model.LU
import SluProofs.Lemmas.ArrayBasic
import Mathlib.Tactic.Ring
import Mathlib.Tactic.Linarith
import Mathlib.Tactic.LinearCombination
import Mathlib.Tactic.FieldSimp
import Mathlib.Tactic.Tauto
import Mathlib.Algebra.Field.Basic
/-
The column LU model (`Slu.LU`): reading vectors, the forward elimination `elim`, unit lower lists.
-/
namespace Slu.LU
open Slu List

variable {K : Type} [Field K]

theorem get_of_size_le (w : Vec K) (i : Nat) (hi : w.size ≤ i) : w.get i = 0 := by
  simp [Vec.get, Array.getD, Nat.not_lt.mpr hi]

theorem map_get (w : Vec K) (f : K → K) (i : Nat) (hi : i < w.size) : Vec.get (w.map f) i = f (w.get i) := by
  simp [Vec.get, Array.getD, hi]

theorem mapIdx_get (w : Vec K) (f : Nat → K → K) (i : Nat) (hi : i < w.size) :
    Vec.get (w.mapIdx f) i = f i (w.get i) := by
  simp [Vec.get, Array.getD, hi]

theorem setmap_get (w : Vec K) (p : Nat) (pv : K) (f : K → K) (i : Nat) (hi : i < w.size) :
    Vec.get ((w.setIfInBounds p pv).map f) i = f (if i = p then pv else w.get i) := by
  rw [map_get _ f i (by simpa using hi)]
  unfold Vec.get
  rw [getD_setIfInBounds]
  by_cases h : i = p
  · subst h; rw [if_pos ⟨rfl, hi⟩, if_pos rfl]
  · rw [if_neg (fun c => h c.1.symm), if_neg h]

theorem vec_ext_get (v w : Vec K) (hs : v.size = w.size) (h : ∀ i < w.size, v.get i = w.get i) : v = w :=
  ext_getD v w 0 hs fun i hi => h i (hs ▸ hi)

@[simp] theorem axpy_size (w l : Vec K) (u : K) : (axpy w l u).size = w.size := by
  simp [axpy]

theorem axpy_get (w l : Vec K) (u : K) (i : Nat) (hi : i < w.size) :
    (axpy w l u).get i = w.get i - u * l.get i :=
  mapIdx_get w _ i hi

theorem axpy_zero (w l : Vec K) : axpy w l 0 = w :=
  vec_ext_get _ _ (by simp) (fun i hi => by rw [axpy_get _ _ _ _ hi, zero_mul, sub_zero])

/-- no hypothesis `i < w.size`: beyond the end both sides read 0 -/
theorem axpy_get_of_zero (w l : Vec K) (u : K) (i : Nat) (h : l.get i = 0) :
    (axpy w l u).get i = w.get i := by
  by_cases hi : i < w.size
  · rw [axpy_get w l u i hi, h, mul_zero, sub_zero]
  · rw [get_of_size_le _ i (by simpa using Nat.le_of_not_lt hi), get_of_size_le _ i (Nat.le_of_not_lt hi)]

theorem elim_cons (x : Nat × Vec K) (rest : List (Nat × Vec K)) (w : Vec K) :
    elim (x :: rest) w =
      ((elim rest (axpy w x.2 (w.get x.1))).1, w.get x.1 :: (elim rest (axpy w x.2 (w.get x.1))).2) := rfl

theorem elim_size (Ls : List (Nat × Vec K)) (w : Vec K) : (elim Ls w).1.size = w.size := by
  induction Ls generalizing w with
  | nil => rfl
  | cons pl rest ih => rw [elim_cons, ih, axpy_size]

theorem elim_length (Ls : List (Nat × Vec K)) (w : Vec K) : (elim Ls w).2.length = Ls.length := by
  induction Ls generalizing w with
  | nil => rfl
  | cons pl rest ih => rw [elim_cons, length_cons, ih, length_cons]

def dotL (us : List K) (Ls : List (Nat × Vec K)) (i : Nat) : K :=
  (List.zipWith (fun u (pl : Nat × Vec K) => u * pl.2.get i) us Ls).sum

@[simp] theorem dotL_nil (i : Nat) : dotL ([] : List K) [] i = 0 := by simp [dotL]
@[simp] theorem dotL_cons (u : K) (us : List K) (pl : Nat × Vec K) (Ls : List (Nat × Vec K)) (i : Nat) :
    dotL (u :: us) (pl :: Ls) i = u * pl.2.get i + dotL us Ls i := by simp [dotL]

/-- Forward elimination only subtracts multiples of the previous L columns: `w = Σ_k u_k L_k + w'`, row by row. -/
theorem elim_spec (Ls : List (Nat × Vec K)) (w : Vec K) (i : Nat) (hi : i < w.size) :
    w.get i = dotL (elim Ls w).2 Ls i + (elim Ls w).1.get i := by
  induction Ls generalizing w with
  | nil => simp [elim]
  | cons pl rest ih =>
    rw [elim_cons, dotL_cons]
    have h := ih (axpy w pl.2 (w.get pl.1)) (by simpa using hi)
    rw [axpy_get w _ _ i hi] at h
    linear_combination h

theorem elim_get_of_zero (A : List (Nat × Vec K)) (w : Vec K) (i : Nat) (h : ∀ y ∈ A, y.2.get i = 0) :
    (elim A w).1.get i = w.get i := by
  induction A generalizing w with
  | nil => rfl
  | cons x A ih =>
    rw [elim_cons, ih _ (fun y hy => h y (mem_cons_of_mem _ hy)), axpy_get_of_zero _ _ _ _ (h x mem_cons_self)]

/-- the L columns are 1 at their own pivot row and vanish at every earlier pivot row -/
def UnitLower : List (Nat × Vec K) → Prop
  | [] => True
  | (p, l) :: rest => l.get p = 1 ∧ (∀ pl ∈ rest, pl.2.get p = 0) ∧ UnitLower rest

theorem unitLower_iff (Ls : List (Nat × Vec K)) :
    UnitLower Ls ↔ (∀ x ∈ Ls, x.2.get x.1 = 1) ∧ Ls.Pairwise (fun a b => b.2.get a.1 = 0) := by
  induction Ls with
  | nil => simp [UnitLower]
  | cons x rest ih =>
    obtain ⟨p, l⟩ := x
    simp only [UnitLower, ih, mem_cons, forall_eq_or_imp, pairwise_cons]
    tauto

/-- After eliminating with unit lower columns the remaining vector vanishes at every pivot row: the
update by a column clears its own pivot row (a pivot row beyond the end of the vector reads 0 anyway), and no later
column touches that row. -/
theorem elim_at_pivot (Ls : List (Nat × Vec K)) (w : Vec K) (hU : UnitLower Ls) :
    ∀ pl ∈ Ls, (elim Ls w).1.get pl.1 = 0 := by
  induction Ls generalizing w with
  | nil => intro pl h; cases h
  | cons x rest ih =>
    obtain ⟨p, l⟩ := x
    obtain ⟨hl1, hlow, hrest⟩ := hU
    intro pl hpl
    rw [elim_cons]
    rcases mem_cons.mp hpl with rfl | hpl
    · rw [elim_get_of_zero _ _ _ hlow]
      by_cases hp : p < w.size
      · rw [axpy_get _ _ _ _ hp, hl1, mul_one, sub_self]
      · exact get_of_size_le _ _ (by simpa using Nat.le_of_not_lt hp)
    · exact ih _ hrest pl hpl

end Slu.LU
