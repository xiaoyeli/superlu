import SluProofs.Lemmas.LU
import SluProofs.Lemmas.Pivot
import SluProofs.Lemmas.CxRat
import SluProofs.Lemmas.SumBasic
import SluProofs.Lemmas.PermFn
import Mathlib.Data.List.Nodup
/-
The column LU `Slu.LU.step` / `luFactor`.  `Core m T st j` says that `(piv, L, U)` are the factors of `j` columns of ANY
right-hand side `T` (the matrix for the complete LU, the matrix plus the ghost error for the incomplete one), with its
readers (`Core.identity`, `Core.unit_get`, `Core.piv_inj`, …) and ONE way to append a column (`Core.extend`).  The loop
invariant `Inv` of `luFactor` is `Core` for the matrix columns plus the nonzero diagonal and the threshold bound.
`step_cases` lists what a column step does; a successful one keeps the invariant (`step_inv`), hence it holds on every
reachable state (`run_inv`).
-/
namespace Slu.LU
open Slu

theorem getD_push_lt {α : Type} (a : Array α) (x d : α) {k : Nat} (h : k < a.size) :
    (a.push x).getD k d = a.getD k d := by
  rw [getD_push, if_pos h]

theorem getD_push_eq {α : Type} (a : Array α) (x d : α) {k : Nat} (h : a.size = k) :
    (a.push x).getD k d = x := by
  rw [getD_push, if_neg (by omega), if_pos h.symm]

section prev
variable {K : Type}

def prev (st : St K) (k : Nat) : List (Nat × Vec K) :=
  (List.range k).map fun t => (st.piv.getD t 0, st.L.getD t #[])

theorem prev_length (st : St K) (k : Nat) : (prev st k).length = k := by simp [prev]

theorem prev_getElem (st : St K) (j k : Nat) (hk : k < (prev st j).length) :
    (prev st j)[k] = (st.piv.getD k 0, st.L.getD k #[]) := by
  simp [prev]

theorem mem_prev (st : St K) (k : Nat) (pl : Nat × Vec K) (h : pl ∈ prev st k) :
    ∃ t < k, pl = (st.piv.getD t 0, st.L.getD t #[]) := by
  obtain ⟨t, ht, rfl⟩ := List.mem_map.mp h
  exact ⟨t, List.mem_range.mp ht, rfl⟩

theorem prev_succ (st : St K) (k : Nat) :
    prev st (k + 1) = prev st k ++ [(st.piv.getD k 0, st.L.getD k #[])] := by
  simp [prev, List.range_succ]

theorem prev_push {st st' : St K} {p : Nat} {l : Vec K} (hp : st'.piv = st.piv.push p) (hL : st'.L = st.L.push l)
    (k : Nat) (hk : k ≤ st.piv.size) (hs : st.L.size = st.piv.size) : prev st' k = prev st k := by
  apply List.map_congr_left
  intro t ht
  have ht' : t < k := List.mem_range.mp ht
  rw [hp, hL, getD_push_lt _ _ _ (by omega), getD_push_lt _ _ _ (by omega)]

end prev

variable {K : Type} [Field K]

theorem dotL_append (us us' : List K) (Ls Ls' : List (Nat × Vec K)) (i : Nat) (h : us.length = Ls.length) :
    dotL (us ++ us') (Ls ++ Ls') i = dotL us Ls i + dotL us' Ls' i := by
  induction us generalizing Ls with
  | nil => cases Ls with
    | nil => simp
    | cons _ _ => simp at h
  | cons u us ih => cases Ls with
    | nil => simp at h
    | cons pl Ls => simp at h; simp [ih Ls h]; ring

theorem dotL_prev (st : St K) (us : List K) (k i : Nat) (h : us.length = k) :
    dotL us (prev st k) i = ((List.range k).map fun t => us.getD t 0 * (st.L.getD t #[]).get i).sum := by
  unfold dotL prev
  congr 1
  apply List.ext_getElem
  · rw [List.length_zipWith, List.length_map, List.length_map, List.length_range, h, Nat.min_self]
  · intro t h1 h2
    have h3 : t < us.length := by rw [List.length_map, List.length_range] at h2; omega
    simp only [List.getElem_zipWith, List.getElem_map, List.getElem_range, List.getD_eq_getElem?_getD,
      List.getElem?_eq_getElem h3, Option.getD_some]

theorem unitLower_append (Ls : List (Nat × Vec K)) (p : Nat) (l : Vec K) (h : UnitLower Ls)
    (h1 : l.get p = 1) (h0 : ∀ pl ∈ Ls, l.get pl.1 = 0) : UnitLower (Ls ++ [(p, l)]) := by
  rw [unitLower_iff] at h ⊢
  refine ⟨fun x hx => ?_, List.pairwise_append.mpr ⟨h.2, List.pairwise_singleton _ _, fun a ha b hb => ?_⟩⟩
  · rcases List.mem_append.mp hx with hx | hx
    · exact h.1 x hx
    · rw [List.mem_singleton.mp hx]; exact h1
  · rw [List.mem_singleton.mp hb]; exact h0 a ha

structure Core (m : Nat) (T : Nat → Nat → K) (st : St K) (j : Nat) : Prop where
  sizes : st.piv.size = j ∧ st.L.size = j ∧ st.U.size = j
  lsize : ∀ k < j, (st.L.getD k #[]).size = m
  prange : ∀ k < j, st.piv.getD k 0 < m
  usize : ∀ k < j, (st.U.getD k #[]).size = k + 1
  -- `Σ_{t ≤ k} U(t,k) L(i,t) = T k i`; the product on the left, as `Core.extend` builds it (`Inv.ident` has the matrix there)
  ident : ∀ k < j, ∀ i < m, dotL (st.U.getD k #[]).toList (prev st (k + 1)) i = T k i
  unit : UnitLower (prev st j)
  nodup : st.piv.toList.Nodup

theorem Core.init (m : Nat) (T : Nat → Nat → K) (st : St K) (hp : st.piv = #[]) (hL : st.L = #[]) (hU : st.U = #[]) :
    Core m T st 0 := by
  refine ⟨by simp [hp, hL, hU], ?_, ?_, ?_, ?_, ?_, by simp [hp]⟩ <;> try (intro k hk; omega)
  simp [prev, UnitLower]

section read
variable {m : Nat} {T : Nat → Nat → K} {st : St K} {j : Nat}

theorem Core.prev_lt (h : Core m T st j) : ∀ x ∈ prev st j, x.1 < m := by
  intro x hx
  obtain ⟨t, ht, rfl⟩ := mem_prev st j x hx
  exact h.prange t ht

theorem Core.unit_get (h : Core m T st j) (k : Nat) (hk : k < j) :
    (st.L.getD k #[]).get (st.piv.getD k 0) = 1 ∧
    ∀ k' < k, (st.L.getD k #[]).get (st.piv.getD k' 0) = 0 := by
  obtain ⟨h1, h2⟩ := (unitLower_iff _).mp h.unit
  refine ⟨h1 (st.piv.getD k 0, st.L.getD k #[]) (List.mem_map.mpr ⟨k, List.mem_range.mpr hk, rfl⟩), ?_⟩
  intro k' hk'
  have := List.pairwise_iff_getElem.mp (List.pairwise_map.mp h2) k' k (by simp; omega) (by simpa using hk) hk'
  simpa using this

theorem Core.piv_inj (h : Core m T st j) {a b : Nat} (ha : a < j) (hb : b < j)
    (hab : st.piv.getD a 0 = st.piv.getD b 0) : a = b := by
  have hs := h.sizes.1
  have e : ∀ t (ht : t < j), st.piv.getD t 0 = st.piv.toList[t]'(by simpa [hs] using ht) := by
    intro t ht; simp [Array.getD, hs, ht]
  rw [e a ha, e b hb] at hab
  exact (List.Nodup.getElem_inj_iff h.nodup).mp hab

theorem Core.piv_perm {n : Nat} {T : Nat → Nat → K} {st : St K} (h : Core n T st n) : PermFn n fun k => st.piv.getD k 0 :=
  ⟨h.prange, fun _ ha _ hb => h.piv_inj ha hb⟩

theorem Core.elim_zero (h : Core m T st j) (c : Vec K) (t : Nat) (ht : t < j) :
    (elim (prev st j) c).1.get (st.piv.getD t 0) = 0 :=
  elim_at_pivot (prev st j) c h.unit (st.piv.getD t 0, st.L.getD t #[]) (List.mem_map.mpr ⟨t, List.mem_range.mpr ht, rfl⟩)

theorem Core.identity (h : Core m T st j) (k : Nat) (hk : k < j) (i : Nat) (hi : i < m) :
    ((List.range (k + 1)).map fun t => (st.U.getD k #[]).getD t 0 * (st.L.getD t #[]).get i).sum = T k i := by
  rw [← h.ident k hk i hi, dotL_prev _ _ (k + 1) i (by rw [Array.length_toList]; exact h.usize k hk)]
  congr 1
  apply List.map_congr_left
  intro t _
  congr 1
  generalize st.U.getD k #[] = a
  by_cases ht : t < a.size <;> simp [Array.getD, List.getD, ht]

theorem Core.identity_sum (h : Core m T st j) (k : Nat) (hk : k < j) (i : Nat) (hi : i < m) :
    ∑ t ∈ Finset.range (k + 1), (st.U.getD k #[]).getD t 0 * (st.L.getD t #[]).get i = T k i := by
  rw [← h.identity k hk i hi, list_sum_range]

end read

/-- **One more column.**  `w` is any vector that vanishes at the earlier pivot rows (the column eliminated by the finished
columns).  Take ANY free row `p < m`, ANY nonzero value `pv` for the pivot, ANY `j` stored multipliers `uk`, and the L column
`l = w[p := pv] / pv`; append `p`, `l` and the U column `uk ++ [pv]`.  The invariant extends, the new column of `L·U` being
`Σ_t uk_t L_t + w[p := pv]`. -/
theorem Core.extend {m : Nat} {T T' : Nat → Nat → K} {st : St K} {j : Nat} (h : Core m T st j)
    (w l : Vec K) (uk : List K) (p : Nat) (pv : K) (b : Bool)
    (hw : ∀ t < j, w.get (st.piv.getD t 0) = 0) (hlen : uk.length = j)
    (hp : p < m) (hnew : p ∉ st.piv.toList) (hpv : pv ≠ 0)
    (hls : l.size = m) (hl : ∀ i < m, pv * l.get i = if i = p then pv else w.get i)
    (hT : ∀ k < j, ∀ i < m, T' k i = T k i)
    (hTj : ∀ i < m, T' j i = dotL uk (prev st j) i + if i = p then pv else w.get i) :
    Core m T' { piv := st.piv.push p, L := st.L.push l, U := st.U.push (uk ++ [pv]).toArray, usepr := b, info := 0 }
      (j + 1) := by
  obtain ⟨hs1, hs2, hs3⟩ := h.sizes
  have hpush : ∀ k ≤ j, prev { piv := st.piv.push p, L := st.L.push l, U := st.U.push (uk ++ [pv]).toArray, usepr := b, info := 0 } k
      = prev st k := fun k hk => prev_push rfl rfl k (by omega) (by omega)
  have hprev : prev { piv := st.piv.push p, L := st.L.push l, U := st.U.push (uk ++ [pv]).toArray, usepr := b, info := 0 }
      (j + 1) = prev st j ++ [(p, l)] := by
    rw [prev_succ, hpush j (le_refl j)]
    show prev st j ++ [((st.piv.push p).getD j 0, (st.L.push l).getD j #[])] = _
    rw [getD_push_eq _ _ _ hs1, getD_push_eq _ _ _ hs2]
  refine ⟨by simp [hs1, hs2, hs3], ?_, ?_, ?_, ?_, ?_, ?_⟩
  · exact forall_getD_push hs2 l #[] (fun _ c => c.size = m) h.lsize hls
  · exact forall_getD_push hs1 p 0 (fun _ c => c < m) h.prange hp
  · exact forall_getD_push hs3 _ #[] (fun k c => c.size = k + 1) h.usize (by simp [hlen])
  · intro k hk i hi
    show dotL ((st.U.push (uk ++ [pv]).toArray).getD k #[]).toList _ i = T' k i
    rcases Nat.lt_succ_iff_lt_or_eq.mp hk with hk | hk
    · rw [getD_push_lt _ _ #[] (lt_of_lt_of_eq hk hs3.symm), hpush (k + 1) hk, hT k hk i hi]
      exact h.ident k hk i hi
    · subst hk
      rw [getD_push_eq _ _ _ hs3, hprev, List.toList_toArray, dotL_append _ _ _ _ _ (by rw [hlen, prev_length]), dotL_cons,
        dotL_nil, add_zero, hl i hi, hTj i hi]
  · rw [hprev]
    refine unitLower_append _ _ _ h.unit ?_ fun pl hpl => ?_
    · exact mul_left_cancel₀ hpv (by rw [hl p hp, if_pos rfl, mul_one])
    · obtain ⟨t, ht, rfl⟩ := mem_prev st j pl hpl
      have hne : st.piv.getD t 0 ≠ p := fun heq => hnew (by
        rw [← heq]; simp [Array.getD, show t < st.piv.size by omega])
      exact mul_left_cancel₀ hpv (by rw [hl _ (h.prange t ht), if_neg hne, hw t ht, mul_zero])
  · show (st.piv.push p).toList.Nodup
    rw [Array.toList_push]
    exact List.nodup_append.mpr ⟨h.nodup, List.nodup_singleton p, fun a ha b hb hab =>
      hnew (by rw [List.mem_singleton.mp hb] at hab; exact hab ▸ ha)⟩

variable [Mag K Rat]

structure MagLaws (K : Type) [Field K] [Mag K Rat] : Prop where
  nonneg : ∀ x : K, 0 ≤ (Mag.abs1 x : Rat)
  zero : (Mag.abs1 (0 : K) : Rat) = 0
  definite : ∀ x : K, (Mag.abs1 x : Rat) = 0 → x = 0

/-- what holds after `j` columns have been factored without meeting a zero pivot -/
structure Inv (P : Params K Rat) (st : St K) (j : Nat) : Prop where
  sizes : st.piv.size = j ∧ st.L.size = j ∧ st.U.size = j
  lsize : ∀ k < j, (st.L.getD k #[]).size = P.m
  prange : ∀ k < j, st.piv.getD k 0 < P.m
  usize : ∀ k < j, (st.U.getD k #[]).size = k + 1
  udiag : ∀ k < j, (st.U.getD k #[]).getD k 0 ≠ 0
  ident : ∀ k < j, ∀ i < P.m, (P.col k).get i = dotL (st.U.getD k #[]).toList (prev st (k + 1)) i
  unit : UnitLower (prev st j)
  nodup : st.piv.toList.Nodup
  /-- threshold pivoting: `u * |numerator of the multiplier| <= |pivot|` for every candidate row (the rows
  pivoted before column `k`, `take k`, are no candidates) -/
  mult : ∀ k < j, ∀ i ∈ P.order k, i ∉ st.piv.toList.take k →
    P.u * (Mag.abs1 ((st.L.getD k #[]).get i * (st.U.getD k #[]).getD k 0) : Rat) ≤ (Mag.abs1 ((st.U.getD k #[]).getD k 0) : Rat)

theorem Inv.core {P : Params K Rat} {st : St K} {j : Nat} (h : Inv P st j) : Core P.m (fun k i => (P.col k).get i) st j :=
  ⟨h.sizes, h.lsize, h.prange, h.usize, fun k hk i hi => (h.ident k hk i hi).symm, h.unit, h.nodup⟩

/-- the identity `Pr A Pc = L U` read off the invariant, entry by entry -/
theorem Inv.identity {P : Params K Rat} {st : St K} {n : Nat} (inv : Inv P st n)
    (j : Nat) (hj : j < n) (i : Nat) (hi : i < P.m) :
    (P.col j).get i =
      ((List.range (j + 1)).map fun k => (st.U.getD j #[]).getD k 0 * (st.L.getD k #[]).get i).sum :=
  (inv.core.identity j hj i hi).symm

/-- eliminated column, multipliers, candidates and pivot decision of column `j` -/
def stepW (P : Params K Rat) (st : St K) (j : Nat) : Vec K := (elim (prev st j) (P.col j)).1
def stepUs (P : Params K Rat) (st : St K) (j : Nat) : List K := (elim (prev st j) (P.col j)).2
def stepCands (P : Params K Rat) (st : St K) (j : Nat) : List (Nat × K) :=
  ((P.order j).filter (fun r => !(st.piv.contains r))).map fun r => (r, (stepW P st j).get r)
def stepOut (P : Params K Rat) (st : St K) (j : Nat) : PivotOut :=
  pivotChoice (R := Rat) j (stepCands P st j) (fun p => P.u * p) st.usepr (P.oldPiv j) (P.diagRow j)

omit [Mag K Rat] in
theorem stepUs_length (P : Params K Rat) (st : St K) (j : Nat) : (stepUs P st j).length = j := by
  rw [stepUs, elim_length, prev_length]

theorem step_unfold (P : Params K Rat) (st : St K) (j : Nat) (h0 : st.info = 0) :
    step P st j =
      if (stepOut P st j).info ≠ 0 then { st with info := (stepOut P st j).info, usepr := false } else
      { piv := st.piv.push (stepOut P st j).row,
        L := st.L.push ((stepW P st j).map (· * (1 / (stepW P st j).get (stepOut P st j).row))),
        U := st.U.push ((stepUs P st j ++ [(stepW P st j).get (stepOut P st j).row]).toArray),
        usepr := (stepOut P st j).usepr, info := 0 } := by
  unfold step stepOut stepCands stepW stepUs
  simp only [h0, ne_eq, not_true_eq_false, if_false, prev]
  rfl

theorem step_stuck (P : Params K Rat) (st : St K) (j : Nat) (h : st.info ≠ 0) : step P st j = st := by
  simp [step, h]

/-- What a column step does to a state that has not failed; no assumption on `u` or the magnitude. -/
theorem step_cases (P : Params K Rat) (st : St K) (j : Nat) (h0 : st.info = 0) :
    ((scanPiv (R := Rat) (stepCands P st j)).1 = 0 ∧ step P st j = { st with info := j + 1, usepr := false }) ∨
    ((scanPiv (R := Rat) (stepCands P st j)).1 ≠ 0 ∧ ∃ r b, step P st j =
        { piv := st.piv.push r, L := st.L.push ((stepW P st j).map (· * (1 / (stepW P st j).get r))),
          U := st.U.push ((stepUs P st j ++ [(stepW P st j).get r]).toArray), usepr := b, info := 0 } ∧
      r ∈ P.order j ∧ r ∉ st.piv.toList ∧ (Mag.abs1 ((stepW P st j).get r) : Rat) ≠ 0 ∧
      (P.u * (scanPiv (R := Rat) (stepCands P st j)).1 ≤ (Mag.abs1 ((stepW P st j).get r) : Rat) ∨
        (Mag.abs1 ((stepW P st j).get r) : Rat) = (scanPiv (R := Rat) (stepCands P st j)).1) ∧
      (b = true → st.usepr = true ∧ r = P.oldPiv j)) := by
  rw [step_unfold P st j h0]
  rcases pivotChoice_spec j (stepCands P st j) (fun p => P.u * p) st.usepr (P.oldPiv j) (P.diagRow j) with
    ⟨hz, e⟩ | ⟨hz, pos, c, b, e, hc, hnz, hdom, hb⟩
  · exact Or.inl ⟨hz, by rw [stepOut, e]; rfl⟩
  · obtain ⟨r, hr, rfl⟩ := List.mem_map.mp (List.mem_of_getElem? hc)
    obtain ⟨hro, hfree⟩ := List.mem_filter.mp hr
    exact Or.inr ⟨hz, r, b, by rw [stepOut, e]; rfl, hro, by simpa using hfree, hnz, hdom, hb⟩

omit [Mag K Rat] in
theorem mem_stepCands {P : Params K Rat} {st : St K} {j i : Nat} (hi : i ∈ P.order j) (hnot : i ∉ st.piv.toList) :
    (i, (stepW P st j).get i) ∈ stepCands P st j :=
  List.mem_map.mpr ⟨i, List.mem_filter.mpr ⟨hi, by simpa using hnot⟩, rfl⟩

theorem step_info (laws : MagLaws K) (P : Params K Rat) (st : St K) (j : Nat) (h0 : st.info = 0) :
    ((step P st j).info = 0 ∨ (step P st j).info = j + 1) ∧
    ((step P st j).info = j + 1 ↔ ∀ c ∈ stepCands P st j, (Mag.abs1 c.2 : Rat) = 0) := by
  rw [← scanPiv_eq_zero_iff laws.nonneg]
  rcases step_cases P st j h0 with ⟨hz, e⟩ | ⟨hz, r, b, e, _⟩
  · rw [e]; exact ⟨Or.inr rfl, fun _ => hz, fun _ => rfl⟩
  · rw [e]; exact ⟨Or.inl rfl, fun h => absurd h (Nat.succ_ne_zero j).symm, fun h => absurd h hz⟩

/-- a successful step extends the factors by the eliminated column itself (`Core.extend` at `pv = w r`, every
multiplier stored); the policy supplies the free nonzero row and the threshold bound -/
theorem step_inv (laws : MagLaws K) (P : Params K Rat) (hu0 : 0 ≤ P.u) (hu1 : P.u ≤ 1)
    (hcol : ∀ j, (P.col j).size = P.m) (st : St K) (j : Nat) (h : Inv P st j) (h0 : st.info = 0)
    (h1 : (step P st j).info = 0) : Inv P (step P st j) (j + 1) := by
  rcases step_cases P st j h0 with ⟨_, e⟩ | ⟨_, r, b, e, _, hnew, hnz, hdom, _⟩
  · rw [e] at h1; cases h1
  rw [e]
  set w := stepW P st j with hw
  have hwr : w.get r ≠ 0 := fun hz => hnz (by rw [hz]; exact laws.zero)
  have hwsize : w.size = P.m := (elim_size _ _).trans (hcol j)
  have hr : r < P.m := by
    by_contra hge
    exact hwr (get_of_size_le w r (by omega))
  have huslen := stepUs_length P st j
  -- the new L column times the pivot is the eliminated column, on every row
  have hlget : ∀ i, w.get r * Vec.get (w.map (· * (1 / w.get r))) i = w.get i := by
    intro i
    by_cases hi : i < w.size
    · rw [map_get _ _ i hi]; field_simp
    · rw [get_of_size_le _ i (by simp; omega), get_of_size_le _ i (by omega), mul_zero]
  -- `Core.extend` lets the value stored at the pivot row differ from `w r` (the incomplete LU replaces it); here it does not
  have hsame : ∀ i, (if i = r then w.get r else w.get i) = w.get i := fun i => by split <;> simp [*]
  have core := h.core.extend (T' := fun k i => (P.col k).get i) w (w.map (· * (1 / w.get r))) (stepUs P st j) r (w.get r) b
    (fun t ht => h.core.elim_zero (P.col j) t ht) huslen hr hnew hwr (by rw [Array.size_map, hwsize])
    (fun i _ => by rw [hlget, hsame]) (fun _ _ _ _ => rfl) fun i hi => by
      rw [hsame]
      exact elim_spec (prev st j) (P.col j) i (by rw [hcol]; exact hi)
  obtain ⟨hs1, hs2, hs3⟩ := h.sizes
  have hlen : st.piv.toList.length = j := by simpa using hs1
  have hujj : ((stepUs P st j ++ [w.get r]).toArray).getD j 0 = w.get r := by simp [Array.getD, huslen]
  refine ⟨core.sizes, core.lsize, core.prange, core.usize, ?_, fun k hk i hi => (core.ident k hk i hi).symm, core.unit,
    core.nodup, ?_⟩
  · exact forall_getD_push hs3 _ #[] (fun k c => c.getD k 0 ≠ 0) h.udiag (by rw [hujj]; exact hwr)
  · -- the rows pivoted before column `k` are the first `k` of the longer list too
    refine Nat.forall_lt_succ_right.mpr ⟨fun k hk i hi hnot => ?_, fun i hi hnot => ?_⟩
    · rw [getD_push_lt _ _ _ (hs2 ▸ hk), getD_push_lt _ _ _ (hs3 ▸ hk)]
      refine h.mult k hk i hi ?_
      rwa [Array.toList_push, List.take_append_of_le_length (by omega)] at hnot
    · rw [getD_push_eq _ _ _ hs2, getD_push_eq _ _ _ hs3, hujj, mul_comm (Vec.get _ i), hlget]
      rw [Array.toList_push, List.take_append_of_le_length (by omega), List.take_of_length_le (by omega)] at hnot
      exact dominates_of_passes _ P.u hu0 hu1 _ hdom (i, w.get i) (mem_stepCands hi hnot)

def run (P : Params K Rat) (b : Bool) (j : Nat) : St K := (List.range j).foldl (step P) { usepr := b }

theorem run_zero (P : Params K Rat) (b : Bool) : run P b 0 = { usepr := b } := by simp [run]

theorem run_succ (P : Params K Rat) (b : Bool) (j : Nat) : run P b (j + 1) = step P (run P b j) j :=
  foldl_range_succ (step P) _ j

theorem luFactor_eq_run (P : Params K Rat) (b : Bool) : luFactor P b = run P b P.n := rfl

theorem run_stuck (P : Params K Rat) (b : Bool) (j k : Nat) (hk : j ≤ k) (h : (run P b j).info ≠ 0) :
    run P b k = run P b j :=
  foldl_range_stuck (step P) (·.info ≠ 0) (fun s j hs => step_stuck P s j hs) _ hk h

theorem run_first_fail (P : Params K Rat) (b : Bool) (n : Nat) (h : (run P b n).info ≠ 0) :
    ∃ j < n, (run P b j).info = 0 ∧ (run P b (j + 1)).info ≠ 0 ∧ run P b n = run P b (j + 1) := by
  induction n with
  | zero => exact absurd (by rw [run_zero]) h
  | succ n ih =>
    by_cases hn : (run P b n).info = 0
    · exact ⟨n, by omega, hn, h, rfl⟩
    · obtain ⟨j, hj, h1, h2, h3⟩ := ih hn
      exact ⟨j, by omega, h1, h2, by rw [run_succ, step_stuck P _ n hn, h3]⟩

theorem run_usepr_true (P : Params K Rat) (b : Bool) (j : Nat) (h : (run P b j).usepr = true) :
    b = true ∧ (run P b j).info = 0 ∧ (run P b j).piv = ((List.range j).map P.oldPiv).toArray := by
  induction j with
  | zero => rw [run_zero] at h ⊢; exact ⟨h, rfl, by simp⟩
  | succ j ih =>
    rw [run_succ] at h ⊢
    by_cases h0 : (run P b j).info = 0
    · rcases step_cases P _ j h0 with ⟨_, e⟩ | ⟨_, r, b', e, _, _, _, _, hb⟩
      · rw [e] at h; cases h
      · rw [e] at h ⊢
        obtain ⟨hu, rfl⟩ := hb h
        obtain ⟨hb0, _, hp⟩ := ih hu
        exact ⟨hb0, rfl, by simp [hp, List.range_succ]⟩
    · rw [step_stuck P _ j h0] at h ⊢
      exact absurd (ih h).2.1 h0

/-- Column `j` is the first failing column of the factorization: `j+1` is reported, nothing failed before it, the run
stopped at it, and all its pivot candidates are exactly zero. -/
structure FirstFail (P : Params K Rat) (b : Bool) (j : Nat) : Prop where
  lt : j < P.n
  info : (luFactor P b).info = j + 1
  ok : (run P b j).info = 0
  stop : run P b (j + 1) = luFactor P b
  zero : ∀ c ∈ stepCands P (run P b j) j, (Mag.abs1 c.2 : Rat) = 0

theorem luFactor_first_fail (laws : MagLaws K) (P : Params K Rat) (b : Bool) (h : (luFactor P b).info ≠ 0) :
    ∃ j, FirstFail P b j := by
  obtain ⟨j, hj, h1, h2, h3⟩ := run_first_fail P b P.n h
  have hs := step_info laws P _ j h1
  rw [← run_succ] at hs
  have e := hs.1.resolve_left h2
  exact ⟨j, hj, (congrArg St.info h3).trans e, h1, h3.symm, hs.2.mp e⟩

/-- … and `info` names it -/
theorem luFactor_info_succ (laws : MagLaws K) (P : Params K Rat) (b : Bool) (j : Nat) (h : (luFactor P b).info = j + 1) :
    FirstFail P b j := by
  obtain ⟨j', hf⟩ := luFactor_first_fail laws P b (h ▸ Nat.succ_ne_zero j)
  obtain rfl : j' = j := Nat.succ.inj (hf.info.symm.trans h)
  exact hf

theorem inv_init (P : Params K Rat) (b : Bool) : Inv P ({ usepr := b } : St K) 0 :=
  -- no column yet: every clause about a column `k < 0` is void, the lists are empty
  have void : ∀ {p : Nat → Prop} (k : Nat), k < 0 → p k := fun k hk => absurd hk (Nat.not_lt_zero k)
  ⟨⟨rfl, rfl, rfl⟩, void, void, void, void, void, trivial, List.nodup_nil, void⟩

theorem run_inv (laws : MagLaws K) (P : Params K Rat) (hu0 : 0 ≤ P.u) (hu1 : P.u ≤ 1)
    (hcol : ∀ j, (P.col j).size = P.m) (b : Bool) (j : Nat) (h : (run P b j).info = 0) :
    Inv P (run P b j) j :=
  (foldl_range_ok (·.info = 0) (fun j st => Inv P st j) (step P) j _
    (fun s i hs => by rw [step_stuck P s i hs]; exact hs) (inv_init P b)
    (fun s i _ hi hs hs' => step_inv laws P hu0 hu1 hcol s i hi hs hs') h).1

structure Legal (P : Params K Rat) : Prop where
  -- the invariant (`run_inv`) needs only `0 ≤ u`; positivity is used by `luFactor_multiplier_le_inv_u` alone
  u_pos : 0 < P.u
  u_le_one : P.u ≤ 1
  col_size : ∀ j, (P.col j).size = P.m

theorem Legal.inv (laws : MagLaws K) {P : Params K Rat} (hP : Legal P) (b : Bool) (j : Nat)
    (h : (run P b j).info = 0) : Inv P (run P b j) j :=
  run_inv laws P (le_of_lt hP.u_pos) hP.u_le_one hP.col_size b j h

end Slu.LU

/-! The two scalar types of the library.  The namespace is reopened to leave the scope of `variable [Mag K Rat]`. -/
namespace Slu.LU
open Slu

theorem magLaws_rat : MagLaws Rat where
  nonneg := fun x => rabs_nonneg x
  zero := by simp [Mag.abs1]
  definite := fun x h => by simpa [Mag.abs1] using h

/-- the hypothesis `hmul` of `luFactor_multiplier_le_inv_u`, for real data -/
theorem mag_rat_mul (a b : Rat) : (Mag.abs1 (a * b) : Rat) = Mag.abs1 a * Mag.abs1 b := by
  simp [Mag.abs1, abs_mul]

/-- the complex magnitude `|re| + |im|` over the Gaussian rationals satisfies the laws, so every
theorem stated over `MagLaws` applies verbatim to complex data (`Field (Cx Rat)` is proved in Lemmas/CxRat.lean).
It is NOT multiplicative, which is why `luFactor_multiplier_le_inv_u` is stated for real data only;
the numerator form `luFactor_multiplier_bound` is what holds for complex data. -/
theorem magLaws_cx : MagLaws (Cx Rat) where
  nonneg := fun z => add_nonneg (rabs_nonneg _) (rabs_nonneg _)
  zero := by
    show rabs (0 : Cx Rat).re + rabs (0 : Cx Rat).im = 0
    simp [Cx.zero_def]
  definite := fun z h => by
    have h' : rabs z.re + rabs z.im = 0 := h
    have h1 := rabs_nonneg z.re; have h2 := rabs_nonneg z.im
    have e1 : rabs z.re = 0 := by linarith
    have e2 : rabs z.im = 0 := by linarith
    simp at e1 e2
    cases z; simp_all [Cx.zero_def]

end Slu.LU
