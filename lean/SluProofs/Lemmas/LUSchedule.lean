import SluProofs.Lemmas.LUInv
import SluProofs.Lemmas.SnodeUpdate
/-
One column of the factorization with the elimination carried out by an arbitrary SCHEDULE (a
sequence of supernodes, each a list of previous columns) instead of all previous columns in natural
order; glue between `ElimOrder` / `SnodeUpdate` and `Slu.LU.step`.
-/
namespace Slu.LU
open Slu List

variable {K : Type} [Field K] [Mag K Rat]

/-- the part of `step` that follows the elimination: candidates, pivot decision, new L and U
column, from the eliminated column `w` and the multipliers `us` (in column order) -/
def stepFrom (P : Params K Rat) (st : St K) (j : Nat) (w : Vec K) (us : List K) : St K :=
  let cands : List (Nat × K) := ((P.order j).filter (fun r => !(st.piv.contains r))).map fun r => (r, w.get r)
  let o := pivotChoice (R := Rat) j cands (fun p => P.u * p) st.usepr (P.oldPiv j) (P.diagRow j)
  if o.info ≠ 0 then { st with info := o.info, usepr := false } else
  let p := o.row
  let piv := w.get p
  let temp : K := 1 / piv
  let l : Vec K := w.map (· * temp)
  { piv := st.piv.push p, L := st.L.push l, U := st.U.push ((us ++ [piv]).toArray), usepr := o.usepr, info := 0 }

theorem step_eq_stepFrom (P : Params K Rat) (st : St K) (j : Nat) :
    step P st j = if st.info ≠ 0 then st else stepFrom P st j (stepW P st j) (stepUs P st j) := by
  unfold step stepFrom stepW stepUs prev
  rfl

/-- one column with the elimination result `r` (remaining vector, multipliers in the order of the
visited columns `σ`); the U column is assembled by pivot row, as the real code does through
`perm_r` (columns that were not visited contribute 0) -/
def stepSchedOf (P : Params K Rat) (st : St K) (j : Nat) (σ : List (Nat × Vec K)) (r : Vec K × List K) : St K :=
  if st.info ≠ 0 then st else
  stepFrom P st j r.1 ((List.range j).map fun k => multAt σ r.2 (st.piv.getD k 0))

def stepSched (P : Params K Rat) (st : St K) (j : Nat) (σ : List (Nat × Vec K)) : St K :=
  stepSchedOf P st j σ (elim σ (P.col j))

def stepBlocks (P : Params K Rat) (st : St K) (j : Nat) (bs : List (List (Nat × Vec K))) : St K :=
  stepSchedOf P st j bs.flatten (elimBlocks bs (P.col j))

/-- the whole factorization with a schedule chosen per column (it may depend on the state, since
the columns it lists are the L columns computed so far) -/
def luFactorBlocks (P : Params K Rat) (usepr : Bool) (sched : St K → Nat → List (List (Nat × Vec K))) : St K :=
  (List.range P.n).foldl (fun st j => stepBlocks P st j (sched st j)) { usepr := usepr }

/-- `bs` is a VALID SCHEDULE for eliminating `w` by the unit lower columns `Ls`: its columns are a
subset of `Ls` (each once), in an order that respects the dependencies among them, and every column
left out has multiplier zero in the natural-order elimination. -/
def ValidSchedule (Ls : List (Nat × Vec K)) (w : Vec K) (bs : List (List (Nat × Vec K))) : Prop :=
  ∃ keep : Nat × Vec K → Bool,
    bs.flatten.Perm (Ls.filter keep) ∧ DepRespecting (Ls.filter keep) bs.flatten ∧
    ∀ e ∈ Ls.zip (elim Ls w).2, keep e.1 = false → e.2 = 0

omit [Field K] [Mag K Rat] in
theorem range_map_getD (us : List K) (d : K) (j : Nat) (h : us.length = j) :
    (List.range j).map (fun k => us.getD k d) = us := by
  apply List.ext_getElem (by simp [h])
  intro i h1 h2
  simp [List.getD_eq_getElem?_getD, h2]

theorem stepSchedOf_eq_step (P : Params K Rat) (st : St K) (j : Nat) (σ : List (Nat × Vec K)) (r : Vec K × List K)
    (h1 : r.1 = stepW P st j)
    (h2 : ∀ k (hk : k < (prev st j).length), multAt σ r.2 ((prev st j)[k]).1 = (stepUs P st j).getD k 0) :
    stepSchedOf P st j σ r = step P st j := by
  have hlen := stepUs_length P st j
  have hus : (List.range j).map (fun k => multAt σ r.2 (st.piv.getD k 0)) = stepUs P st j := by
    refine Eq.trans ?_ (range_map_getD (stepUs P st j) 0 j hlen)
    apply List.map_congr_left
    intro k hk
    have hk' : k < (prev st j).length := by rw [prev_length]; exact List.mem_range.mp hk
    have := h2 k hk'
    rw [prev_getElem] at this
    exact this
  rw [step_eq_stepFrom, stepSchedOf, h1, hus]

omit [Mag K Rat] in
theorem validSchedule_of_perm (Ls : List (Nat × Vec K)) (w : Vec K) (bs : List (List (Nat × Vec K)))
    (hp : bs.flatten.Perm Ls) (hd : DepRespecting Ls bs.flatten) : ValidSchedule Ls w bs :=
  ⟨fun _ => true, by simpa using hp, by simpa using hd, by simp⟩

end Slu.LU
