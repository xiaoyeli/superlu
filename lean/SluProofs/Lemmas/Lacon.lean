import Slu.Model.Lacon
import SluProofs.Lemmas.RatBasic
import SluProofs.Lemmas.ArrayBasic
import SluProofs.Lemmas.SumBasic
import Mathlib.Algebra.Order.BigOperators.Group.List
namespace Slu.Lacon
open Slu

variable {K : Type}

/-- what the proofs need of the primitives: `asum` behaves like a 1-norm on the vectors the machine
builds.  Both the real instance `primQ` and the complex instance `primQC` satisfy it; so does
the true complex modulus (over the reals). -/
structure Lawful (P : Prim K Rat) : Prop where
  asum_nonneg : ∀ x, 0 ≤ P.asum x
  absEst_eq : ∀ a, P.absEst a = P.asum #[a]
  asum_uniform : ∀ n, 1 ≤ n → P.asum (Array.replicate n (P.ninv n)) = 1
  asum_unit : ∀ n j, j < n → P.asum ((Array.replicate n P.zero).setIfInBounds j P.one) = 1
  asum_zero : ∀ n, P.asum (Array.replicate n P.zero) = 0
  asum_alt : ∀ n, 2 ≤ n → P.asum ((Array.range n).map (P.alt n)) = 3 * (n : Rat) / 2
  fin_eq : ∀ t n, P.fin t n = t / (3 * (n : Rat)) * 2

@[simp] theorem toL50_kase (P : Prim K Rat) (s : St K Rat) (j i : Nat) : (toL50 P s j i).kase = 1 := rfl
@[simp] theorem toL50_jump (P : Prim K Rat) (s : St K Rat) (j i : Nat) : (toL50 P s j i).jump = 3 := rfl
@[simp] theorem toL50_iter (P : Prim K Rat) (s : St K Rat) (j i : Nat) : (toL50 P s j i).iter = i := rfl
@[simp] theorem toL50_est (P : Prim K Rat) (s : St K Rat) (j i : Nat) : (toL50 P s j i).est = s.est := rfl
@[simp] theorem toL50_x (P : Prim K Rat) (s : St K Rat) (j i : Nat) :
    (toL50 P s j i).x = (Array.replicate s.x.size P.zero).setIfInBounds j P.one := rfl
@[simp] theorem toL120_kase (P : Prim K Rat) (s : St K Rat) : (toL120 P s).kase = 1 := rfl
@[simp] theorem toL120_jump (P : Prim K Rat) (s : St K Rat) : (toL120 P s).jump = 5 := rfl
@[simp] theorem toL120_est (P : Prim K Rat) (s : St K Rat) : (toL120 P s).est = s.est := rfl
@[simp] theorem toL120_x (P : Prim K Rat) (s : St K Rat) :
    (toL120 P s).x = (Array.range s.x.size).map (P.alt s.x.size) := rfl
@[simp] theorem toSign_kase (P : Prim K Rat) (s : St K Rat) (j : Nat) : (toSign P s j).kase = 2 := rfl
@[simp] theorem toSign_jump (P : Prim K Rat) (s : St K Rat) (j : Nat) : (toSign P s j).jump = j := rfl
@[simp] theorem toSign_iter (P : Prim K Rat) (s : St K Rat) (j : Nat) : (toSign P s j).iter = s.iter := rfl
@[simp] theorem toSign_est (P : Prim K Rat) (s : St K Rat) (j : Nat) : (toSign P s j).est = s.est := rfl
@[simp] theorem toSign_x (P : Prim K Rat) (s : St K Rat) (j : Nat) : (toSign P s j).x = s.x.map P.sgn := rfl

section
variable (P : Prim K Rat) (s : St K Rat)

theorem toL50_size (j i : Nat) : (toL50 P s j i).x.size = s.x.size := by
  rw [toL50_x, Array.size_setIfInBounds, Array.size_replicate]
theorem toL120_size : (toL120 P s).x.size = s.x.size := by
  rw [toL120_x, Array.size_map, Array.size_range]
theorem toSign_size (j : Nat) : (toSign P s j).x.size = s.x.size := by
  rw [toSign_x, Array.size_map]

end

section
variable {P : Prim K Rat} {s : St K Rat}

theorem step_start (h0 : s.kase = 0) :
    step P s = { s with x := Array.replicate s.x.size (P.ninv s.x.size), kase := 1, jump := 1 } := by
  simp only [step, if_pos h0]

/-- a `switch (isave[0])` without `default` (dlacon2.c:123-129): every value of `jump` other than 2..5 is
treated as 1 -/
theorem step_jump1 (h0 : s.kase ≠ 0) (hj : s.jump < 2 ∨ 5 < s.jump) :
    step P s = if s.x.size = 1 then
        { s with v := s.v.setIfInBounds 0 (s.x.getD 0 P.zero), est := P.absEst (s.x.getD 0 P.zero), kase := 0 }
      else toSign P { s with est := P.asum s.x } 2 := by
  simp only [step, if_neg h0, if_neg (show s.jump ≠ 2 by omega), if_neg (show s.jump ≠ 3 by omega),
    if_neg (show s.jump ≠ 4 by omega), if_neg (show s.jump ≠ 5 by omega)]

theorem step_jump2 (h0 : s.kase ≠ 0) (hj : s.jump = 2) : step P s = toL50 P s (P.imax s.x) 2 := by
  simp only [step, if_neg h0, if_pos hj]

theorem step_jump3 (h0 : s.kase ≠ 0) (hj : s.jump = 3) :
    step P s =
      if (P.signTest && (List.range s.x.size).all fun i => P.sgnI (s.x.getD i P.zero) == s.isgn.getD i 0) = true ∨
          P.asum s.x ≤ s.est
      then toL120 P { s with v := s.x, est := P.asum s.x } else toSign P { s with v := s.x, est := P.asum s.x } 4 := by
  simp only [step, if_neg h0, if_neg (show s.jump ≠ 2 by omega), if_pos hj, ite_or]

theorem step_jump4 (h0 : s.kase ≠ 0) (hj : s.jump = 4) :
    step P s =
      if (P.neqLast (s.x.getD s.j P.zero) (s.x.getD (P.imax s.x) P.zero) && decide (s.iter < 5)) = true
      then toL50 P s (P.imax s.x) (s.iter + 1) else toL120 P { s with j := P.imax s.x } := by
  simp only [step, if_neg h0, if_neg (show s.jump ≠ 2 by omega), if_neg (show s.jump ≠ 3 by omega), if_pos hj]

theorem step_jump5 (h0 : s.kase ≠ 0) (hj : s.jump = 5) :
    step P s =
      if P.fin (P.asum s.x) s.x.size > s.est
      then { s with v := s.x, est := P.fin (P.asum s.x) s.x.size, kase := 0 } else { s with kase := 0 } := by
  simp only [step, if_neg h0, if_neg (show s.jump ≠ 2 by omega), if_neg (show s.jump ≠ 3 by omega),
    if_neg (show s.jump ≠ 4 by omega), if_pos hj]

end

section loop
variable (P : Prim K Rat) (T Tt : Array K → Array K)

/-- the caller's half of a round: unless the machine has finished, `x` is overwritten by `T x` (kase 1) or `Tt x`.
Only `x` changes, and on each state `step` returns `kase` is a literal, so the other fields of
`feed T Tt (toL50 ..)` etc. reduce by `rfl`: that is how `step_within` and `step_ready` fill in `Within.j3 ..`,
`Ready.j3 ..` without a rewriting step. -/
def feed (s : St K Rat) : St K Rat :=
  if s.kase = 0 then s else { s with x := (if s.kase = 1 then T else Tt) s.x }

theorem run_succ (fuel : Nat) (s : St K Rat) :
    run P T Tt (fuel + 1) s = if (step P s).kase = 0 then step P s else run P T Tt fuel (feed T Tt (step P s)) := by
  rw [run, feed]
  by_cases h : (step P s).kase = 0 <;> simp only [h, if_true, if_false]

theorem run_inv {I : St K Rat → Prop} (hI : ∀ s, I s → I (feed T Tt (step P s))) :
    ∀ fuel s, I s → I (run P T Tt fuel s)
  | 0, _, h => h
  | fuel + 1, s, h => by
    rw [run_succ]
    split
    · next h0 => have := hI s h; rwa [feed, if_pos h0] at this
    · exact run_inv hI fuel _ (hI s h)

/-- `Within k s`: the control state of `s` is at most `k` calls away from `kase = 0`.  Calls left, counting the
one about to be made: 1 at `jump = 5` (the alternating-sign product is the last); at `jump = 4` with `iter = i` the
machine may still go round `5 - i` times (`iter < 5`, two calls each) before that last call, so with this call
and the last one `2 (5 - i) + 2 = 12 - 2 i`; one more at `jump = 3`, `13 - 2 i`; `jump = 2` leads to `jump = 3` with `iter = 2`, so
10; `jump = 1` 11; the start 12 = `maxCalls`.  Written without subtraction. -/
inductive Within (k : Nat) (s : St K Rat) : Prop
  | start : s.kase = 0 → 12 ≤ k → Within k s
  | j1 : s.kase ≠ 0 → s.jump = 1 → 11 ≤ k → Within k s
  | j2 : s.kase ≠ 0 → s.jump = 2 → 10 ≤ k → Within k s
  | j3 : s.kase ≠ 0 → s.jump = 3 → s.iter ≤ 5 → 13 ≤ k + 2 * s.iter → Within k s
  | j4 : s.kase ≠ 0 → s.jump = 4 → s.iter ≤ 5 → 12 ≤ k + 2 * s.iter → Within k s
  | j5 : s.kase ≠ 0 → s.jump = 5 → 1 ≤ k → Within k s

theorem step_within {k : Nat} (s : St K Rat) (h : Within (k + 1) s) :
    (step P s).kase = 0 ∨ Within k (feed T Tt (step P s)) := by
  rcases h with ⟨h0, hk⟩ | ⟨h0, hj, hk⟩ | ⟨h0, hj, hk⟩ | ⟨h0, hj, hi, hk⟩ | ⟨h0, hj, hi, hk⟩ | ⟨h0, hj, hk⟩
  · rw [step_start h0]
    exact .inr (.j1 one_ne_zero rfl (by omega))
  · rw [step_jump1 h0 (.inl (by omega))]
    split
    · exact .inl rfl
    · exact .inr (.j2 two_ne_zero rfl (by omega))
  · rw [step_jump2 h0 hj]
    exact .inr (.j3 one_ne_zero rfl (show 2 ≤ 5 by decide) (show 13 ≤ k + 2 * 2 by omega))
  · rw [step_jump3 h0 hj]
    split
    · exact .inr (.j5 one_ne_zero rfl (by omega))
    · exact .inr (.j4 two_ne_zero rfl hi (show 12 ≤ k + 2 * s.iter by omega))
  · rw [step_jump4 h0 hj]
    split
    · next hc =>
      have hlt : s.iter < 5 := of_decide_eq_true (Bool.and_eq_true_iff.mp hc).2
      exact .inr (.j3 one_ne_zero rfl (show s.iter + 1 ≤ 5 from hlt) (show 13 ≤ k + 2 * (s.iter + 1) by omega))
    · exact .inr (.j5 one_ne_zero rfl (by omega))
  · rw [step_jump5 h0 hj]
    split <;> exact .inl rfl

theorem run_terminates : ∀ fuel (s : St K Rat), Within fuel s → (run P T Tt fuel s).kase = 0
  | 0, _, h => by cases h <;> omega
  | fuel + 1, s, h => by
    rw [run_succ]
    rcases step_within P T Tt s h with h0 | hw
    · rwa [if_pos h0]
    · split
      · assumption
      · exact run_terminates fuel _ hw

theorem within_init (n : Nat) (est0 : Rat) {k : Nat} (hk : 12 ≤ k) : Within k (init P n est0) := .start rfl hk

end loop

/-- What is known of a state handed to `step`: the property `Q` holds of the estimate reached so far and of the
candidate that the vector `x` just returned by the caller stands for. -/
inductive Ready (P : Prim K Rat) (n : Nat) (Q : Rat → Prop) (s : St K Rat) : Prop
  | done : s.kase = 0 → Q s.est → Ready P n Q s
  | j1 : s.kase ≠ 0 → s.jump = 1 → Q (P.asum s.x) → Ready P n Q s
  | j2 : s.kase ≠ 0 → s.jump = 2 → 2 ≤ n → Q s.est → Ready P n Q s
  | j3 : s.kase ≠ 0 → s.jump = 3 → 2 ≤ n → Q (P.asum s.x) → Ready P n Q s
  | j4 : s.kase ≠ 0 → s.jump = 4 → 2 ≤ n → Q s.est → Ready P n Q s
  | j5 : s.kase ≠ 0 → s.jump = 5 → 2 ≤ n → Q s.est →
      (s.est < P.fin (P.asum s.x) n → Q (P.fin (P.asum s.x) n)) → Ready P n Q s

section lawful
variable (P : Prim K Rat) (hP : Lawful P)
include hP

section candidates
variable (n : Nat) (hn : 1 ≤ n) (T Tt : Array K → Array K)
  (hsT : ∀ x, x.size = n → (T x).size = n) (hsTt : ∀ x, x.size = n → (Tt x).size = n)
  (Q : Rat → Prop)
  (hU : Q (P.asum (T (Array.replicate n (P.ninv n)))))
  (hE : ∀ x : Array K, x.size = n → Q (P.asum (T ((Array.replicate n P.zero).setIfInBounds (P.imax x) P.one))))
  (hA : 2 ≤ n → ∀ e, Q e → e < P.fin (P.asum (T ((Array.range n).map (P.alt n)))) n →
    Q (P.fin (P.asum (T ((Array.range n).map (P.alt n)))) n))
include hn hsT hsTt hU hE hA

theorem step_ready (s : St K Rat) (h : s.x.size = n ∧ Ready P n Q s) :
    (feed T Tt (step P s)).x.size = n ∧ Ready P n Q (feed T Tt (step P s)) := by
  obtain ⟨hsz, h⟩ := h
  subst hsz
  rcases h with ⟨h0, _⟩ | ⟨h0, hj, hq⟩ | ⟨h0, hj, h2, hq⟩ | ⟨h0, hj, h2, hq⟩ | ⟨h0, hj, h2, hq⟩ | ⟨h0, hj, h2, hq, hq'⟩
  · rw [step_start h0]
    exact ⟨hsT _ Array.size_replicate, .j1 one_ne_zero rfl hU⟩
  · rw [step_jump1 h0 (.inl (by omega))]
    split
    · next h1 =>
      -- `n = 1`: the machine returns `|x[0]|`, which is `asum x`
      obtain ⟨a, ha⟩ := Array.size_eq_one_iff.mp h1
      refine ⟨rfl, .done rfl ?_⟩
      rw [ha] at hq
      show Q (P.absEst (s.x.getD 0 P.zero))
      rw [ha, hP.absEst_eq]; exact hq
    · exact ⟨hsTt _ (toSign_size P _ 2), .j2 two_ne_zero rfl (by omega) hq⟩
  · rw [step_jump2 h0 hj]
    exact ⟨hsT _ (toL50_size P s _ 2), .j3 one_ne_zero rfl h2 (hE s.x rfl)⟩
  · rw [step_jump3 h0 hj]
    split
    · exact ⟨hsT _ (toL120_size P _), .j5 one_ne_zero rfl h2 hq (hA h2 _ hq)⟩
    · exact ⟨hsTt _ (toSign_size P _ 4), .j4 two_ne_zero rfl h2 hq⟩
  · rw [step_jump4 h0 hj]
    split
    · exact ⟨hsT _ (toL50_size P s _ _), .j3 one_ne_zero rfl h2 (hE s.x rfl)⟩
    · exact ⟨hsT _ (toL120_size P _), .j5 one_ne_zero rfl h2 hq (hA h2 _ hq)⟩
  · rw [step_jump5 h0 hj]
    split
    · exact ⟨rfl, .done rfl (hq' ‹_›)⟩
    · exact ⟨rfl, .done rfl hq⟩

/-- **The returned estimate is one of the candidates.**  Every candidate is `‖T w‖₁/‖w‖₁` for a vector `w` the
machine built: the uniform vector, a unit vector `e_j` with `j = imax x`, or the alternating-sign vector, whose
candidate `fin ‖T w‖₁ n` only replaces a smaller estimate.  So a property `Q` of all of them is a property of the
estimate, whatever the start value `est0` and however much fuel beyond `maxCalls` the caller's loop is given. -/
theorem run_est_of (est0 : Rat) {fuel : Nat} (hf : maxCalls ≤ fuel) : Q (run P T Tt fuel (init P n est0)).est := by
  have hk := run_terminates P T Tt fuel _ (within_init P n est0 hf)
  obtain ⟨fuel, rfl⟩ : ∃ f, fuel = f + 1 := ⟨fuel - 1, by unfold maxCalls at hf; omega⟩
  -- `init` is not `Ready` (nothing is known of `est0`), the state after the first round is: peel that round off
  have hne : (step P (init P n est0)).kase ≠ 0 := by rw [step_start (s := init P n est0) rfl]; exact one_ne_zero
  have h1 : (feed T Tt (step P (init P n est0))).x.size = n ∧ Ready P n Q (feed T Tt (step P (init P n est0))) := by
    rw [step_start (s := init P n est0) rfl]
    simp only [init, Array.size_replicate]
    exact ⟨hsT _ Array.size_replicate, .j1 one_ne_zero rfl hU⟩
  rw [run_succ, if_neg hne] at hk ⊢
  have := run_inv P T Tt (step_ready P hP n hn T Tt hsT hsTt Q hU hE hA) fuel _ h1
  rcases this.2 with ⟨_, hq⟩ | ⟨h0, _⟩ | ⟨h0, _⟩ | ⟨h0, _⟩ | ⟨h0, _⟩ | ⟨h0, _⟩
  · exact hq
  all_goals exact absurd hk h0

end candidates

theorem asum_unit_le (n j : Nat) : P.asum ((Array.replicate n P.zero).setIfInBounds j P.one) ≤ 1 := by
  by_cases h : j < n
  · rw [hP.asum_unit n j h]
  · rw [Array.setIfInBounds_eq_of_size_le (by simp; omega), hP.asum_zero]; exact zero_le_one

theorem fin_nonneg {t : Rat} (ht : 0 ≤ t) (n : Nat) : 0 ≤ P.fin t n := by
  rw [hP.fin_eq]; positivity

/-- `3n/2` is the 1-norm of the alternating-sign vector -/
theorem fin_le {t N : Rat} {n : Nat} (hn : 1 ≤ n) (ht : t ≤ N * (3 * (n : Rat) / 2)) : P.fin t n ≤ N := by
  have hn0 : (0 : Rat) < n := by exact_mod_cast hn
  rw [hP.fin_eq, div_mul_eq_mul_div, div_le_iff₀ (by positivity)]
  linarith

theorem step_est_nonneg (s : St K Rat) (h : 0 ≤ s.est) : 0 ≤ (step P s).est := by
  have ha := hP.asum_nonneg s.x
  by_cases h0 : s.kase = 0
  · rw [step_start h0]; exact h
  by_cases h2 : s.jump = 2
  · rw [step_jump2 h0 h2]; exact h
  by_cases h3 : s.jump = 3
  · rw [step_jump3 h0 h3]; split <;> exact ha
  by_cases h4 : s.jump = 4
  · rw [step_jump4 h0 h4]; split <;> exact h
  by_cases h5 : s.jump = 5
  · rw [step_jump5 h0 h5]
    split
    · exact (h.trans_lt ‹_›).le
    · exact h
  · rw [step_jump1 h0 (by omega)]
    split
    · show 0 ≤ P.absEst _; rw [hP.absEst_eq]; exact hP.asum_nonneg _
    · exact ha

theorem run_est_nonneg (T Tt : Array K → Array K) :
    ∀ fuel (s : St K Rat), 0 ≤ s.est → 0 ≤ (run P T Tt fuel s).est :=
  run_inv P T Tt (I := fun s => 0 ≤ s.est) fun s h => by
    unfold feed; split <;> exact step_est_nonneg P hP s h

end lawful

theorem size_ite {n : Nat} (b : Bool) {f g : Array K → Array K} (hf : ∀ x, x.size = n → (f x).size = n)
    (hg : ∀ x, x.size = n → (g x).size = n) : ∀ x, x.size = n → ((if b then f else g) x).size = n := by
  cases b
  · exact hg
  · exact hf

theorem gscon_eq (P : Prim K Rat) (onenrm : Bool) (solveN solveT : Array K → Array K) {n : Nat} (hn : n ≠ 0)
    (anorm : Rat) :
    gscon P 0 1 onenrm solveN solveT n anorm =
      if (run P (if onenrm then solveN else solveT) (if onenrm then solveT else solveN) maxCalls (init P n 0)).est = 0
      then 0 else 1 / (run P (if onenrm then solveN else solveT) (if onenrm then solveT else solveN)
        maxCalls (init P n 0)).est / anorm := by
  simp only [gscon, if_neg hn, bne_iff_ne, ne_eq, ite_not]

theorem sum_range_alt (d : Rat) (k : Nat) :
    ((List.range k).map fun i : Nat => (i : Rat) / d + 1).sum = k + (k : Rat) * (k - 1) / 2 / d := by
  induction k with
  | zero => simp
  | succ k ih =>
    rw [List.range_succ, List.map_append, List.sum_append, ih, List.map_singleton, List.sum_singleton]
    push_cast; ring

theorem alt_sum_eq (n : Nat) (h : 2 ≤ n) :
    (n : Rat) + (n : Rat) * (n - 1) / 2 / ((n : Rat) - 1) = 3 * (n : Rat) / 2 := by
  have h1 : ((n : Rat) - 1) ≠ 0 := by
    have : (2 : Rat) ≤ n := by exact_mod_cast h
    intro h0; linarith
  field_simp; ring

theorem Lawful.of_weight (P : Prim K Rat) (w : K → Rat) (hw : ∀ a, 0 ≤ w a)
    (hasum : ∀ x, P.asum x = x.foldl (fun acc a => acc + w a) 0) (habs : ∀ a, P.absEst a = w a)
    (hninv : ∀ n : Nat, 1 ≤ n → w (P.ninv n) = 1 / n) (hzero : w P.zero = 0) (hone : w P.one = 1)
    (halt : ∀ n i : Nat, 2 ≤ n → w (P.alt n i) = (i : Rat) / ((n : Rat) - 1) + 1)
    (hfin : ∀ t n, P.fin t n = t / (3 * (n : Rat)) * 2) : Lawful P := by
  have hsum : ∀ x : Array K, P.asum x = (x.toList.map w).sum := fun x => by
    rw [hasum, ← Array.foldl_toList, foldl_add_eq_sum, zero_add]
  refine ⟨fun x => ?_, fun a => ?_, fun n hn => ?_, fun n j hj => ?_, fun n => ?_, fun n hn => ?_, hfin⟩
  · rw [hsum]; exact List.sum_nonneg fun y hy => by obtain ⟨a, _, rfl⟩ := List.mem_map.mp hy; exact hw a
  · rw [hsum, habs]; simp
  · have : (n : Rat) ≠ 0 := by exact_mod_cast Nat.ne_of_gt hn
    rw [hsum, Array.toList_replicate, List.map_replicate, List.sum_replicate, nsmul_eq_mul, hninv n hn,
      mul_one_div_cancel this]
  · rw [hsum, Array.toList_setIfInBounds, Array.toList_replicate, List.map_set, List.map_replicate, List.sum_set',
      List.sum_replicate, hzero, hone]
    simp [hj]
  · rw [hsum, Array.toList_replicate, List.map_replicate, List.sum_replicate, hzero, nsmul_zero]
  · rw [hsum, Array.toList_map, Array.toList_range, List.map_map,
      List.map_congr_left (f := w ∘ P.alt n) (g := fun i : Nat => (i : Rat) / ((n : Rat) - 1) + 1)
        fun i _ => halt n i hn, sum_range_alt]
    exact alt_sum_eq n hn

theorem alt_weight (n i : Nat) (hn : 2 ≤ n) :
    rabs ((if i % 2 = 0 then 1 else -1) * ((i : Rat) / ((n - 1 : Nat) : Rat) + 1)) = (i : Rat) / ((n : Rat) - 1) + 1 := by
  have h1 : ((n - 1 : Nat) : Rat) = (n : Rat) - 1 := by rw [Nat.cast_sub (by omega), Nat.cast_one]
  have h2 : (0 : Rat) ≤ (i : Rat) / ((n : Rat) - 1) + 1 := by rw [← h1]; positivity
  rw [h1, rabs_eq_abs, abs_mul, abs_of_nonneg h2]
  split
  · rw [abs_one, one_mul]
  · rw [abs_neg, abs_one, one_mul]

theorem fin_formula (t : Rat) (n : Nat) : t / ((n * 3 : Nat) : Rat) * 2 = t / (3 * (n : Rat)) * 2 := by
  push_cast; ring

theorem primQ_lawful : Lawful primQ :=
  .of_weight primQ rabs rabs_nonneg (fun _ => rfl) (fun _ => rfl)
    (fun n _ => by show rabs (1 / (n : Rat)) = _; rw [rabs_eq_abs, abs_of_nonneg (by positivity)])
    (by decide) (by decide) alt_weight
    fin_formula

theorem primQC_lawful : Lawful primQC :=
  .of_weight primQC (fun a => rabs a.re + rabs a.im) (fun a => add_nonneg (rabs_nonneg _) (rabs_nonneg _))
    (fun _ => rfl) (fun _ => rfl)
    (fun n _ => by
      show rabs (1 / (n : Rat)) + rabs 0 = _
      rw [rabs_eq_abs, abs_of_nonneg (by positivity), rabs_eq_abs, abs_zero, add_zero])
    (by show rabs 0 + rabs 0 = (0 : Rat); rw [rabs_eq_abs, abs_zero, add_zero])
    (by show rabs 1 + rabs 0 = (1 : Rat); rw [rabs_eq_abs, rabs_eq_abs, abs_one, abs_zero, add_zero])
    (fun n i hn => by
      show rabs ((if i % 2 = 0 then 1 else -1) * ((i : Rat) / ((n - 1 : Nat) : Rat) + 1)) + rabs 0 = _
      rw [alt_weight n i hn, rabs_eq_abs, abs_zero, add_zero])
    fin_formula

theorem imaxBy_lt {R : Type} [LE R] [DecidableLE R] (key : K → R) (dflt : K) (x : Array K) (h : 0 < x.size) :
    imaxBy key dflt x < x.size := by
  have : imaxBy key dflt x ≤ x.size - 1 := by
    refine foldl_inv (fun bm : Nat × R => bm.1 ≤ x.size - 1) _ _ _ (Nat.zero_le _) fun bm i hi hbm => ?_
    have := List.mem_range.mp hi
    dsimp only
    split
    · exact hbm
    · omega
  omega

theorem primQ_imax (x : Array Rat) (h : 0 < x.size) : primQ.imax x < x.size :=
  imaxBy_lt (fun a : Rat => rabs a) 0 x h
theorem primQC_imax (x : Array (Cx Rat)) (h : 0 < x.size) : primQC.imax x < x.size :=
  imaxBy_lt (fun a : Cx Rat => rabs a.re) ⟨0, 0⟩ x h

end Slu.Lacon
