import Slu.Model.Ledger
/-
Helper lemmas for C19: the ledger invariant is preserved by the three primitive effects
(`allocObj`, `releaseObj`, `withTemp`) and by the factorization kernel's effect; `documentedAll` over a
concatenation; the growth protocol after a failed expansion.  Core only.
-/
namespace Slu.Ledger

/-- ledger invariant: no double free so far, exactly `t` call-internal blocks live, the caller's
objects are distinct, and the live blocks are exactly the blocks of the objects the caller holds -/
def Inv (t : Nat) (s : State) : Prop :=
  s.dfree = 0 ∧ s.temp = t ∧ s.handed.Nodup ∧
  ∀ o, s.live.count o = if o ∈ s.handed then o.blocks else 0

theorem count_filter_ne (o o' : Obj) (l : List Obj) :
    (l.filter (fun x => x != o)).count o' = if o' = o then 0 else l.count o' := by
  split
  · next e => exact List.count_eq_zero.2 fun h => by simp [e] at h
  · next e => exact List.count_filter (by simpa using e)

theorem not_mem_of_not_contains {l : List Obj} {o : Obj} (h : (!l.contains o) = true) : o ∉ l := by
  simpa using h

variable {t : Nat} {s : State}

theorem inv_alloc {o : Obj} (h : Inv t s) (ho : o ∉ s.handed) :
    Inv t (allocObj o s) := by
  obtain ⟨h1, h2, h3, h4⟩ := h
  refine ⟨h1, h2, List.nodup_cons.mpr ⟨ho, h3⟩, fun o' => ?_⟩
  simp only [allocObj, List.count_append, List.count_replicate, h4 o', List.mem_cons]
  by_cases e : o' = o
  · subst e; simp [ho]
  · simp [e, Ne.symm e]

theorem inv_release {o : Obj} (h : Inv t s) (ho : o ∈ s.handed) :
    Inv t (releaseObj o s) := by
  obtain ⟨h1, h2, h3, h4⟩ := h
  refine ⟨?_, h2, List.Pairwise.filter _ h3, fun o' => ?_⟩
  · simp [releaseObj, h1, h4 o, ho]
  · simp only [releaseObj, count_filter_ne, List.mem_filter, h4 o']
    by_cases e : o' = o
    · subst e; simp
    · simp [e]

/-- `withTemp k f` keeps the invariant if `f` does, at the raised count of internal blocks.  What `f` needs to know
of the objects handed out (`P`) carries over from the outer state, since raising `temp` leaves `handed` alone. -/
theorem inv_withTemp {k : Nat} {f : State → State} {P : List Obj → Prop}
    (hf : ∀ s1, Inv (t + k) s1 → P s1.handed → Inv (t + k) (f s1))
    (h : Inv t s) (hP : P s.handed) : Inv t (withTemp k f s) := by
  obtain ⟨h1, h2, h34⟩ := h
  obtain ⟨g1, g2, g3, g4⟩ := hf { s with temp := s.temp + k } ⟨h1, by simp [h2], h34⟩ hP
  exact ⟨by simp [withTemp, g1, g2], by simp [withTemp, g2], g3, g4⟩

theorem inv_withTemp_id {k : Nat} (h : Inv t s) : Inv t (withTemp k id s) :=
  inv_withTemp (P := fun _ => True) (fun _ h1 _ => h1) h trivial

/-- what `[sdcz]gstrf` requires of the objects the caller holds: with `SamePattern_SameRowPerm` it reuses L and U,
otherwise it creates them -/
def CanFactor (h : Nat) (fact : Fact) (ws : Bool) (handed : List Obj) : Prop :=
  fact = .sameRowPerm ∨ (Obj.facL h ws ∉ handed ∧ Obj.facU h ws ∉ handed)

/-- every documented call that factors tests, after whatever else it asks (`b`), that the caller holds neither factor -/
theorem canFactor_of_absent {h : Nat} {fact : Fact} {ws : Bool} {handed : List Obj} (b : Bool)
    (hd : (b && !handed.contains (.facL h ws) && !handed.contains (.facU h ws)) = true) : CanFactor h fact ws handed := by
  simp only [Bool.and_eq_true] at hd
  exact Or.inr ⟨not_mem_of_not_contains hd.1.2, not_mem_of_not_contains hd.2⟩

theorem inv_gstrfEffect (h : Nat) (fact : Fact) (ws : Bool) (out : Out)
    (hs : Inv t s) (hpre : CanFactor h fact ws s.handed) : Inv t (gstrfEffect h fact ws out s) := by
  refine inv_withTemp (fun s1 h1 p1 => ?_) hs hpre
  cases out with
  | query => exact h1
  | oos => exact inv_withTemp_id h1
  | ok | singular =>
    refine inv_withTemp (fun s2 h2 p2 => ?_) h1 p1
    rcases p2 with hf | ⟨hL, hU⟩
    · rwa [if_pos hf]
    · split
      · exact h2
      · exact inv_alloc (inv_alloc h2 hL) (by simpa [allocObj] using hU)

/-- the factorization followed, when it succeeded, by the two temporaries of the solve (`[sdcz]gssv`, `[sdcz]gssvx`) -/
theorem inv_factorSolve (h : Nat) (fact : Fact) (ws : Bool) (out : Out)
    (hs : Inv t s) (hpre : CanFactor h fact ws s.handed) :
    Inv t (if out = .ok then withTemp 2 id (gstrfEffect h fact ws out s) else gstrfEffect h fact ws out s) := by
  have hg := inv_gstrfEffect h fact ws out hs hpre
  split
  · exact inv_withTemp_id hg
  · exact hg

theorem documentedAll_append (s : State) (l₁ l₂ : List Op) :
    documentedAll s (l₁ ++ l₂) = (documentedAll s l₁ && documentedAll (run s l₁) l₂) := by
  induction l₁ generalizing s with
  | nil => rfl
  | cons a l ih => simp only [List.cons_append, documentedAll, ih, Bool.and_assoc, run, List.foldl]

theorem Grow.gstep_of_failed {g : Grow.G} (hf : g.failed = true) (op : Grow.GOp) : Grow.gstep g op = (g, []) := by
  cases op <;> simp only [Grow.gstep, hf, if_true]

end Slu.Ledger
