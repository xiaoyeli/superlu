/-
A list of lists stored as its concatenation and a list of running offsets: the offset at `i` is the start plus the
lengths of the first `i` parts, and part `j` is the segment of the concatenation between offsets `j` and `j + 1`.
Last, what holds of any pointer array, read as a function `f : Nat → Nat` so that the same statement serves the
reads of a list (`xs[·]!`, Lemmas/SymbPack.lean) and of an array (Lemmas/TrsvLayout.lean).
Core Lean only.
-/
namespace Slu

section offsets
variable {γ : Type}

/-- `o` is any function with the two equations of a running-offset list over parts of size `len` (the model has
several; for each both hold by `rfl`) -/
theorem offsets_getD (o : Nat → List γ → List Nat) (len : γ → Nat) (h0 : ∀ s, o s [] = [s])
    (hc : ∀ s c cs, o s (c :: cs) = s :: o (s + len c) cs) (s : Nat) (cs : List γ) (i : Nat) (h : i ≤ cs.length) :
    (o s cs).length = cs.length + 1 ∧ (o s cs).getD i 0 = s + ((cs.take i).map len).sum := by
  induction cs generalizing s i with
  | nil =>
    obtain rfl : i = 0 := by simpa using h
    rw [h0]; exact ⟨rfl, rfl⟩
  | cons c cs ih =>
    rw [hc]
    cases i with
    | zero => exact ⟨by rw [List.length_cons, (ih (s + len c) 0 (Nat.zero_le _)).1]; rfl, rfl⟩
    | succ i =>
      obtain ⟨i1, i2⟩ := ih (s + len c) i (Nat.le_of_succ_le_succ h)
      refine ⟨by rw [List.length_cons, i1]; rfl, ?_⟩
      rw [List.getD_cons_succ, i2, List.take_succ_cons, List.map_cons, List.sum_cons, Nat.add_assoc]

theorem sum_take_succ (cs : List Nat) (i : Nat) (h : i < cs.length) :
    (cs.take (i + 1)).sum = (cs.take i).sum + cs[i] := by
  rw [List.take_succ_eq_append_getElem h, List.sum_append, List.sum_cons, List.sum_nil, Nat.add_zero]

theorem exists_bracket (x : Nat → Nat) (N j : Nat) (h0 : x 0 ≤ j) (hN : j < x N) : ∃ s < N, x s ≤ j ∧ j < x (s + 1) := by
  induction N with
  | zero => omega
  | succ k ih =>
    by_cases hle : x k ≤ j
    · exact ⟨k, by omega, hle, hN⟩
    · obtain ⟨s, hs, h⟩ := ih (by omega); exact ⟨s, by omega, h⟩

end offsets

theorem flatten_segment {β : Type} (L : List (List β)) (j : Nat) (hj : j < L.length) :
    (L.flatten.drop (L.take j).flatten.length).take
      ((L.take (j + 1)).flatten.length - (L.take j).flatten.length) = L[j] := by
  have h : L.flatten = (L.take j).flatten ++ (L[j] ++ (L.drop (j + 1)).flatten) := by
    conv => lhs; rw [← List.take_append_drop j L, List.drop_eq_getElem_cons hj]
    rw [List.flatten_append, List.flatten_cons]
  rw [List.take_succ_eq_append_getElem hj, List.flatten_append, List.flatten_singleton, List.length_append,
    Nat.add_sub_cancel_left, h, List.drop_left, List.take_left]

section pointers
variable (f : Nat → Nat)

theorem ptr_mono (N : Nat) (h : ∀ s < N, f s ≤ f (s + 1)) (a b : Nat) (hab : a ≤ b) (hb : b ≤ N) : f a ≤ f b := by
  induction b with
  | zero => exact Nat.le_zero.mp hab ▸ Nat.le_refl _
  | succ b ih =>
    by_cases he : a = b + 1
    · exact he ▸ Nat.le_refl _
    · exact Nat.le_trans (ih (by omega) (by omega)) (h b (by omega))

theorem ptr_steps (a d c : Nat) (h : ∀ i < c, f (a + i) ≤ f (a + i + 1) ∧ f (a + i + 1) - f (a + i) = d) :
    f (a + c) = f a + c * d := by
  induction c with
  | zero => rw [Nat.zero_mul]; rfl
  | succ c ih =>
    have := ih fun i hi => h i (by omega)
    have := h c (by omega)
    rw [← Nat.add_assoc, Nat.succ_mul]; omega

end pointers

end Slu
