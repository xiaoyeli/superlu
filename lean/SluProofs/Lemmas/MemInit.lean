import Slu.Model.Mem
import SluProofs.Lemmas.Mem
/-
`LUMemInit` with D3 and D11 repaired (dmemory.c:196-333) establishes `Inv` on every path through the retry/halving loop.
Only the attempt that succeeds is followed by closed forms; of one that failed only what it leaves alone is needed (`Frame`),
since with D3 repaired the loop restores the stack marks.
Both branches of the routine end in `finish` (`LUWorkInit`, dmemory.c:339-393, then `++num_expansions`), which turns a
workspace that is `Ready` into one that satisfies `Inv`; Lemmas/MemReuse enters `finish` from the other branch.
-/
namespace Slu.Mem


theorem isize_mod4 (c : Cfg) (hw : c.w.Ok) : isize c % 4 = 0 := mul_mod4 ⟨1, hw.iw⟩ _

theorem dsize_mod4 (c : Cfg) (hw : c.w.Ok) : dsize c % 4 = 0 := mul_mod4 hw.dw4 _

theorem addr8_cases (s : St) (p : Int) (hp : p % 4 = 0) : s.addr8 p = 0 ∨ s.addr8 p = 4 := by
  unfold St.addr8; split <;> omega

theorem alignPad_cases (s : St) (p : Int) (hp : p % 4 = 0) : s.alignPad p = 0 ∨ s.alignPad p = 4 := by
  unfold St.alignPad
  rcases addr8_cases s p hp with h | h <;> rw [h] <;> decide


/-- state between the allocations of `LUMemInit` in a workspace: only the head of the stack is in use,
everything is a multiple of 4 -/
structure Mid (s : St) : Prop where
  user : s.user = true
  nexp : s.nexp = 0
  top2 : s.top2 = s.size
  used : s.used = s.top1
  t4 : s.top1 % 4 = 0
  s4 : s.size % 4 = 0

/-- fields that the first allocations never touch -/
structure Frame (s s' : St) : Prop where
  user : s'.user = s.user
  base4 : s'.base4 = s.base4
  n : s'.n = s.n
  size : s'.size = s.size
  top2 : s'.top2 = s.top2
  hdrOk : s'.hdrOk = s.hdrOk
  hdrEnd : s'.hdrEnd = s.hdrEnd
  nexp : s'.nexp = s.nexp

theorem Frame.refl (s : St) : Frame s s := ⟨rfl, rfl, rfl, rfl, rfl, rfl, rfl, rfl⟩
theorem Frame.trans {a b c : St} (h1 : Frame a b) (h2 : Frame b c) : Frame a c :=
  ⟨h2.user.trans h1.user, h2.base4.trans h1.base4, h2.n.trans h1.n, h2.size.trans h1.size, h2.top2.trans h1.top2,
   h2.hdrOk.trans h1.hdrOk, h2.hdrEnd.trans h1.hdrEnd, h2.nexp.trans h1.nexp⟩

theorem Frame.marks (s : St) (u t : Int) : Frame s { s with used := u, top1 := t } := ⟨rfl, rfl, rfl, rfl, rfl, rfl, rfl, rfl⟩

theorem Mid.of_frame {s s' : St} (hm : Mid s) (hf : Frame s s') (hu : s'.used = s'.top1) (h4 : s'.top1 % 4 = 0) : Mid s' :=
  ⟨hf.user.trans hm.user, hf.nexp.trans hm.nexp, hf.top2.trans (hm.top2.trans hf.size.symm), hu, h4,
   hf.size ▸ hm.s4⟩


/-- alignment padding put in front of array `t` (only the two scalar arrays are aligned) -/
def padOf (s : St) (t : MemType) : Int :=
  if (t = MemType.LUSUP ∨ t = MemType.UCOL) then s.alignPad s.top1 else 0

theorem padOf_nonneg (s : St) (t : MemType) : 0 ≤ padOf s t := by
  unfold padOf St.alignPad
  split
  · exact Int.emod_nonneg _ (by decide)
  · exact Int.le_refl _

/-- the state after array `t`, of `prev` entries, has been taken from the head of a workspace for the first time -/
def placedFirst (w : Words) (t : MemType) (prev : Int) (s : St) : St :=
  (({ s with top1 := s.top1 + (prev * w.lword t + padOf s t),
             used := s.used + (prev * w.lword t + padOf s t) }).setOff t (s.top1 + padOf s t)).setCap t prev

/-- first allocation of array `t` in a workspace (dmemory.c:560-575), as a closed formula -/
theorem expand_user_first (fx : Fixes) (w : Words) (fail : Nat → Bool) (prev : Int) (t : MemType) (keep : Bool)
    (s : St) (hu : s.user = true) (hn : s.nexp = 0) :
    expand fx w fail prev t keep s =
      if s.full (prev * w.lword t) then ((s.setOff t 0).setCap t prev, none) else (placedFirst w t prev s, some prev) := by
  unfold expand placedFirst padOf
  rw [if_pos hn, if_neg (by simp [hu])]
  by_cases hf : s.full (prev * w.lword t)
  · simp [userMallocHead, hf]
  · simp only [userMallocHead, hf, if_false]
    cases t <;> simp [St.setOff, St.setCap, St.alignPad, St.addr8, Int.add_assoc]

theorem Frame.setOC (s : St) (t : MemType) (o c : Int) : Frame s ((s.setOff t o).setCap t c) := by
  unfold St.setOff St.setCap
  cases t <;> exact ⟨rfl, rfl, rfl, rfl, rfl, rfl, rfl, rfl⟩

theorem Mid.placedFirst {w : Words} (hw : w.Ok) {s : St} (hm : Mid s) (t : MemType) (prev : Int) :
    Mid (placedFirst w t prev s) := by
  have hp : padOf s t = 0 ∨ padOf s t = 4 := by
    unfold padOf; split
    · exact alignPad_cases s _ hm.t4
    · exact Or.inl rfl
  have h4 : (s.top1 + (prev * w.lword t + padOf s t)) % 4 = 0 := by
    have := lword_mul4 hw t prev; have := hm.t4; omega
  have hu := congrArg (· + (prev * w.lword t + padOf s t)) hm.used
  unfold Mem.placedFirst St.setOff St.setCap
  cases t <;> exact ⟨hm.user, hm.nexp, hm.top2, hu, h4, hm.s4⟩

theorem first_step (fx : Fixes) (w : Words) (fail : Nat → Bool) (prev : Int) (t : MemType) (keep : Bool)
    {s : St} (hu : s.user = true) (hn : s.nexp = 0) :
    Frame s (expand fx w fail prev t keep s).1 ∧
      ((expand fx w fail prev t keep s).2.isSome = true → (expand fx w fail prev t keep s).1 = placedFirst w t prev s) := by
  rw [expand_user_first _ _ _ _ _ _ _ hu hn]
  split
  · exact ⟨Frame.setOC .., nofun⟩
  · exact ⟨(Frame.marks ..).trans (Frame.setOC ..), fun _ => rfl⟩

theorem init4_spec (fx : Fixes) (w : Words) (hw : w.Ok) (fail : Nat → Bool) (nzlu nzu nzl : Int) (s : St)
    (hm : Mid s) (h1 : 0 ≤ nzlu) (h2 : 0 ≤ nzu) (h3 : 0 ≤ nzl) :
    Frame s (init4 fx w fail nzlu nzu nzl s).1 ∧
    ((init4 fx w fail nzlu nzu nzl s).2 = true →
      Mid (init4 fx w fail nzlu nzu nzl s).1 ∧ Placed w s.top1 (init4 fx w fail nzlu nzu nzl s).1) := by
  simp only [init4]
  obtain ⟨f1, k1⟩ := first_step fx w fail nzlu .LUSUP false hm.user hm.nexp
  generalize expand fx w fail nzlu .LUSUP false s = r1 at f1 k1 ⊢
  obtain ⟨f2, k2⟩ := first_step fx w fail nzu .UCOL false (f1.user.trans hm.user) (f1.nexp.trans hm.nexp)
  generalize expand fx w fail nzu .UCOL false r1.1 = r2 at f2 k2 ⊢
  have f12 := f1.trans f2
  obtain ⟨f3, k3⟩ := first_step fx w fail nzl .LSUB false (f12.user.trans hm.user) (f12.nexp.trans hm.nexp)
  generalize expand fx w fail nzl .LSUB false r2.1 = r3 at f3 k3 ⊢
  have f13 := f12.trans f3
  obtain ⟨f4, k4⟩ := first_step fx w fail nzu .USUB true (f13.user.trans hm.user) (f13.nexp.trans hm.nexp)
  generalize expand fx w fail nzu .USUB true r3.1 = r4 at f4 k4 ⊢
  refine ⟨f13.trans f4, fun hall => ?_⟩
  simp only [Bool.and_eq_true] at hall
  obtain ⟨⟨⟨e1, e2⟩, e3⟩, e4⟩ := hall
  rw [k4 e4, k3 e3, k2 e2, k1 e1]
  refine ⟨(((hm.placedFirst hw ..).placedFirst hw ..).placedFirst hw ..).placedFirst hw .., ?_⟩
  dsimp only [placedFirst, St.setOff, St.setCap, Words.lword]
  -- the paddings only push the arrays further up
  generalize e1 : padOf _ .LUSUP = p₁
  generalize e2 : padOf _ .UCOL = p₂
  generalize e3 : padOf _ .LSUB = p₃
  generalize e4 : padOf _ .USUB = p₄
  have n1 := e1 ▸ padOf_nonneg ..; have n2 := e2 ▸ padOf_nonneg ..
  have n3 := e3 ▸ padOf_nonneg ..; have n4 := e4 ▸ padOf_nonneg ..
  clear e1 e2 e3 e4
  refine ⟨h1, h2, h3, h2, Int.le_refl _, ?_, ?_, ?_, ?_, ?_⟩
  all_goals (dsimp only; omega)

theorem half_nonneg {a : Int} (h : 0 ≤ a) : 0 ≤ a / 2 := Int.ediv_nonneg h (by decide)

/-- what a failed attempt leaves for the next round (dmemory.c:264-281): under library allocation nothing is given back; in a
workspace the marks saved on entry are restored (D3 repaired) or a computed total is `user_free`d (pinned tree) -/
def retry (fx : Fixes) (w : Words) (nzlu nzu nzl : Int) (s s4 : St) : St :=
  if s.user = false then s4
  else if fx.d3 = true then { s4 with used := s.used, top1 := s.top1 }
  else userFreeHead ((nzlu + nzu) * w.dw + (nzl + nzu) * w.iw) s4

/-- the states from which `LUMemInit` makes an attempt at the four first allocations: the one it enters the loop with, and what
a failed attempt leaves -/
inductive Attempt (fx : Fixes) (w : Words) (fail : Nat → Bool) (s : St) : St → Prop
  | first : Attempt fx w fail s s
  | again {s₀ s4 : St} {a b c : Int} (h : Attempt fx w fail s s₀) (ha : 0 ≤ a) (hb : 0 ≤ b) (hc : 0 ≤ c)
      (hi : init4 fx w fail a b c s₀ = (s4, false)) : Attempt fx w fail s (retry fx w a b c s₀ s4)

/-- **how the retry/halving loop can end** (dmemory.c:262-287), entered from `s` and now running with `fuel` and first length
`a`: with the four arrays allocated by one of its attempts, with "not enough memory", or — only if `a` is not below the fuel —
not at all; the lengths are never negative.  `memInit` starts the loop with fuel `a + 2`, which rules the last case out. -/
def LoopEnd (fx : Fixes) (w : Words) (fail : Nat → Bool) (annz : Int) (s : St) (fuel : Nat) (a : Int) : St × Alloc → Prop
  | (s', .ok a' b' c') => 0 ≤ a' ∧ 0 ≤ b' ∧ 0 ≤ c' ∧ ∃ s₀, Attempt fx w fail s s₀ ∧ init4 fx w fail a' b' c' s₀ = (s', true)
  | (_, .short a' b' c') => 0 ≤ a' ∧ 0 ≤ b' ∧ 0 ≤ c'
  | (_, .spin) => 1 ≤ annz → (fuel : Int) ≤ a

theorem initLoop_cases (fx : Fixes) (w : Words) (fail : Nat → Bool) (annz : Int) (s : St) (fuel : Nat) (a b c : Int) (s₁ : St)
    (hs : Attempt fx w fail s s₁) (h1 : 0 ≤ a) (h2 : 0 ≤ b) (h3 : 0 ≤ c) :
    LoopEnd fx w fail annz s fuel a (initLoop fx w fail annz fuel a b c s₁) := by
  fun_induction initLoop fx w fail annz fuel a b c s₁ with
  | case1 a b c s₁ => exact fun _ => h1
  | case2 f a b c s₁ s4 hi => exact ⟨h1, h2, h3, s₁, hs, hi⟩
  | case3 f a b c s₁ s4 hi s5 a' b' c' hlt => exact ⟨half_nonneg h1, half_nonneg h2, half_nonneg h3⟩
  | case4 f a b c s₁ s4 hi s5 a' b' c' hlt ih =>
    have := ih (hs.again h1 h2 h3 hi) (half_nonneg h1) (half_nonneg h2) (half_nonneg h3)
    revert this
    generalize initLoop fx w fail annz f a' b' c' s5 = r
    -- the length was halved and is still at least `nnz(A) ≥ 1`: one unit of fuel bought a smaller length
    rcases r with ⟨s', _ | _ | _⟩
    exacts [id, id, fun h ha => by have := h ha; show ((f + 1 : Nat) : Int) ≤ a; omega]

/-- with D3 repaired every attempt in a workspace starts from the marks saved on entry -/
theorem Attempt.mid {fx : Fixes} (h3 : fx.d3 = true) {w : Words} (hw : w.Ok) {fail : Nat → Bool} {s s₀ : St} (hm : Mid s)
    (h : Attempt fx w fail s s₀) : Mid s₀ ∧ Frame s s₀ ∧ s₀.top1 = s.top1 := by
  induction h with
  | first => exact ⟨hm, Frame.refl s, rfl⟩
  | @again s₀ s4 a b c _ ha hb hc hi ih =>
    obtain ⟨m0, f0, t0⟩ := ih
    have f4 := (init4_spec fx w hw fail a b c s₀ m0 ha hb hc).1
    rw [hi] at f4
    have f5 : Frame s₀ { s4 with used := s₀.used, top1 := s₀.top1 } := f4.trans (Frame.marks ..)
    simp only [retry, m0.user, h3, Bool.true_eq_false, if_false, if_true]
    exact ⟨m0.of_frame f5 m0.used m0.t4, f0.trans f5, t0⟩


theorem userMallocHead_ok {b : Int} {s : St} (h : (userMallocHead b s).2.isSome = true) :
    (userMallocHead b s).1 = { s with top1 := s.top1 + b, used := s.used + b } := by
  unfold userMallocHead at h ⊢
  split
  · rw [if_pos ‹_›] at h; exact absurd h nofun
  · rfl

theorem hdrAlloc_ok {hb hbl : Int} {s : St} (hok : (hdrAlloc hb hbl s).hdrOk = true) :
    hdrAlloc hb hbl s = { s with top1 := s.top1 + hb + hb + hbl + hbl + hbl, used := s.used + hb + hb + hbl + hbl + hbl,
                                 hdrOk := true, hdrEnd := s.top1 + hb + hb + hbl + hbl + hbl } := by
  unfold hdrAlloc at hok ⊢
  dsimp only at hok ⊢
  simp only [Bool.and_eq_true] at hok
  obtain ⟨⟨⟨⟨e1, e2⟩, e3⟩, e4⟩, e5⟩ := hok
  simp only [userMallocHead_ok e1] at e2 e3 e4 e5 ⊢
  simp only [userMallocHead_ok e2] at e3 e4 e5 ⊢
  simp only [userMallocHead_ok e3] at e4 e5 ⊢
  simp only [userMallocHead_ok e4] at e5 ⊢
  simp only [userMallocHead_ok e5, e1, e2, e3, e4, e5, Bool.and_self]


section
-- `l u lu` are `nzlmax nzumax nzlumax`, the lengths `memory_usage` is called with when `LUWorkInit` fails
variable (fail : Nat → Bool) (c : Cfg) (l u lu : Int) (s : St)

/-- the state after `LUWorkInit` has taken both work arrays from the tail of a workspace: `dwork` is put on an 8-byte boundary by
moving it down by `addr8` more bytes, which the fullness test had not looked at -/
def workDone (c : Cfg) (s : St) : St :=
  { s with top2 := s.top2 - isize c - dsize c - s.addr8 (s.top2 - isize c - dsize c),
           used := s.used + isize c + dsize c + s.addr8 (s.top2 - isize c - dsize c),
           iwork := s.top2 - isize c, iworkLen := isize c,
           dwork := s.top2 - isize c - dsize c - s.addr8 (s.top2 - isize c - dsize c), dworkLen := dsize c }

theorem workInitUser_eq : workInitUser c s =
    if s.full (isize c) then (s, isize c + c.n)
    else if dsize c + (s.used + isize c) ≥ s.size then
      ({ s with top2 := s.top2 - isize c, used := s.used + isize c, iwork := s.top2 - isize c, iworkLen := isize c },
        isize c + dsize c + c.n)
    else (workDone c s, 0) := by
  have e : ∀ x : Int, (if x ≠ 0 then x else 0) = x := fun x => by split <;> simp_all
  unfold workInitUser userMallocTail workDone
  by_cases h1 : s.full (isize c)
  · simp only [h1, if_true]
  · simp only [h1, if_false]
    by_cases h2 : dsize c + (s.used + isize c) ≥ s.size
    · simp only [St.full, h2, if_true]
    · simp only [St.full, h2, if_false, e]
      rfl

theorem workInitSys_fst :
    (workInitSys c fail s).1 = { s with mallocs := s.mallocs + 1 } := by
  unfold workInitSys; split <;> rfl

theorem workInitSys_code :
    (workInitSys c fail s).2 = 0 ∨ (workInitSys c fail s).2 = isize c + dsize c + c.n := by
  unfold workInitSys; split
  · exact Or.inr rfl
  · exact Or.inl rfl

/-- what `LUMemInit` does with the result `r` of `LUWorkInit`, in both branches of `fact`: on failure the byte
count plus `memory_usage(nzlmax, nzumax, nzlumax, n) + n` is returned, on success `++num_expansions` -/
def finishWith (c : Cfg) (l u lu : Int) (r : St × Int) : InitRes :=
  if r.2 ≠ 0 then { st := r.1, info := r.2 + memoryUsage c.w l u lu c.n + c.n }
  else { st := { r.1 with nexp := r.1.nexp + 1 }, info := 0 }

def finish (fail : Nat → Bool) (c : Cfg) (l u lu : Int) (s : St) : InitRes :=
  finishWith c l u lu (if s.user = true then workInitUser c s else workInitSys c fail s)

theorem finishWith_spin (r : St × Int) : (finishWith c l u lu r).spin = false := by
  unfold finishWith; split <;> rfl

theorem finish_spin : (finish fail c l u lu s).spin = false :=
  finishWith_spin c l u lu _

theorem finishWith_st (r : St × Int) :
    ∃ ne, (finishWith c l u lu r).st = { r.1 with nexp := ne } := by
  unfold finishWith; split <;> exact ⟨_, rfl⟩

/-- `finish` leaves the arrays, the pointer arrays and the head of the stack alone -/
theorem finish_touches : (finish fail c l u lu s).st =
    let r := (finish fail c l u lu s).st
    { s with top2 := r.top2, used := r.used, iwork := r.iwork, iworkLen := r.iworkLen, dwork := r.dwork,
             dworkLen := r.dworkLen, nexp := r.nexp, mallocs := r.mallocs } := by
  unfold finish
  obtain ⟨ne, e⟩ := finishWith_st c l u lu (if s.user = true then workInitUser c s else workInitSys c fail s)
  rw [e]
  split
  · rw [workInitUser_eq]; split
    · rfl
    · split <;> rfl
  · rw [workInitSys_fst]

/-- a workspace in which everything but the two work arrays is in place: what both branches of `LUMemInit`
hand to `LUWorkInit` -/
structure Ready (w : Words) (s : St) : Prop where
  mid : Mid s
  n0 : 0 ≤ s.n
  hdr0 : 0 ≤ s.hdrEnd - (2 * ((s.n + 1) * w.iw) + 3 * ((s.n + 1) * w.liw))
  placed : Placed w s.hdrEnd s

/-- the arithmetic of `LUWorkInit`: work arrays of `I` and `D` bytes that passed the fullness tests, and the up to
4 bytes `x` that align `dwork`, fit between the head `t1` and the end `sz` of a buffer in which everything is a
multiple of 4: the fullness test is a strict `<` between multiples of 4, so 4 bytes are left over, and they are the room
for `x`.  The five conjuncts are, in this order, the arguments `t12 t2s hus d2 d3` of `Inv.of_placed` for
`top2 = dwork = sz - I - D - x`, `iwork = sz - I`. -/
theorem tail_fits {I D x t1 sz : Int} (hI : 0 ≤ I) (hD : 0 ≤ D) (hI4 : I % 4 = 0) (hD4 : D % 4 = 0) (h4 : t1 % 4 = 0)
    (hs4 : sz % 4 = 0) (hx : x = 0 ∨ x = 4) (hroom : I + D + t1 < sz) :
    t1 ≤ sz - I - D - x ∧ sz - I - D - x ≤ sz ∧ t1 + I + D + x = t1 + (sz - (sz - I - D - x)) ∧
      sz - I - D - x + D ≤ sz - I ∧ sz - I + I ≤ sz := by
  omega

variable (hw : c.w.Ok) (hn : 1 ≤ c.n) (hI : 0 ≤ isize c) (hD : 0 ≤ dsize c) (hl0 : 0 ≤ l) (hu0 : 0 ≤ u) (hlu0 : 0 ≤ lu)
include hw hn hI hD hl0 hu0 hlu0

theorem finish_cases :
    c.n < (finish fail c l u lu s).info ∨
    ((finish fail c l u lu s).info = 0 ∧ (s.user = true → isize c + dsize c + s.used < s.size) ∧
      (finish fail c l u lu s).st =
        if s.user = true then { workDone c s with nexp := s.nexp + 1 }
        else { s with mallocs := s.mallocs + 1, nexp := s.nexp + 1 }) := by
  have hmu := memoryUsage_gt c.w hw hl0 hu0 hlu0 hn
  -- a positive byte count from `LUWorkInit` only gets larger; 0 is passed on
  have pos : ∀ r : St × Int, 1 ≤ r.2 → c.n < (finishWith c l u lu r).info := by
    intro r hr
    unfold finishWith
    rw [if_pos (by omega)]; show c.n < r.2 + memoryUsage c.w l u lu c.n + c.n; omega
  have zero : ∀ r : St × Int, r.2 = 0 →
      finishWith c l u lu r = { st := { r.1 with nexp := r.1.nexp + 1 }, info := 0 } := by
    intro r hr
    unfold finishWith
    rw [if_neg (by omega)]
  unfold finish
  split
  · rw [workInitUser_eq]
    split
    · exact Or.inl (pos _ (by dsimp only; omega))
    · split
      · exact Or.inl (pos _ (by dsimp only; omega))
      · rw [zero _ rfl]; exact Or.inr ⟨rfl, fun _ => by omega, rfl⟩
  · rcases workInitSys_code fail c s with h0 | e
    · rw [zero _ h0, workInitSys_fst]; exact Or.inr ⟨rfl, fun h => absurd h ‹_›, rfl⟩
    · exact Or.inl (pos _ (by omega))

theorem finish_info_gt (h : (finish fail c l u lu s).info ≠ 0) : c.n < (finish fail c l u lu s).info :=
  (finish_cases fail c l u lu s hw hn hI hD hl0 hu0 hlu0).resolve_right fun h' => h h'.1

theorem finish_inv (hr : Ready c.w s) (h : (finish fail c l u lu s).info = 0) : Inv c.w (finish fail c l u lu s).st := by
  have hm := hr.mid
  rcases finish_cases fail c l u lu s hw hn hI hD hl0 hu0 hlu0 with h' | ⟨_, hroom, e⟩
  · omega
  · have hroom := hroom hm.user
    have hI4 := isize_mod4 c hw
    have hD4 := dsize_mod4 c hw
    rw [e, if_pos hm.user]
    rw [hm.used] at hroom
    unfold workDone
    rw [hm.top2, hm.used]
    obtain ⟨a1, a2, a3, a4, a5⟩ := tail_fits hI hD hI4 hD4 hm.t4 hm.s4
      (addr8_cases s (s.size - isize c - dsize c) (by have := hm.s4; omega)) hroom
    exact Inv.of_placed hm.user hr.n0 hr.hdr0 hr.placed (by rw [hm.nexp]; decide) a1 (hm.top2 ▸ a2) a3 hD hI
      (Int.le_refl _) a4 a5

end


/-- the state in which `LUMemInit` enters its allocation loop: in a workspace the five pointer arrays have been
taken from the head -/
def initState (fx : Fixes) (c : Cfg) : St :=
  if (setupSpace c).user = false then setupSpace c
  else hdrAlloc ((c.n + 1) * c.w.iw) ((c.n + 1) * (if fx.d11 = true then c.w.liw else c.w.iw)) (setupSpace c)

theorem memInit_eq (fx : Fixes) (fail : Nat → Bool) (c : Cfg) : memInit fx fail c =
    if fx.d3 = true ∧ (initState fx c).hdrOk = false then
      { st := initState fx c, info := memoryUsage c.w (c.fill * c.annz) (c.fill * c.annz) (c.fill * c.annz) c.n + c.n }
    else match initLoop fx c.w fail c.annz ((c.fill * c.annz).toNat + 2) (c.fill * c.annz) (c.fill * c.annz)
        (c.fill * c.annz) (initState fx c) with
      | (s2, .spin) => { st := s2, info := 0, spin := true }
      | (s2, .short nzlu nzu nzl) => { st := s2, info := memoryUsage c.w nzl nzu nzlu c.n + c.n }
      | (s2, .ok nzlu nzu nzl) => finish fail c nzl nzu nzlu s2 := by
  unfold memInit; rfl

/-- the four ways through `LUMemInit`: the pointer arrays do not fit (noticed only with D3 repaired), the loop
does not end (only if `nnz(A) < 1`), it ends with "not enough memory", or one of its attempts leaves the four arrays allocated -/
theorem memInit_cases (fx : Fixes) (fail : Nat → Bool) (c : Cfg) (hnz : 0 ≤ c.fill * c.annz) (P : InitRes → Prop)
    (hdr : fx.d3 = true → (initState fx c).hdrOk = false →
      P { st := initState fx c,
          info := memoryUsage c.w (c.fill * c.annz) (c.fill * c.annz) (c.fill * c.annz) c.n + c.n })
    (spin : ¬ 1 ≤ c.annz → ∀ s2, P { st := s2, info := 0, spin := true })
    (short : ∀ s2 a b d, 0 ≤ a → 0 ≤ b → 0 ≤ d → P { st := s2, info := memoryUsage c.w d b a c.n + c.n })
    (ok : ¬ (fx.d3 = true ∧ (initState fx c).hdrOk = false) → ∀ s₀ s2 a b d, 0 ≤ a → 0 ≤ b → 0 ≤ d →
      Attempt fx c.w fail (initState fx c) s₀ → init4 fx c.w fail a b d s₀ = (s2, true) → P (finish fail c d b a s2)) :
    P (memInit fx fail c) := by
  rw [memInit_eq]
  split
  · rename_i h; exact hdr h.1 h.2
  · rename_i h
    have := initLoop_cases fx c.w fail c.annz (initState fx c) ((c.fill * c.annz).toNat + 2) _ _ _ _ .first hnz hnz hnz
    revert this
    generalize initLoop fx c.w fail c.annz ((c.fill * c.annz).toNat + 2) (c.fill * c.annz) (c.fill * c.annz)
      (c.fill * c.annz) (initState fx c) = r
    obtain ⟨s2, al⟩ := r
    cases al with
    | ok a b d => exact fun ⟨ha, hb, hd, s₀, hA, hi⟩ => ok h s₀ s2 a b d ha hb hd hA hi
    | short a b d => exact fun ⟨ha, hb, hd⟩ => short s2 a b d ha hb hd
    | spin => exact fun hs => spin (fun ha => by have := hs ha; omega) s2

theorem memInit_no_spin (fx : Fixes) (fail : Nat → Bool) (c : Cfg) (ha : 1 ≤ c.annz) (hnz : 0 ≤ c.fill * c.annz) :
    (memInit fx fail c).spin = false :=
  memInit_cases fx fail c hnz (·.spin = false) (fun _ _ => rfl) (fun h => absurd ha h) (fun _ _ _ _ _ _ _ => rfl)
    (fun _ _ _ _ _ _ _ _ _ _ _ => finish_spin ..)

theorem memInit_info_gt (fx : Fixes) (fail : Nat → Bool) (c : Cfg) (hw : c.w.Ok) (hn : 1 ≤ c.n)
    (hI : 0 ≤ isize c) (hD : 0 ≤ dsize c) (hnz : 0 ≤ c.fill * c.annz)
    (h : (memInit fx fail c).info ≠ 0) : c.n < (memInit fx fail c).info := by
  revert h
  refine memInit_cases fx fail c hnz (fun r => r.info ≠ 0 → c.n < r.info) (fun _ _ _ => ?_) (fun _ _ h => absurd rfl h)
    (fun s2 a b d h1 h2 h3 _ => ?_) (fun _ _ s2 a b d h1 h2 h3 _ _ => finish_info_gt fail c d b a s2 hw hn hI hD h3 h2 h1)
  · exact memoryUsage_gt c.w hw hnz hnz hnz hn
  · exact memoryUsage_gt c.w hw h3 h2 h1 hn

theorem memInit_ready (fx : Fixes) (h3 : fx.d3 = true) (h11 : fx.d11 = true) (fail : Nat → Bool) (c : Cfg)
    (hw : c.w.Ok) (hl : 0 < c.lwork) (hn : 1 ≤ c.n) (hnz : 0 ≤ c.fill * c.annz)
    (hspin : (memInit fx fail c).spin = false) (h : (memInit fx fail c).info = 0) :
    ∃ s2 a b d, Ready c.w s2 ∧ 0 ≤ a ∧ 0 ≤ b ∧ 0 ≤ d ∧ memInit fx fail c = finish fail c d b a s2 := by
  revert hspin h
  refine memInit_cases fx fail c hnz
    (fun r => r.spin = false → r.info = 0 → ∃ s2 a b d, Ready c.w s2 ∧ 0 ≤ a ∧ 0 ≤ b ∧ 0 ≤ d ∧
      r = finish fail c d b a s2) (fun _ _ _ h => ?_) (fun _ _ hspin => absurd hspin nofun)
    (fun s2 a b d ha hb hd _ h => ?_) (fun hok s₀ s2 a b d ha hb hd hA hi _ _ => ?_)
  · exact absurd h (Int.ne_of_gt (Int.lt_trans (by omega) (memoryUsage_gt c.w hw hnz hnz hnz hn)))
  · exact absurd h (Int.ne_of_gt (Int.lt_trans (by omega) (memoryUsage_gt c.w hw hd hb ha hn)))
  · have hs1 : initState fx c = hdrAlloc ((c.n + 1) * c.w.iw) ((c.n + 1) * c.w.liw)
        { user := true, base4 := c.base4, n := c.n, top2 := (c.lwork / 4) * 4, size := (c.lwork / 4) * 4 } := by
      unfold initState setupSpace
      rw [if_neg (by omega : ¬ c.lwork = 0), if_pos h11]
      exact if_neg (by simp)
    rw [hdrAlloc_ok (hs1 ▸ Bool.eq_true_of_not_eq_false fun hh => hok ⟨h3, hh⟩)] at hs1
    have m1 : Mid (initState fx c) := by
      rw [hs1]
      exact ⟨rfl, rfl, rfl, rfl, by have := mul_mod4 ⟨1, hw.iw⟩ (c.n + 1); have := mul_mod4 hw.liw4 (c.n + 1); dsimp only; omega,
        Int.mul_emod_left _ 4⟩
    -- the attempt that succeeded started where the pointer arrays end
    obtain ⟨m0, f0, t0⟩ := hA.mid h3 hw m1
    obtain ⟨f2, p2⟩ := init4_spec fx c.w hw fail a b d s₀ m0 ha hb hd
    rw [hi] at f2 p2
    obtain ⟨m2, p2⟩ := p2 rfl
    have hn2 : s2.n = c.n := (f0.trans f2).n.trans (by rw [hs1])
    have he2 : s2.hdrEnd = (initState fx c).top1 := (f0.trans f2).hdrEnd.trans (by rw [hs1])
    refine ⟨s2, a, b, d, ⟨m2, by omega, ?_, he2 ▸ t0 ▸ p2⟩, ha, hb, hd, rfl⟩
    rw [he2, hn2, hs1]
    dsimp only
    omega

theorem memInit_inv (fx : Fixes) (h3 : fx.d3 = true) (h11 : fx.d11 = true) (fail : Nat → Bool) (c : Cfg) (hw : c.w.Ok) (hl : 0 < c.lwork)
    (hn : 1 ≤ c.n) (hI : 0 ≤ isize c) (hD : 0 ≤ dsize c) (hnz : 0 ≤ c.fill * c.annz)
    (hannz : 1 ≤ c.annz) (h : (memInit fx fail c).info = 0) :
    Inv c.w (memInit fx fail c).st := by
  obtain ⟨s2, a, b, d, hr, ha, hb, hd, e⟩ :=
    memInit_ready fx h3 h11 fail c hw hl hn hnz (memInit_no_spin fx fail c hannz hnz) h
  rw [e] at h ⊢
  exact finish_inv fail c d b a s2 hw hn hI hD hd hb ha hr h

theorem memInit_top1_mod4 (fx : Fixes) (h3 : fx.d3 = true) (h11 : fx.d11 = true) (fail : Nat → Bool) (c : Cfg)
    (hw : c.w.Ok) (hl : 0 < c.lwork) (hn : 1 ≤ c.n) (hnz : 0 ≤ c.fill * c.annz)
    (hspin : (memInit fx fail c).spin = false)
    (h : (memInit fx fail c).info = 0) : (memInit fx fail c).st.top1 % 4 = 0 := by
  obtain ⟨s2, a, b, d, hr, _, _, _, e⟩ := memInit_ready fx h3 h11 fail c hw hl hn hnz hspin h
  rw [e, finish_touches]
  exact hr.mid.t4

end Slu.Mem
