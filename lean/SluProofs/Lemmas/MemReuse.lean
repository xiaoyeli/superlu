import Slu.Model.Mem
import SluProofs.Lemmas.Mem
import SluProofs.Lemmas.MemStore
import SluProofs.Lemmas.GrowList
import SluProofs.Lemmas.MemInit
/-
`LUMemInit` for `fact == SamePattern_SameRowPerm` (`Slu.Mem.memInitReuse`, dmemory.c:298-355): the storage of the
previous factorization is re-adopted.  `Idle` is the allocator between two factorizations in one caller workspace;
`top1` a multiple of 4 is part of it because the alignment fix-up of `dwork` takes up to 4 more bytes than the fullness
test looked at.  An idle workspace re-adopted with any new `lwork > 0` is `Ready` (Lemmas/MemInit), so `finish` gives
`Inv` again; nothing is moved or cleared (contents lemmas of Lemmas/MemStore, simulation of Lemmas/GrowList).
-/
namespace Slu.Mem

/-- the allocator between two factorizations in one caller workspace: what `LUWorkFree` leaves after any request
sequence (`idle_of_inv_workFree`), and what the re-adopting `LUMemInit` starts from -/
structure Idle (w : Words) (s : St) : Prop where
  inv : Inv w s
  /-- the work arrays at the tail have been given back (`LUWorkFree`) -/
  free : s.used = s.top1
  al4 : s.top1 % 4 = 0


theorem idle_of_inv_workFree (w : Words) (s : St) (hinv : Inv w s) (h4 : s.top1 % 4 = 0) : Idle w (workFree s) := by
  refine ⟨workFree_inv w s hinv, ?_, by rw [workFree_top1]; exact h4⟩
  have := hinv.used
  rw [workFree_user hinv.user]
  show s.used - (s.size - s.top2) = s.top1
  omega

theorem memInitReuse_eq (fail : Nat → Bool) (c : Cfg) (prev : St) :
    memInitReuse fail c prev =
      finish fail c (reuseSetup c prev).capS (reuseSetup c prev).capU (reuseSetup c prev).capL (reuseSetup c prev) := rfl

theorem reuseSetup_user (c : Cfg) (s : St) (hl : c.lwork ≠ 0) :
    reuseSetup c s = { s with n := c.n, nexp := 0, mallocs := s.mallocs + 1, user := true,
                              top2 := (c.lwork / 4) * 4, size := (c.lwork / 4) * 4, capB := s.capU } := by
  unfold reuseSetup; simp [hl]

theorem reuseSetup_ready (c : Cfg) (s : St) (hid : Idle c.w s) (hl : 0 < c.lwork) (hn : c.n = s.n) :
    Ready c.w (reuseSetup c s) := by
  have h := hid.inv
  rw [reuseSetup_user c s (by omega)]
  exact ⟨⟨rfl, rfl, rfl, hid.free, hid.al4, Int.mul_emod_left _ 4⟩, hn ▸ h.n0, hn ▸ h.hdr0,
    ⟨h.capL0, h.capU0, h.capS0, h.capU0, Int.le_refl _, h.c1, h.c2, h.c3, h.c4, h.c5⟩⟩

theorem memInitReuse_inv (fail : Nat → Bool) (c : Cfg) (hw : c.w.Ok) (s : St) (hid : Idle c.w s) (hl : 0 < c.lwork)
    (hn : c.n = s.n) (hn1 : 1 ≤ c.n) (hI : 0 ≤ isize c) (hD : 0 ≤ dsize c)
    (h : (memInitReuse fail c s).info = 0) : Inv c.w (memInitReuse fail c s).st := by
  rw [memInitReuse_eq] at h ⊢
  exact finish_inv fail c _ _ _ _ hw hn1 hI hD hid.inv.capS0 hid.inv.capU0 hid.inv.capL0
    (reuseSetup_ready c s hid hl hn) h

section
variable (fail : Nat → Bool) (c : Cfg) (s : St)

/-- offsets, the three lengths `nzlumax, nzumax, nzlmax`, the pointer arrays, the buffer and the head of the stack
are taken over as they are; USUB's recorded length becomes `nzumax` -/
theorem memInitReuse_touches : (memInitReuse fail c s).st =
    let r := (memInitReuse fail c s).st
    { s with n := c.n, user := decide (c.lwork ≠ 0), capB := s.capU, size := r.size, top2 := r.top2, used := r.used,
             iwork := r.iwork, iworkLen := r.iworkLen, dwork := r.dwork, dworkLen := r.dworkLen, nexp := r.nexp,
             mallocs := r.mallocs } := by
  rw [memInitReuse_eq, finish_touches]
  rfl

theorem memInitReuse_top1 : (memInitReuse fail c s).st.top1 = s.top1 := by
  rw [memInitReuse_touches]

theorem memInitReuse_n : (memInitReuse fail c s).st.n = c.n := by
  rw [memInitReuse_touches]

theorem memInitReuse_user :
    (memInitReuse fail c s).st.user = decide (c.lwork ≠ 0) := by
  rw [memInitReuse_touches]

theorem memInitReuse_off (t : MemType) :
    (memInitReuse fail c s).st.off t = s.off t := by
  rw [memInitReuse_touches]; cases t <;> rfl

theorem memInitReuse_cap_le (hBU : s.capB ≤ s.capU) (t : MemType) :
    s.cap t ≤ (memInitReuse fail c s).st.cap t := by
  rw [memInitReuse_touches]
  cases t
  exacts [Int.le_refl _, Int.le_refl _, Int.le_refl _, hBU]

end


/-- **the re-adopted arrays hold exactly the bytes the previous factorization left**.  `σ'`: the store may have changed
inside the tail `[top2, size)` of the workspace, where the two new work arrays are (`SetIWork` / `[sdcz]SetRWork` fill them
right after the init) -/
theorem memInitReuse_keeps_bytes {β : Type} (fail : Nat → Bool) (c : Cfg) (hw : c.w.Ok) (s : St) (hinv : Inv c.w s)
    (hinv' : Inv c.w (memInitReuse fail c s).st) (σ σ' : Store β)
    (hσ : ∀ a, a < (memInitReuse fail c s).st.top2 → σ' 0 a = σ 0 a)
    (t : MemType) (j : Int) (hj : j < s.cap t * c.w.lword t) :
    rbyte σ' (memInitReuse fail c s).st t j = rbyte σ s t j := by
  have ht12 := hinv'.t12
  rw [memInitReuse_top1] at ht12
  have := hinv.layout.placed.top hw t
  rw [rbyte_user _ hinv'.user, rbyte_user _ hinv.user, memInitReuse_off]
  exact hσ _ (by omega)

theorem memInitReuse_sim {β : Type} (fail : Nat → Bool) (c : Cfg) (hw : c.w.Ok) (s : St) (hinv : Inv c.w s)
    (hinv' : Inv c.w (memInitReuse fail c s).st) (a : Abs β) (σ σ' : Store β) (hs : Sim c.w a s σ)
    (hσ : ∀ ad, ad < (memInitReuse fail c s).st.top2 → σ' 0 ad = σ 0 ad) :
    Sim c.w a (memInitReuse fail c s).st σ' := by
  intro t j b hb
  obtain ⟨r1, r2, r3⟩ := hs t j b hb
  have := Int.mul_le_mul_of_nonneg_right (memInitReuse_cap_le fail c s hinv.capBU t) (hw.lword_pos t).le
  exact ⟨r1, by omega, (memInitReuse_keeps_bytes fail c hw s hinv hinv' σ σ' hσ t j r2).trans r3⟩


theorem memInitReuse_sysInv (fail : Nat → Bool) (c : Cfg) (hw : c.w.Ok) (s : St) (hs : SysInv s) (hl : c.lwork = 0)
    (hn1 : 1 ≤ c.n) (hI : 0 ≤ isize c) (hD : 0 ≤ dsize c) (hL0 : 0 ≤ s.capL) (hU0 : 0 ≤ s.capU) (hS0 : 0 ≤ s.capS)
    (h : (memInitReuse fail c s).info = 0) : SysInv (memInitReuse fail c s).st := by
  have hs0 : reuseSetup c s =
      { s with n := c.n, nexp := 0, mallocs := s.mallocs + 1, user := false, capB := s.capU } := by
    unfold reuseSetup; simp [hl]
  rw [memInitReuse_eq] at h ⊢
  rcases finish_cases fail c (reuseSetup c s).capS (reuseSetup c s).capU (reuseSetup c s).capL (reuseSetup c s)
    hw hn1 hI hD hS0 hU0 hL0 with h' | ⟨_, _, e⟩
  · omega
  · rw [e, hs0, if_neg (by simp)]
    have lL := hs.lL; have lU := hs.lU; have lS := hs.lS; have lB := hs.lB
    dsimp only
    refine ⟨rfl, ?_, ⟨lL.1, ?_⟩, ⟨lU.1, ?_⟩, ⟨lS.1, ?_⟩, ⟨lB.1, ?_⟩, hs.dLU, hs.dLS, hs.dLB, hs.dUS, hs.dUB, hs.dSB⟩
    all_goals (dsimp only; omega)

/-- the allocator between two factorizations, in whichever mode is in use (the four bounds on the lengths beside
`SysInv` are those of `GoodInv`) -/
def IdleGood (w : Words) (s : St) : Prop :=
  Idle w s ∨ (SysInv s ∧ 0 ≤ s.capB ∧ s.capB ≤ s.capU ∧ 0 ≤ s.capL ∧ 0 ≤ s.capS)

/-- what a legal refactorization call passes: the storage mode of the previous call (`lwork > 0` again, or
`lwork = 0` again), the same matrix order, work-array sizes that are not negative -/
structure ReuseCall (c : Cfg) (s : St) : Prop where
  mode : (s.user = true ∧ 0 < c.lwork) ∨ (s.user = false ∧ c.lwork = 0)
  n : c.n = s.n
  n1 : 1 ≤ c.n
  isz : 0 ≤ isize c
  dsz : 0 ≤ dsize c

theorem IdleGood.caps {w : Words} {s : St} (h : IdleGood w s) :
    0 ≤ s.capL ∧ 0 ≤ s.capU ∧ 0 ≤ s.capS ∧ 0 ≤ s.capB ∧ s.capB ≤ s.capU := by
  rcases h with h | ⟨_, h1, h2, h3, h4⟩
  · exact ⟨h.inv.capL0, h.inv.capU0, h.inv.capS0, h.inv.capB0, h.inv.capBU⟩
  · exact ⟨h3, h1.trans h2, h4, h1, h2⟩

theorem ReuseCall.lwork {c : Cfg} {s : St} (hc : ReuseCall c s) :
    (s.user = true → 0 < c.lwork) ∧ (s.user = false → c.lwork = 0) := by
  rcases hc.mode with ⟨h1, h2⟩ | ⟨h1, h2⟩
  · exact ⟨fun _ => h2, fun h => absurd (h1.symm.trans h) nofun⟩
  · exact ⟨fun h => absurd (h1.symm.trans h) nofun, fun _ => h2⟩

theorem memInitReuse_goodInv (fail : Nat → Bool) (c : Cfg) (hw : c.w.Ok) (s : St) (hg : IdleGood c.w s)
    (hc : ReuseCall c s) (h : (memInitReuse fail c s).info = 0) : GoodInv c.w (memInitReuse fail c s).st := by
  obtain ⟨hL, hU, hS, hB, hBU⟩ := hg.caps
  rcases hg with hid | ⟨hsys, _⟩
  · exact Or.inl (memInitReuse_inv fail c hw s hid (hc.lwork.1 hid.inv.user) hc.n hc.n1 hc.isz hc.dsz h)
  · refine Or.inr ⟨memInitReuse_sysInv fail c hw s hsys (hc.lwork.2 hsys.user) hc.n1 hc.isz hc.dsz hL hU hS h, ?_⟩
    rw [memInitReuse_touches]
    exact ⟨hU, Int.le_refl _, hL, hS⟩

/-- `hσ`: `σ'` may differ from `σ` anywhere except in the part of the caller's buffer below the new `top2` and in the
blocks the library had allocated before -/
theorem memInitReuse_sim_good {β : Type} (fail : Nat → Bool) (c : Cfg) (hw : c.w.Ok) (s : St) (hg : IdleGood c.w s)
    (hc : ReuseCall c s) (h : (memInitReuse fail c s).info = 0) (a : Abs β) (σ σ' : Store β) (hs : Sim c.w a s σ)
    (hσ : ∀ (b : Nat) (ad : Int), ((b = 0 ∧ ad < (memInitReuse fail c s).st.top2) ∨ (0 < b ∧ b ≤ s.mallocs)) → σ' b ad = σ b ad) :
    Sim c.w a (memInitReuse fail c s).st σ' := by
  obtain ⟨_, _, _, _, hBU⟩ := hg.caps
  rcases hg with hid | ⟨hsys, _⟩
  · exact memInitReuse_sim fail c hw s hid.inv
      (memInitReuse_inv fail c hw s hid (hc.lwork.1 hid.inv.user) hc.n hc.n1 hc.isz hc.dsz h) a σ σ' hs
      (fun ad had => hσ 0 ad (Or.inl ⟨rfl, had⟩))
  · have hu' : (memInitReuse fail c s).st.user = false := by
      rw [memInitReuse_user]; simp [hc.lwork.2 hsys.user]
    intro t j b hb
    obtain ⟨r1, r2, r3⟩ := hs t j b hb
    have := Int.mul_le_mul_of_nonneg_right (memInitReuse_cap_le fail c s hBU t) (hw.lword_pos t).le
    refine ⟨r1, by omega, ?_⟩
    have hr := hsys.range t
    rw [rbyte_sys _ hsys.user] at r3
    rw [rbyte_sys _ hu', memInitReuse_off, hσ _ _ (Or.inr (by omega))]
    exact r3

end Slu.Mem
