import Slu.Model.Mem
import SluProofs.Lemmas.Mem

namespace Slu.Mem

/-- **`user_bcopy` (memory.c:138-146) is a correct move upward** although source and destination overlap: the loop descends -/
theorem bcopyDesc_spec {β : Type} (src dst : Int) (hd : src ≤ dst) :
    ∀ (n : Nat) (m : Int → β) (a : Int),
      bcopyDesc src dst n m a = if dst ≤ a ∧ a < dst + (n : Int) then m (a - (dst - src)) else m a := by
  intro n
  induction n with
  | zero =>
    intro m a
    simp only [bcopyDesc]
    rw [if_neg (by omega)]
  | succ n ih =>
    intro m a
    simp only [bcopyDesc]
    rw [ih]
    simp only [Int.ofNat_eq_natCast]
    have hn : ((n + 1 : Nat) : Int) = (n : Int) + 1 := by omega
    by_cases h1 : dst ≤ a ∧ a < dst + (n : Int)
    · have h3 : dst ≤ a ∧ a < dst + ((n + 1 : Nat) : Int) := by omega
      have h4 : ¬ (a - (dst - src) = dst + (n : Int)) := by omega
      rw [if_pos h1, if_pos h3, if_neg h4]
    · rw [if_neg h1]
      by_cases h2 : a = dst + (n : Int)
      · have h3 : dst ≤ a ∧ a < dst + ((n + 1 : Nat) : Int) := by omega
        rw [if_pos h2, if_pos h3]
        congr 1; omega
      · have h3 : ¬ (dst ≤ a ∧ a < dst + ((n + 1 : Nat) : Int)) := by omega
        rw [if_neg h2, if_neg h3]


theorem rbyte_user {β : Type} (σ : Store β) {s : St} (hu : s.user = true) (t : MemType) (j : Int) :
    rbyte σ s t j = σ 0 (s.off t + j) := by
  simp only [rbyte, St.blk, St.boff, hu, if_true]

/-- under library allocation the block is the array's "offset" and the byte offset inside it is 0
(`St.boff`), hence the `0 + j` -/
theorem rbyte_sys {β : Type} (σ : Store β) {s : St} (hu : s.user = false) (t : MemType) (j : Int) :
    rbyte σ s t j = σ (s.off t).toNat (0 + j) := by
  simp only [rbyte, St.blk, St.boff, hu, Bool.false_eq_true, if_false]


theorem next_ctorIdx {t : MemType} (ht : t ≠ .USUB) : t.next.ctorIdx = t.ctorIdx + 1 := by
  cases t with
  | USUB => exact absurd rfl ht
  | _ => rfl

theorem moveStore_user {β : Type} (w : Words) {t : MemType} (ht : t ≠ .USUB) (len : Int) {s : St}
    (hu : s.user = true) (s' : St) (σ : Store β) (a : Int) :
    moveStore w t len s s' σ 0 a =
      bcopyDesc (s.off t.next) (s.off t.next + (s'.off t.next - s.off t.next)) (s.top1 - s.off t.next).toNat (σ 0) a := by
  unfold moveStore
  rw [if_pos hu]
  cases t with
  | USUB => exact absurd rfl ht
  | _ => rfl

theorem moveStore_usub {β : Type} (w : Words) (len : Int) {s : St} (hu : s.user = true) (s' : St) (σ : Store β) :
    moveStore w .USUB len s s' σ = σ := by
  unfold moveStore
  rw [if_pos hu]

/-- **workspace**: every byte of every array's old capacity is where the new offsets say: the arrays behind `t` were shifted
by the overlapping backward copy (`bcopyDesc_spec`), `t` and those before it did not move -/
theorem grown_preserves {β : Type} {w : Words} (hw : w.Ok) {b : Int} {s : St} (hu : s.user = true)
    (p : Placed w b s) (t : MemType) {nl : Int} (hge : s.cap t ≤ nl) (σ : Store β) (len : Int) (t' : MemType)
    (j : Int) (hj0 : 0 ≤ j) (hj : j < s.cap t' * w.lword t') :
    rbyte (moveStore w t len s (grown w t (s.nz t) nl s) σ) (grown w t (s.nz t) nl s) t' j = rbyte σ s t' j := by
  have hu' : (grown w t (s.nz t) nl s).user = true := (grown_user ..).trans hu
  rw [rbyte_user _ hu', rbyte_user _ hu, grown_off]
  by_cases ht : t = .USUB
  · subst ht
    rw [moveStore_usub w len hu, if_neg (by cases t' <;> decide)]
  · rw [moveStore_user w ht len hu, grown_off, if_pos (by rw [next_ctorIdx ht]; omega)]
    have hx : 0 ≤ (nl - s.nz t) * w.lword t :=
      Int.mul_nonneg (by rw [nz_eq_cap s ht]; omega) (hw.lword_pos t).le
    have htop := p.top hw t'
    rw [bcopyDesc_spec _ _ (by omega)]
    generalize (nl - s.nz t) * w.lword t = x at hx ⊢
    by_cases hlt : t.ctorIdx < t'.ctorIdx
    · have hsrc : s.off t.next ≤ s.off t' := p.mono hw (by rw [next_ctorIdx ht]; omega)
      rw [if_pos hlt, if_pos (by omega)]
      congr 1; omega
    · have hsrc : s.off t' + s.cap t' * w.lword t' ≤ s.off t.next := p.sep hw (by rw [next_ctorIdx ht]; omega)
      rw [if_neg hlt, if_neg (by omega)]


/-- invariant under library allocation: the four arrays live in four different blocks, all handed out
earlier -/
structure SysInv (s : St) : Prop where
  user : s.user = false
  nexp : 0 < s.nexp
  lL : 0 < s.offL ∧ s.offL ≤ (s.mallocs : Int)
  lU : 0 < s.offU ∧ s.offU ≤ (s.mallocs : Int)
  lS : 0 < s.offS ∧ s.offS ≤ (s.mallocs : Int)
  lB : 0 < s.offB ∧ s.offB ≤ (s.mallocs : Int)
  dLU : s.offL ≠ s.offU
  dLS : s.offL ≠ s.offS
  dLB : s.offL ≠ s.offB
  dUS : s.offU ≠ s.offS
  dUB : s.offU ≠ s.offB
  dSB : s.offS ≠ s.offB

theorem SysInv.nexp_ne {s : St} (h : SysInv s) : s.nexp ≠ 0 := ne_of_gt h.nexp

theorem SysInv.range {s : St} (h : SysInv s) : ∀ t, 0 < s.off t ∧ s.off t ≤ (s.mallocs : Int)
  | .LUSUP => h.lL | .UCOL => h.lU | .LSUB => h.lS | .USUB => h.lB

theorem SysInv.inj {s : St} (h : SysInv s) : ∀ {t t' : MemType}, s.off t = s.off t' → t = t'
  | .LUSUP, .LUSUP, _ => rfl
  | .LUSUP, .UCOL, e => absurd e h.dLU
  | .LUSUP, .LSUB, e => absurd e h.dLS
  | .LUSUP, .USUB, e => absurd e h.dLB
  | .UCOL, .LUSUP, e => absurd e.symm h.dLU
  | .UCOL, .UCOL, _ => rfl
  | .UCOL, .LSUB, e => absurd e h.dUS
  | .UCOL, .USUB, e => absurd e h.dUB
  | .LSUB, .LUSUP, e => absurd e.symm h.dLS
  | .LSUB, .UCOL, e => absurd e.symm h.dUS
  | .LSUB, .LSUB, _ => rfl
  | .LSUB, .USUB, e => absurd e h.dSB
  | .USUB, .LUSUP, e => absurd e.symm h.dLB
  | .USUB, .UCOL, e => absurd e.symm h.dUB
  | .USUB, .LSUB, e => absurd e.symm h.dSB
  | .USUB, .USUB, _ => rfl

theorem SysInv.of {s : St} (hu : s.user = false) (hn : 0 < s.nexp)
    (hr : ∀ t, 0 < s.off t ∧ s.off t ≤ (s.mallocs : Int)) (hi : ∀ t t', s.off t = s.off t' → t = t') : SysInv s :=
  ⟨hu, hn, hr .LUSUP, hr .UCOL, hr .LSUB, hr .USUB,
   (fun e => nomatch hi .LUSUP .UCOL e), (fun e => nomatch hi .LUSUP .LSUB e), (fun e => nomatch hi .LUSUP .USUB e),
   (fun e => nomatch hi .UCOL .LSUB e), (fun e => nomatch hi .UCOL .USUB e), (fun e => nomatch hi .LSUB .USUB e)⟩

theorem moved_sysInv {s : St} (hinv : SysInv s) (t : MemType) {c : Nat} (hc : s.mallocs < c) (nl : Int) :
    SysInv (moved t c nl s) := by
  have hc' : (s.mallocs : Int) < (c : Int) := by omega
  refine SysInv.of ((moved_user ..).trans hinv.user) ?_ (fun t' => ?_) (fun t₁ t₂ => ?_)
  · rw [moved_nexp]; have := hinv.nexp; omega
  · have := hinv.range t'
    rw [moved_off, moved_mallocs]; split <;> omega
  · have h₁ := hinv.range t₁
    have h₂ := hinv.range t₂
    rw [moved_off, moved_off]
    split <;> split
    · intro _; simp only [*]
    · intro e; omega
    · intro e; omega
    · exact hinv.inj

/-- **library allocation**: of the moved array only the first `len` (`len_to_copy`) elements are copied to the new block -/
theorem moved_preserves {β : Type} (w : Words) {s : St} (hinv : SysInv s) {t : MemType} {c : Nat}
    (hc : s.mallocs < c) (nl : Int) (σ : Store β) (len : Int) :
    (∀ j, 0 ≤ j → j < len * w.lword t →
      rbyte (moveStore w t len s (moved t c nl s) σ) (moved t c nl s) t j = rbyte σ s t j) ∧
    (∀ t', t' ≠ t → ∀ j,
      rbyte (moveStore w t len s (moved t c nl s) σ) (moved t c nl s) t' j = rbyte σ s t' j) := by
  have hu := hinv.user
  have hu' : (moved t c nl s).user = false := (moved_user ..).trans hu
  have hblk : (moved t c nl s).blk t = c := by
    simp only [St.blk, hu', Bool.false_eq_true, if_false, moved_off, if_true, Int.toNat_natCast]
  have hms : ∀ b a, moveStore w t len s (moved t c nl s) σ b a =
      if b = c ∧ 0 ≤ a ∧ a < len * w.lword t then σ (s.blk t) a else σ b a := by
    intro b a; unfold moveStore; rw [if_neg (by simp [hu]), hblk]
  refine ⟨fun j hj0 hj => ?_, fun t' ht' j => ?_⟩
  · rw [rbyte_sys _ hu', rbyte_sys _ hu, hms, moved_off, if_pos rfl, Int.toNat_natCast,
      if_pos ⟨rfl, by omega, by omega⟩]
    simp only [St.blk, hu, Bool.false_eq_true, if_false]
  · have := hinv.range t'
    rw [rbyte_sys _ hu', rbyte_sys _ hu, hms, moved_off, if_neg ht', if_neg (fun h => by omega)]

end Slu.Mem
