import Slu.Model.MyBlas2
import SluProofs.Lemmas.ArrayBasic
import SluProofs.Lemmas.SumBasic
import SluProofs.Lemmas.Trsv
import SluProofs.Lemmas.SnodeUpdate
/-
Exact-arithmetic specification of the mirrored dense kernels of `Slu/Model/MyBlas2.lean`
(`[sdcz]lsolve`, `usolve`, `matvec`, and the loops of `snode_bmod`), for every `ncol`, `nrow`, `ldm` and both
unrolling schemes (`cplx = false`: 8/4/2 resp. 8/4/1 columns; `cplx = true`: 4/2 resp. 4/1); then the
supernode loops of `sp_trsv` run through these kernels.  `snode_bmod` as a whole is the closing part of
`column_bmod` with `fpanelc = 0`: its specification `snodeBmod_spec'` stands with `colTail_spec'` in
Lemmas/ColBmod.lean.

A block of `w` columns of `lsolve` carries the sweep state `Slu.Kernels.Sweep` of Lemmas/Kernels (columns `< fc`
hold the solution, the rows below hold `rhs - Σ_{j<fc} B(i,j) z_j`) from `range fc` to `range (fc + w)`, for EVERY
width `w` (`lsolveBlock_inv`); the `while` loops and the final `if` only choose widths, so the
invariant reaches a column `fc` with `ncol ≤ fc + 1`, where it says that the whole vector is the
solution.  `matvec` likewise with the invariant "`y = y0 + Σ_{j<fc} M(k,j) v_j`".
A primed name (`usolve_spec'`, and `snodeBmod_spec'`, `colTail_spec'`, `seg*_spec'` in Lemmas/ColBmod.lean) states its
result for ANY solution `z` of the triangular recurrence, here `z i = rhs_i − Σ_{j<i} z_j · B(i,j)`, as the unprimed
`lsolveG_spec` does; the unprimed theorem of Props/C01.lean, where there is one, is the instance at the dense reference
(`fwdSub` through `fwdSub_unit_rec`, `bwdSub`).  `matvec_spec'` has no `z`: Props/C01.lean states it again as `matvec_spec`.
-/
namespace Slu.MyBlas2
open Finset Slu.Kernels

section generic

/-- the same table built without `Array.push`: `decide +kernel` on a table given as `(Array.range n).map f`
pays for `n` pushes, each of which copies the list -/
theorem map_range_eq_list {α : Type} (n : Nat) (f : Nat → α) :
    (Array.range n).map f = ((List.range n).map f).toArray := by
  apply Array.ext'; simp

variable {K : Type} [Inhabited K]

/-- a loop over a pair of arrays whose step `t` uses `b[pb t]` and then clears that cell: with distinct `pb t` every
step reads the ORIGINAL `b`, so the loop is one loop over `a` and one that clears `b` -/
theorem foldl_read_then_clear [Zero K] (n : Nat) (pb : Nat → Nat) (G : Nat → Array K → K → Array K) (a b : Array K)
    (hinj : ∀ t u, t < n → u < n → pb t = pb u → t = u) :
    (List.range n).foldl (fun (p : Array K × Array K) t => (G t p.1 p.2[pb t]!, p.2.setIfInBounds (pb t) 0)) (a, b) =
      ((List.range n).foldl (fun a t => G t a b[pb t]!) a,
       (List.range n).foldl (fun (b : Array K) t => b.setIfInBounds (pb t) 0) b) := by
  induction n with
  | zero => rfl
  | succ n ih =>
    have hinj' : ∀ t u, t < n → u < n → pb t = pb u → t = u := fun t u ht hu => hinj t u (by omega) (by omega)
    simp only [List.range_succ, List.foldl_append, List.foldl_cons, List.foldl_nil, ih hinj']
    rw [(foldl_upd_spec n pb (fun _ _ => (0 : K)) b hinj').2.2 _
      (fun t ht he => by have := hinj t n (by omega) (by omega) he; omega)]

theorem getElem!_extract_tail (a : Array K) (s k : Nat) (h : s + k < a.size) : (a.extract s a.size)[k]! = a[s + k]! := by
  simp only [Array.getElem!_eq_getD, Array.getD_eq_getD_getElem?, Array.getElem?_extract]
  rw [if_pos (by omega)]

theorem eq_of_block (a b rhs : Array K) (ro ncol : Nat) (z : Nat → K)
    (ha : a.size = rhs.size ∧ (∀ i, i < ncol → a[ro + i]! = z i) ∧ (∀ p, (p < ro ∨ ro + ncol ≤ p) → a[p]! = rhs[p]!))
    (hb : b.size = rhs.size ∧ (∀ i, i < ncol → b[ro + i]! = z i) ∧ (∀ p, (p < ro ∨ ro + ncol ≤ p) → b[p]! = rhs[p]!)) :
    a = b := by
  refine ext_getElem! _ _ (ha.1.trans hb.1.symm) (fun p _ => ?_)
  by_cases hin : ro ≤ p ∧ p < ro + ncol
  · obtain ⟨k, rfl⟩ : ∃ k, p = ro + k := ⟨p - ro, by omega⟩
    rw [ha.2.1 _ (by omega), hb.2.1 _ (by omega)]
  · rw [ha.2.2 p (by omega), hb.2.2 p (by omega)]

/-- `while (fc + (w-1) < ncol) { block; fc += w }` with fuel: an invariant `P fc a` that every block carries
from `fc` to `fc + w` holds at the exit, where fewer than `w` columns are left.  The loop comes in as a function with
its two equations (`h0`, `hs`) because the model has it twice, `lsolveWhile` and `matvecWhile`, the same recursion
around different blocks. -/
theorem while_inv {α : Type} (w ncol : Nat) (blk : α → Nat → α) (loop : Nat → α × Nat → α × Nat)
    (h0 : ∀ st, loop 0 st = st)
    (hs : ∀ fuel st, loop (fuel + 1) st = if st.2 + (w - 1) < ncol then loop fuel (blk st.1 st.2, st.2 + w) else st)
    (P : Nat → α → Prop) (hP : ∀ fc a, P fc a → fc + w ≤ ncol → P (fc + w) (blk a fc)) (hw : 1 ≤ w) :
    ∀ (fuel : Nat) (st : α × Nat), P st.2 st.1 → st.2 ≤ ncol → ncol ≤ fuel + st.2 →
      P (loop fuel st).2 (loop fuel st).1 ∧ (loop fuel st).2 ≤ ncol ∧ ncol ≤ (loop fuel st).2 + (w - 1) := by
  intro fuel st inv h1 h2
  obtain ⟨⟨i1, i2⟩, i3⟩ := fuel_while loop (fun st => st.2 + (w - 1) < ncol) (fun st => (blk st.1 st.2, st.2 + w)) h0 hs
    (fun st => P st.2 st.1 ∧ st.2 ≤ ncol) (fun st => ncol - st.2)
    (fun st hi hc => ⟨⟨hP _ _ hi.1 (by omega), by simp only; omega⟩, by simp only; omega⟩) fuel st ⟨inv, h1⟩
  exact ⟨i1, i2, by have := i3 (by omega); omega⟩

/-- the schedule of `lsolve` and `matvec`: "Do 8 columns" (real files only), then "Do 4 columns" -/
theorem unrolled_inv {α : Type} (ncol : Nat) (blk : Nat → α → Nat → α) (loop : Nat → Nat → α × Nat → α × Nat)
    (h0 : ∀ w st, loop w 0 st = st)
    (hs : ∀ w fuel st, loop w (fuel + 1) st = if st.2 + (w - 1) < ncol then loop w fuel (blk w st.1 st.2, st.2 + w) else st)
    (P : Nat → α → Prop) (hP : ∀ w, 1 ≤ w → ∀ fc a, P fc a → fc + w ≤ ncol → P (fc + w) (blk w a fc))
    (cplx : Bool) (a : α) (ha : P 0 a) (s2 : α × Nat)
    (h2 : loop 4 ncol (if cplx = true then (a, 0) else loop 8 ncol (a, 0)) = s2) :
    P s2.2 s2.1 ∧ s2.2 ≤ ncol ∧ ncol ≤ s2.2 + 3 := by
  have whl := fun w (hw : 1 ≤ w) (st : α × Nat) (inv : P st.2 st.1) (h : st.2 ≤ ncol) =>
    while_inv w ncol (blk w) (loop w) (h0 w) (hs w) P (hP w hw) hw ncol st inv h (by omega)
  obtain ⟨s1, hs1, i1, b1⟩ : ∃ s1, (if cplx = true then (a, 0) else loop 8 ncol (a, 0)) = s1 ∧ P s1.2 s1.1 ∧ s1.2 ≤ ncol := by
    cases cplx with
    | true => exact ⟨_, rfl, ha, Nat.zero_le _⟩
    | false => exact ⟨_, rfl, (whl 8 (by omega) (a, 0) ha (Nat.zero_le _)).1, (whl 8 (by omega) (a, 0) ha (Nat.zero_le _)).2.1⟩
  rw [← h2, hs1]
  exact whl 4 (by omega) s1 i1 b1

end generic

/-- the unit-diagonal forward substitution, in the shape the specifications below take their solution `z` -/
theorem fwdSub_unit_rec {K : Type} [Field K] (B : Nat → Nat → K) (b : Nat → K) (n i : Nat) (hi : i < n) :
    (fwdSub B (fun _ => 1) b n).getD i 0 = b i - ∑ j ∈ range i, (fwdSub B (fun _ => 1) b n).getD j 0 * B i j := by
  rw [fwd_rec _ _ _ n i hi, div_one]
  exact congrArg _ (Finset.sum_congr rfl fun j _ => mul_comm _ _)

section lsolve
variable {K : Type} [Field K] [Inhabited K]

def Frame (rhs : Array K) (ro ncol : Nat) (s : Array K) : Prop :=
  s.size = rhs.size ∧ ∀ p, (p < ro ∨ ro + ncol ≤ p) → s[p]! = rhs[p]!

theorem frame_cases {ro ncol p : Nat} (h : ∀ i, i < ncol → ro + i ≠ p) : p < ro ∨ ro + ncol ≤ p := by
  by_contra hc
  exact h (p - ro) (by omega) (by omega)

variable {B : Nat → Nat → K} {z : Nat → K} {rhs s : Array K} {ro ncol fc : Nat}

theorem _root_.Slu.Kernels.Sweep.toFrame {S : Finset Nat} (h : Sweep (ro + ·) B z ncol rhs S s) : Frame rhs ro ncol s :=
  ⟨h.size, fun p hp => h.frame p fun i hi hc => by omega⟩

/-- an open row, with the product in the order of the code (`x_j * M(i,j)`) -/
theorem _root_.Slu.Kernels.Sweep.open_row (h : Sweep (ro + ·) B z ncol rhs (range fc) s) (i : Nat) (hi : fc ≤ i) (hin : i < ncol) :
    s[ro + i]! = rhs[ro + i]! - ∑ j ∈ range fc, z j * B i j :=
  (h.todo i (fun hc => absurd (mem_range.mp hc) (Nat.not_lt.mpr hi)) hin).trans
    (congrArg _ (Finset.sum_congr rfl fun _ _ => mul_comm _ _))

theorem lsolveXs_succ (w ldm : Nat) (rd : Array K → Nat → K) (a : Array K) (ro fc : Nat) :
    lsolveXs (w + 1) ldm rd a ro fc = (lsolveXs w ldm rd a ro fc).push
      ((List.range w).foldl (fun (acc : K) t => acc - (lsolveXs w ldm rd a ro fc)[t]! * rd a ((fc + t) * ldm + (fc + w)))
        a[ro + fc + w]!) :=
  foldl_range_succ _ _ w

theorem lsolveXs_spec (w ldm : Nat) (rd : Array K → Nat → K) (s : Array K) (ro fc : Nat) (B : Nat → Nat → K) (z : Nat → K)
    (hrd : ∀ t u, t < u → u < w → rd s ((fc + t) * ldm + (fc + u)) = B (fc + u) (fc + t))
    (hz : ∀ u, u < w → z (fc + u) = s[ro + fc + u]! - ∑ t ∈ range u, z (fc + t) * B (fc + u) (fc + t)) :
    (lsolveXs w ldm rd s ro fc).size = w ∧ ∀ u, u < w → (lsolveXs w ldm rd s ro fc)[u]! = z (fc + u) := by
  induction w with
  | zero => exact ⟨rfl, fun u hu => absurd hu (by omega)⟩
  | succ w ih =>
    obtain ⟨h1, h2⟩ := ih (fun t u htu hu => hrd t u htu (by omega)) (fun u hu => hz u (by omega))
    rw [lsolveXs_succ]
    refine ⟨by rw [Array.size_push, h1], fun u hu => ?_⟩
    by_cases huw : u < w
    · rw [getElem!_push_lt _ _ (by omega)]; exact h2 u huw
    · obtain rfl : u = w := by omega
      have := getElem!_push_size (lsolveXs u ldm rd s ro fc)
      rw [h1] at this
      rw [this, foldl_sub_range, hz u (by omega)]
      exact congrArg _ (Finset.sum_congr rfl fun t ht => by rw [h2 t (mem_range.mp ht), hrd t u (mem_range.mp ht) (by omega)])

theorem lsolveBlock_inv (w ldm ncol : Nat) (rd : Array K → Nat → K) (ro fc : Nat) (rhs : Array K)
    (B : Nat → Nat → K) (z : Nat → K) (hb : ro + ncol ≤ rhs.size)
    (hrd : ∀ s, Frame rhs ro ncol s → ∀ i j, j < i → i < ncol → rd s (j * ldm + i) = B i j)
    (hz : ∀ i, i < ncol → z i = rhs[ro + i]! - ∑ j ∈ range i, z j * B i j)
    (s : Array K) (inv : Sweep (ro + ·) B z ncol rhs (range fc) s) (hw : fc + w ≤ ncol) :
    Sweep (ro + ·) B z ncol rhs (range (fc + w)) (lsolveBlock w ldm ncol rd s ro fc) := by
  have hF := inv.toFrame
  have hhi := inv.open_row
  have hzblk : ∀ u, u < w → z (fc + u) = s[ro + fc + u]! - ∑ t ∈ range u, z (fc + t) * B (fc + u) (fc + t) := by
    intro u hu
    rw [hz _ (by omega), Nat.add_assoc ro fc u, hhi (fc + u) (by omega) (by omega), Finset.sum_range_add, sub_sub]
  obtain ⟨-, x2⟩ := lsolveXs_spec w ldm rd s ro fc B z
    (fun t u htu hu => hrd s hF (fc + u) (fc + t) (by omega) (by omega)) hzblk
  unfold lsolveBlock
  dsimp only
  generalize lsolveXs w ldm rd s ro fc = xs at x2
  obtain ⟨a1s, a1g, a1f⟩ := foldl_upd_spec (w - 1) (fun s => ro + fc + s + 1) (fun s _ => xs[s + 1]!) s
    (fun _ _ _ _ h => by omega)
  generalize (List.range (w - 1)).foldl (fun (a : Array K) s => a.setIfInBounds (ro + fc + s + 1) xs[s + 1]!) s = a1
    at a1s a1g a1f
  have hF1 : Frame rhs ro ncol a1 :=
    ⟨a1s.trans hF.1, fun p hp => (a1f p (fun t ht => by omega)).trans (hF.2 p hp)⟩
  -- the update loop: row `fc + w + d` loses the block's contribution in round `d`; a state met on the way differs from
  -- `a1` inside the right-hand side only, so `rd` reads the matrix from it
  obtain ⟨r1, r2, r3⟩ := foldl_store_spec (ncol - (fc + w)) (fun d => ro + (fc + w + d))
    (fun d (a : Array K) =>
      (List.range w).foldl (fun (acc : K) t => acc - xs[t]! * rd a ((fc + t) * ldm + (fc + w + d))) a[ro + (fc + w + d)]!)
    (fun d => a1[ro + (fc + w + d)]! - ∑ t ∈ range w, B (fc + w + d) (fc + t) * z (fc + t)) a1
    (fun _ _ _ _ h => by omega)
    (fun d hd x' hs _ hfr => by
      have hF' : Frame rhs ro ncol x' :=
        ⟨hs.trans hF1.1, fun p hp => (hfr p (fun i _ => by omega)).trans (hF1.2 p hp)⟩
      rw [foldl_sub_range, hfr _ (fun i hi => by omega)]
      exact congrArg _ (Finset.sum_congr rfl fun t ht => by
        rw [x2 t (mem_range.mp ht), hrd x' hF' (fc + w + d) (fc + t) (by have := mem_range.mp ht; omega) (by omega), mul_comm]))
  refine ⟨r1.trans hF1.1, fun i hi => ?_, fun i hi hin => ?_,
    fun p hp => (r3 p fun d hd => by have := hp (fc + w + d) (by omega); omega).trans (hF1.2 p (frame_cases hp))⟩
  · have hi' := mem_range.mp hi
    rw [r3 _ (fun d _ => by omega)]
    by_cases hc : fc + 1 ≤ i
    · obtain ⟨k, rfl⟩ : ∃ k, i = fc + k + 1 := ⟨i - fc - 1, by omega⟩
      rw [← Nat.add_assoc, ← Nat.add_assoc, a1g k (by omega) (by rw [hF.1]; omega), x2 _ (by omega), Nat.add_assoc]
    · rw [a1f _ (fun t ht => by omega)]
      by_cases hfc : i < fc
      · exact inv.done i (mem_range.mpr hfc)
      · obtain rfl : i = fc := by omega
        rw [hhi i (le_refl _) (by omega), ← hz i (by omega)]
  · obtain ⟨d, rfl⟩ : ∃ d, i = fc + w + d := ⟨i - (fc + w), by have := mt mem_range.mpr hi; omega⟩
    rw [r2 d (by omega) (by rw [hF1.1]; omega), a1f _ (fun t ht => by omega),
      inv.todo _ (fun h => by have := mem_range.mp h; omega) hin, Finset.sum_range_add, sub_sub]

theorem lsolveG_spec (cplx : Bool) (ldm ncol : Nat) (rd : Array K → Nat → K) (ro : Nat) (rhs : Array K)
    (B : Nat → Nat → K) (z : Nat → K) (hb : ro + ncol ≤ rhs.size)
    (hrd : ∀ s, Frame rhs ro ncol s → ∀ i j, j < i → i < ncol → rd s (j * ldm + i) = B i j)
    (hz : ∀ i, i < ncol → z i = rhs[ro + i]! - ∑ j ∈ range i, z j * B i j) :
    (lsolveG cplx ldm ncol rd rhs ro).size = rhs.size ∧
    (∀ i, i < ncol → (lsolveG cplx ldm ncol rd rhs ro)[ro + i]! = z i) ∧
    (∀ p, (p < ro ∨ ro + ncol ≤ p) → (lsolveG cplx ldm ncol rd rhs ro)[p]! = rhs[p]!) := by
  have blk : ∀ w, 1 ≤ w → ∀ fc s, Sweep (ro + ·) B z ncol rhs (range fc) s → fc + w ≤ ncol →
      Sweep (ro + ·) B z ncol rhs (range (fc + w)) (lsolveBlock w ldm ncol rd s ro fc) :=
    fun w _ fc s inv h => lsolveBlock_inv w ldm ncol rd ro fc rhs B z hb hrd hz s inv h
  -- with at most one column left the invariant says that the vector is the solution
  have fin : ∀ (fc : Nat) (s : Array K), Sweep (ro + ·) B z ncol rhs (range fc) s → fc ≤ ncol → ncol ≤ fc + 1 →
      s.size = rhs.size ∧ (∀ i, i < ncol → s[ro + i]! = z i) ∧ (∀ p, (p < ro ∨ ro + ncol ≤ p) → s[p]! = rhs[p]!) := by
    intro fc s inv h1 h2
    refine ⟨inv.size, fun i hi => ?_, inv.toFrame.2⟩
    by_cases hfc : i < fc
    · exact inv.done i (mem_range.mpr hfc)
    · obtain rfl : i = fc := by omega
      rw [inv.open_row i (le_refl _) hi, ← hz i hi]
  unfold lsolveG
  dsimp only
  generalize h2 : lsolveWhile 4 ldm ncol rd ro ncol _ = s2
  obtain ⟨i2, b2, c2⟩ := unrolled_inv ncol (fun w a fc => lsolveBlock w ldm ncol rd a ro fc) (fun w => lsolveWhile w ldm ncol rd ro)
    (fun _ _ => rfl) (fun _ _ _ => rfl) (fun fc s => Sweep (ro + ·) B z ncol rhs (range fc) s) blk cplx rhs
    (Finset.range_zero ▸ Sweep.init _ B z ncol rhs) s2 h2
  by_cases hc : s2.2 + 1 < ncol
  · rw [if_pos hc]
    exact fin (s2.2 + 2) _ (blk 2 (by omega) s2.2 s2.1 i2 (by omega)) (by omega) (by omega)
  · rw [if_neg hc]
    exact fin s2.2 _ i2 b2 (by omega)

end lsolve

section matvec
variable {K : Type} [Field K] [Inhabited K]

/-- both shapes of the unrolled statement are `yk + Σ_t m_t v_t` in exact arithmetic -/
theorem matvecCell_eq (cplx : Bool) (w ldm : Nat) (M : Array K) (mo : Nat) (vec : Array K) (vo fc k : Nat) (yk : K)
    (hw : 1 ≤ w) :
    matvecCell cplx w ldm M mo vec vo fc k yk =
      yk + ∑ t ∈ range w, M[mo + ((fc + t) * ldm + k)]! * vec[vo + (fc + t)]! := by
  rw [Finset.sum_congr rfl (fun t _ => mul_comm _ _)]
  unfold matvecCell
  cases cplx with
  | true => rw [if_pos rfl, foldl_add_range]
  | false =>
    rw [if_neg (by simp), foldl_add_range]
    obtain ⟨w', rfl⟩ : ∃ w', w = w' + 1 := ⟨w - 1, by omega⟩
    rw [Finset.sum_range_succ' _ w']
    simp only [Nat.add_sub_cancel, Nat.add_zero]
    ring

def MInv (M : Array K) (mo ldm : Nat) (vec : Array K) (vo nrow : Nat) (y0 : Array K) (fc : Nat) (y : Array K) : Prop :=
  y.size = y0.size ∧ (∀ k, k < nrow → y[k]! = y0[k]! + ∑ j ∈ range fc, M[mo + (j * ldm + k)]! * vec[vo + j]!) ∧
  (∀ p, nrow ≤ p → y[p]! = y0[p]!)

theorem matvecBlock_inv (cplx : Bool) (w ldm nrow : Nat) (M : Array K) (mo : Nat) (vec : Array K) (vo fc : Nat)
    (y0 y : Array K) (hb : nrow ≤ y0.size) (hw : 1 ≤ w) (inv : MInv M mo ldm vec vo nrow y0 fc y) :
    MInv M mo ldm vec vo nrow y0 (fc + w) (matvecBlock cplx w ldm nrow M mo vec vo fc y) := by
  obtain ⟨h1, h2, h3⟩ := inv
  obtain ⟨g1, g2, g3⟩ := foldl_upd_spec nrow (fun k => k) (fun k yk => matvecCell cplx w ldm M mo vec vo fc k yk) y
    (fun _ _ _ _ h => h)
  refine ⟨g1.trans h1, fun k hk => ?_, fun p hp => ?_⟩
  · exact (g2 k hk (by omega)).trans (by
      rw [matvecCell_eq cplx w ldm M mo vec vo fc k _ hw, h2 k hk, Finset.sum_range_add, add_assoc])
  · exact (g3 p (fun t ht => by omega)).trans (h3 p hp)

theorem matvec_spec' (cplx : Bool) (ldm nrow ncol : Nat) (M : Array K) (mo : Nat) (vec : Array K) (vo : Nat) (y : Array K)
    (hb : nrow ≤ y.size) :
    (matvec cplx ldm nrow ncol M mo vec vo y).size = y.size ∧
    (∀ k, k < nrow → (matvec cplx ldm nrow ncol M mo vec vo y)[k]! =
      y[k]! + ∑ j ∈ range ncol, M[mo + (j * ldm + k)]! * vec[vo + j]!) ∧
    (∀ p, nrow ≤ p → (matvec cplx ldm nrow ncol M mo vec vo y)[p]! = y[p]!) := by
  have blk : ∀ w, 1 ≤ w → ∀ fc a, MInv M mo ldm vec vo nrow y fc a → fc + w ≤ ncol →
      MInv M mo ldm vec vo nrow y (fc + w) (matvecBlock cplx w ldm nrow M mo vec vo fc a) :=
    fun w hw fc a inv _ => matvecBlock_inv cplx w ldm nrow M mo vec vo fc y a hb hw inv
  unfold matvec
  dsimp only
  generalize h2 : matvecWhile cplx 4 ldm nrow ncol M mo vec vo ncol _ = s2
  obtain ⟨i2, b2, -⟩ := unrolled_inv ncol (fun w a fc => matvecBlock cplx w ldm nrow M mo vec vo fc a)
    (fun w => matvecWhile cplx w ldm nrow ncol M mo vec vo) (fun _ _ => rfl) (fun _ _ _ => rfl)
    (MInv M mo ldm vec vo nrow y) blk cplx y ⟨rfl, fun k _ => by rw [Finset.sum_range_zero, add_zero], fun _ _ => rfl⟩ s2 h2
  obtain ⟨i3, b3, c3⟩ := while_inv 1 ncol (fun a fc => matvecBlock cplx 1 ldm nrow M mo vec vo fc a)
    (matvecWhile cplx 1 ldm nrow ncol M mo vec vo) (fun _ => rfl) (fun _ _ => rfl) (MInv M mo ldm vec vo nrow y)
    (blk 1 (le_refl _)) (le_refl _) ncol s2 i2 b2 (by omega)
  generalize matvecWhile cplx 1 ldm nrow ncol M mo vec vo ncol s2 = s3 at i3 b3 c3
  obtain rfl : s3.2 = ncol := by omega
  exact i3

end matvec

section usolve
variable {K : Type} [Field K] [Inhabited K] [Conj K]

omit [Conj K] in
theorem usolve_eq_usolveTo (ldm ncol : Nat) (M : Array K) (mo : Nat) (rhs : Array K) (ro : Nat) :
    usolve ldm ncol M mo rhs ro =
      usolveTo (fun ir jc => M[mo + (ir + jc * ldm)]!) (fun jc v => v / M[mo + (jc + jc * ldm)]!) ro ncol rhs ncol := rfl

theorem usolve_spec' (ldm ncol : Nat) (M : Array K) (mo : Nat) (rhs : Array K) (ro : Nat) (hb : ro + ncol ≤ rhs.size)
    (z : Nat → K)
    (hz : ∀ i, i < ncol → z i = (rhs[ro + i]! - ∑ j ∈ Ico (i + 1) ncol, M[mo + (i + j * ldm)]! * z j) / M[mo + (i + i * ldm)]!) :
    (usolve ldm ncol M mo rhs ro).size = rhs.size ∧
    (∀ i, i < ncol → (usolve ldm ncol M mo rhs ro)[ro + i]! = z i) ∧
    (∀ p, (p < ro ∨ ro + ncol ≤ p) → (usolve ldm ncol M mo rhs ro)[p]! = rhs[p]!) := by
  rw [usolve_eq_usolveTo]
  obtain ⟨h1, h2, h3⟩ := usolveTo_spec (fun ir jc => M[mo + (ir + jc * ldm)]!) (fun jc v => v / M[mo + (jc + jc * ldm)]!)
    ro ncol rhs hb z
    (fun i hi => (hz i hi).trans (congrArg (· / _) (congrArg _ (Finset.sum_congr rfl fun _ _ => mul_comm _ _)))) ncol (le_refl _)
  refine ⟨h1, fun i hi => ?_, h3⟩
  rw [h2 i hi, if_pos (by omega)]

end usolve

section snode
variable {K : Type} [Field K] [Inhabited K]

/-- a row of `dense` is cleared only after it has been copied: every store into `lusup` reads the ORIGINAL `dense` -/
theorem snodeScatter_eq (lsub : Array Nat) (istart n nextlu : Nat) (lusup dense : Array K)
    (hinj : ∀ t u, t < n → u < n → lsub[istart + t]! = lsub[istart + u]! → t = u) :
    snodeScatter lsub istart n nextlu lusup dense =
      ((List.range n).foldl (fun (a : Array K) t => a.setIfInBounds (nextlu + t) dense[lsub[istart + t]!]!) lusup,
       (List.range n).foldl (fun (d : Array K) t => d.setIfInBounds lsub[istart + t]! 0) dense) :=
  foldl_read_then_clear n (fun t => lsub[istart + t]!) (fun t a v => a.setIfInBounds (nextlu + t) v) lusup dense hinj

/-- dsnode_bmod.c:79-84 (the copy loop) -/
theorem snodeScatter_spec (lsub : Array Nat) (istart nsupr nextlu : Nat) (lusup dense : Array K)
    (hinj : ∀ t u, t < nsupr → u < nsupr → lsub[istart + t]! = lsub[istart + u]! → t = u)
    (hrow : ∀ t, t < nsupr → lsub[istart + t]! < dense.size) (hcol : nextlu + nsupr ≤ lusup.size) :
    (snodeScatter lsub istart nsupr nextlu lusup dense).1.size = lusup.size ∧
    (snodeScatter lsub istart nsupr nextlu lusup dense).2.size = dense.size ∧
    (∀ i, i < nsupr → (snodeScatter lsub istart nsupr nextlu lusup dense).1[nextlu + i]! = dense[lsub[istart + i]!]!) ∧
    (∀ p, (p < nextlu ∨ nextlu + nsupr ≤ p) → (snodeScatter lsub istart nsupr nextlu lusup dense).1[p]! = lusup[p]!) ∧
    (∀ t, t < nsupr → (snodeScatter lsub istart nsupr nextlu lusup dense).2[lsub[istart + t]!]! = 0) ∧
    (∀ r, (∀ t, t < nsupr → lsub[istart + t]! ≠ r) → (snodeScatter lsub istart nsupr nextlu lusup dense).2[r]! = dense[r]!) := by
  rw [snodeScatter_eq lsub istart nsupr nextlu lusup dense hinj]
  dsimp only
  obtain ⟨a1, a2⟩ := storeRange_spec nsupr nextlu (fun t => dense[lsub[istart + t]!]!) lusup
  obtain ⟨d1, d2, d3⟩ := foldl_upd_spec nsupr (fun t => lsub[istart + t]!) (fun _ _ => (0 : K)) dense hinj
  exact ⟨a1, d1, fun i hi => by rw [a2, if_pos ⟨by omega, by omega, by omega⟩, Nat.add_sub_cancel_left],
    fun p hp => by rw [a2, if_neg (by omega)], fun t ht => d2 t ht (hrow t ht), d3⟩

theorem snodeUnload_eq (iptr n : Nat) (lusup tempv : Array K) :
    snodeUnload iptr n lusup tempv =
      ((List.range n).foldl (fun (a : Array K) i => a.setIfInBounds (iptr + i) (a[iptr + i]! - tempv[i]!)) lusup,
       (List.range n).foldl (fun (t : Array K) i => t.setIfInBounds i 0) tempv) :=
  foldl_read_then_clear n (fun i => i) (fun i a v => a.setIfInBounds (iptr + i) (a[iptr + i]! - v)) lusup tempv
    (fun _ _ _ _ h => h)

/-- dsnode_bmod.c:118-123 (`lusup[iptr++] -= tempv[i]; tempv[i] = 0`) -/
theorem snodeUnload_spec (iptr : Nat) (lusup tempv : Array K) (n : Nat) :
    (snodeUnload iptr n lusup tempv).1.size = lusup.size ∧ (snodeUnload iptr n lusup tempv).2.size = tempv.size ∧
    (∀ k, k < n → iptr + k < lusup.size → (snodeUnload iptr n lusup tempv).1[iptr + k]! = lusup[iptr + k]! - tempv[k]!) ∧
    (∀ p, (p < iptr ∨ iptr + n ≤ p) → (snodeUnload iptr n lusup tempv).1[p]! = lusup[p]!) ∧
    (∀ i, i < n → i < tempv.size → (snodeUnload iptr n lusup tempv).2[i]! = 0) ∧
    (∀ i, n ≤ i → (snodeUnload iptr n lusup tempv).2[i]! = tempv[i]!) := by
  rw [snodeUnload_eq]
  dsimp only
  obtain ⟨a1, a2, a3⟩ := foldl_upd_spec n (fun i => iptr + i) (fun i x => x - tempv[i]!) lusup (fun _ _ _ _ h => by omega)
  obtain ⟨t1, t2, t3⟩ := foldl_upd_spec n (fun i => i) (fun _ _ => (0 : K)) tempv (fun _ _ _ _ h => h)
  exact ⟨a1, t1, a2, fun p hp => a3 p (fun t ht => by omega), t2, fun i hi => t3 i (fun t ht => by omega)⟩

/-- the numeric part of `snode_bmod` (dsnode_bmod.c:113-123) and of the tail of `column_bmod`
(dcolumn_bmod.c:334-345) on the column stored at `ufirst`: `lsolve` with the `nsupc` columns stored at `luptr`,
`matvec` with the `nrow` rows below them, `lusup[..] -= tempv[i]` -/
def colUpdate (cplx : Bool) (nsupr nsupc nrow luptr ufirst : Nat) (lusup tempv : Array K) : Array K × Array K :=
  let lusup1 := lsolveA cplx nsupr nsupc lusup luptr ufirst
  snodeUnload (ufirst + nsupc) nrow lusup1 (matvec cplx nsupr nrow nsupc lusup1 (luptr + nsupc) lusup1 ufirst tempv)

/-- `hblk`: the block that is read lies before the column that is written; `tempv` comes in zero and goes out
as it came -/
theorem colUpdate_spec (cplx : Bool) (nsupr nsupc nrow luptr ufirst : Nat) (a tempv : Array K) (z : Nat → K)
    (hcol : ufirst + nsupc + nrow ≤ a.size)
    (hblk : ∀ j i, j < nsupc → i < nsupc + nrow → luptr + (j * nsupr + i) < ufirst)
    (htv : nrow ≤ tempv.size) (htz : ∀ i, i < nrow → tempv[i]! = 0)
    (hz : ∀ i, i < nsupc → z i = a[ufirst + i]! - ∑ j ∈ range i, z j * a[luptr + (j * nsupr + i)]!) :
    (colUpdate cplx nsupr nsupc nrow luptr ufirst a tempv).1.size = a.size ∧
    (∀ t, t < nsupc → (colUpdate cplx nsupr nsupc nrow luptr ufirst a tempv).1[ufirst + t]! = z t) ∧
    (∀ k, k < nrow → (colUpdate cplx nsupr nsupc nrow luptr ufirst a tempv).1[ufirst + nsupc + k]! =
      a[ufirst + nsupc + k]! - ∑ r ∈ range nsupc, a[luptr + (r * nsupr + (nsupc + k))]! * z r) ∧
    (∀ p, (p < ufirst ∨ ufirst + nsupc + nrow ≤ p) → (colUpdate cplx nsupr nsupc nrow luptr ufirst a tempv).1[p]! = a[p]!) ∧
    (colUpdate cplx nsupr nsupc nrow luptr ufirst a tempv).2.size = tempv.size ∧
    ∀ i : Nat, (colUpdate cplx nsupr nsupc nrow luptr ufirst a tempv).2[i]! = tempv[i]! := by
  unfold colUpdate lsolveA
  dsimp only
  obtain ⟨l1, l2, l3⟩ := lsolveG_spec cplx nsupr nsupc (fun s i => s[luptr + i]!) ufirst a
    (fun i j => a[luptr + (j * nsupr + i)]!) z (by omega)
    (fun s hs i j hji hi => hs.2 _ (Or.inl (hblk j i (by omega) (by omega)))) hz
  generalize lsolveG cplx nsupr nsupc (fun s i => s[luptr + i]!) a ufirst = L1 at l1 l2 l3
  obtain ⟨m1, m2, m3⟩ := matvec_spec' cplx nsupr nrow nsupc L1 (luptr + nsupc) L1 ufirst tempv htv
  generalize matvec cplx nsupr nrow nsupc L1 (luptr + nsupc) L1 ufirst tempv = T1 at m1 m2 m3
  obtain ⟨u1, u2, u3, u4, u5, u6⟩ := snodeUnload_spec (ufirst + nsupc) L1 T1 nrow
  refine ⟨u1.trans l1, fun t ht => ?_, fun k hk => ?_, fun p hp => ?_, u2.trans m1, fun i => ?_⟩
  · rw [u4 _ (Or.inl (by omega))]; exact l2 t ht
  · rw [u3 k hk (by omega), l3 _ (Or.inr (by omega)), m2 k hk, htz k hk, zero_add]
    refine congrArg _ (Finset.sum_congr rfl fun r hr => ?_)
    have hr' := mem_range.mp hr
    rw [l2 r hr', show luptr + nsupc + (r * nsupr + k) = luptr + (r * nsupr + (nsupc + k)) by omega,
      l3 _ (Or.inl (hblk r (nsupc + k) hr' (by omega)))]
  · rw [u4 p (by omega), l3 p (by omega)]
  · by_cases hi : i < nrow
    · rw [u5 i hi (by omega), htz i hi]
    · rw [u6 i (by omega), m3 i (by omega)]

end snode

/-! ### link to the abstract supernodal block update of Lemmas/SnodeUpdate.lean -/
section sched
open Slu.LU
variable {K : Type} [Field K]

theorem dotL_eq_sum (us : List K) (Ls : List (Nat × Vec K)) (i : Nat) (h : us.length = Ls.length) :
    dotL us Ls i = ∑ r ∈ range Ls.length, us.getD r 0 * (Ls.getD r (0, #[])).2.get i := by
  induction Ls generalizing us with
  | nil => cases us with
    | nil => simp
    | cons _ _ => simp at h
  | cons pl Ls ih =>
    cases us with
    | nil => simp at h
    | cons u us =>
      rw [dotL_cons, ih us (by simpa using h), List.length_cons, Finset.sum_range_succ']
      exact add_comm _ _

theorem unitLower_of_index (cols : List (Nat × Vec K))
    (h1 : ∀ t (ht : t < cols.length), (cols[t]).2.get (cols[t]).1 = 1)
    (h0 : ∀ r t (hr : r < t) (ht : t < cols.length), (cols[t]).2.get (cols[r]).1 = 0) : UnitLower cols := by
  induction cols with
  | nil => trivial
  | cons pl rest ih =>
    obtain ⟨p, l⟩ := pl
    refine ⟨h1 0 (by simp), fun x hx => ?_, ih (fun t ht => h1 (t + 1) (by simpa using ht))
      (fun r t hr ht => h0 (r + 1) (t + 1) (by omega) (by simpa using ht))⟩
    obtain ⟨k, hk, rfl⟩ := List.getElem_of_mem hx
    exact h0 0 (k + 1) (by omega) (by simpa using hk)

theorem sum_tri (n t : Nat) (ht : t < n) (u L : Nat → K) :
    ∑ r ∈ range n, u r * (if t < r then 0 else if t = r then 1 else L r) = ∑ r ∈ range t, u r * L r + u t := by
  rw [sum_range_trunc _ (Nat.succ_le_of_lt ht) (fun r hr _ => by rw [if_pos (by omega), mul_zero]), Finset.sum_range_succ,
    if_neg (by omega), if_pos rfl, mul_one]
  exact congrArg (· + u t) (Finset.sum_congr rfl fun r hr => by have := mem_range.mp hr; rw [if_neg (by omega), if_neg (by omega)])

theorem sum_below (n i : Nat) (hi : n ≤ i) (u L : Nat → K) :
    ∑ r ∈ range n, u r * (if i < r then 0 else if i = r then 1 else L r) = ∑ r ∈ range n, u r * L r := by
  apply Finset.sum_congr rfl
  intro r hr
  have := mem_range.mp hr
  rw [if_neg (by omega), if_neg (by omega)]

variable [Inhabited K]

/-- **Columns that agree with a stored block.**  `cols` are finished columns of a supernode as the factorization
model holds them (pivot row, column of L as a vector over all rows); on the rows `row i`, `i < n`, of the supernode
they agree with a column-major block `L`: zero above the pivot, one at the pivot, `L t i` below.  Then the abstract
block update `snodeBlock cols dense` (= `elimBlocks [cols] dense` = the column-by-column `elim cols dense`) has as
its U-segment the unit lower solve with `L` of the gathered `dense`, and leaves `dense − L·u` on the rows below:
what the mirrored `lsolve` + `matvec` compute. -/
theorem snodeBlock_storage (cols : List (Nat × Vec K)) (dense : Array K) (row : Nat → Nat) (L : Nat → Nat → K) (n : Nat)
    (hn : cols.length ≤ n) (hrow : ∀ i, i < n → row i < dense.size)
    (R1 : ∀ t (ht : t < cols.length), (cols[t]).1 = row t)
    (R2 : ∀ t (ht : t < cols.length) i, i < n → (cols[t]).2.get (row i) = if i < t then 0 else if i = t then 1 else L t i) :
    snodeBlock cols dense = elim cols dense ∧ elimBlocks [cols] dense = elim cols dense ∧
    (∀ t, t < cols.length → (snodeBlock cols dense).2.getD t 0 =
      dense[row t]! - ∑ j ∈ range t, (snodeBlock cols dense).2.getD j 0 * L j t) ∧
    (∀ i, cols.length ≤ i → i < n → (snodeBlock cols dense).1.get (row i) =
      dense[row i]! - ∑ r ∈ range cols.length, L r i * (snodeBlock cols dense).2.getD r 0) := by
  have hr : ∀ x ∈ cols, x.1 < dense.size := by
    intro x hx
    obtain ⟨k, hk, rfl⟩ := List.getElem_of_mem hx
    rw [R1 k hk]; exact hrow k (by omega)
  have hU : UnitLower cols := unitLower_of_index cols
    (fun t ht => by rw [R1 t ht, R2 t ht t (by omega), if_neg (by omega), if_pos rfl])
    (fun r t hrt ht => by rw [R1 r (by omega), R2 t ht r (by omega), if_pos hrt])
  have hb := snodeBlock_eq_elim cols dense hU hr
  -- row `row i` of `dense`, split by `elim_spec` into what the columns took and what is left
  have hsplit : ∀ i, i < n → dense[row i]! = ∑ r ∈ range cols.length,
      (elim cols dense).2.getD r 0 * (if i < r then 0 else if i = r then 1 else L r i) + (elim cols dense).1.get (row i) := by
    intro i hi
    have hsp := elim_spec cols dense (row i) (hrow i hi)
    rw [dotL_eq_sum _ cols _ (elim_length cols dense)] at hsp
    rw [getElem!_eq_getD_of_lt _ _ (hrow i hi)]
    refine hsp.trans (congrArg (· + _) (Finset.sum_congr rfl (fun r hr => ?_)))
    have hr' := mem_range.mp hr
    rw [show cols.getD r (0, #[]) = cols[r] by simp [List.getD, hr'], R2 r hr' i hi]
  rw [hb]
  refine ⟨rfl, ?_, fun t ht => ?_, fun i hi hin => ?_⟩
  · simp [elimBlocks, hb]
  · have hzero := elim_at_pivot cols dense hU (cols[t]'ht) (List.getElem_mem _)
    rw [R1 t ht] at hzero
    rw [hsplit t (by omega), hzero, sum_tri cols.length t ht]
    ring
  · rw [hsplit i hin, sum_below cols.length i hi]
    have : ∀ r ∈ range cols.length, L r i * (elim cols dense).2.getD r 0 = (elim cols dense).2.getD r 0 * L r i :=
      fun r _ => mul_comm _ _
    rw [Finset.sum_congr rfl this]
    ring

omit [Inhabited K] in
/-- a column of L as the factorization model holds it, rebuilt from a stored block (`exCols`, `cCols` of Props/C01.lean):
over all `m` rows, `F u` at row `row u`, zero at the rows the supernode does not have -/
theorem storedCol_get (m n : Nat) (row : Nat → Nat) (F : Nat → K)
    (hinj : ∀ t u, t < n → u < n → row t = row u → t = u) (hm : ∀ i, i < n → row i < m) (i : Nat) (hi : i < n) :
    Vec.get ((Array.range m).map fun r =>
      match (List.range n).find? (fun u => row u == r) with
      | some u => F u
      | none => 0) (row i) = F i := by
  have hf : (List.range n).find? (fun u => row u == row i) = some i := by
    rw [List.find?_range_eq_some]
    refine ⟨by simp, List.mem_range.mpr hi, fun j hj => ?_⟩
    have := fun h => hinj j i (by omega) hi h
    simp
    omega
  simp [Vec.get, Array.getD, hm i hi, hf]

end sched

section trsv
variable {K : Type} [Field K] [Inhabited K] [Conj K]

/-- one supernode of the lower solve as the NON-vendor C code executes it (dsp_blas2.c:172-184):
`lsolve` on the diagonal block, `matvec` into a zero `work[]`, scatter `x[irow] -= work[i]` -/
def stepLNblas (cplx : Bool) (F : LUFac K) (s : SN) (x : Array K) : Array K :=
  let x1 := lsolve cplx s.nsupr s.nsupc F.L.lusup s.luptr x s.fsupc
  let work := matvec cplx s.nsupr (s.nsupr - s.nsupc) s.nsupc F.L.lusup (s.luptr + s.nsupc) x1 s.fsupc
    (Array.replicate (s.nsupr - s.nsupc) 0)
  (List.range (s.nsupr - s.nsupc)).foldl (fun (x : Array K) i =>
    let r := F.L.lsub[s.istart + s.nsupc + i]!
    x.setIfInBounds r (x[r]! - work[i]!)) x1

/-- both sides leave the unit lower solve in the cells of the block and change nothing else -/
theorem lsolve_eq_lsolveTo (cplx : Bool) (F : LUFac K) (s : SN) (x : Array K) (hb : s.fsupc + s.nsupc ≤ x.size) :
    lsolve cplx s.nsupr s.nsupc F.L.lusup s.luptr x s.fsupc = lsolveTo (blk F.L s) s.fsupc x s.nsupc :=
  have hz := fwdSub_unit_rec (blk F.L s) (fun i => x[s.fsupc + i]!) s.nsupc
  eq_of_block _ _ x s.fsupc s.nsupc _
    (lsolveG_spec cplx s.nsupr s.nsupc (fun _ i => F.L.lusup[s.luptr + i]!) s.fsupc x (blk F.L s) _ hb
      (fun _ _ i j _ _ => by unfold blk; rw [Nat.add_assoc]) hz)
    (lsolveTo_spec (blk F.L s) s.fsupc x s.nsupc hb _ hz s.nsupc (le_refl _))

theorem stepLNblas_eq_stepLN (cplx : Bool) (F : LUFac K) (s : SN) (x : Array K) (hb : s.fsupc + s.nsupc ≤ x.size) :
    stepLNblas cplx F s x = stepLN F s x := by
  unfold stepLNblas stepLN
  dsimp only
  rw [lsolve_eq_lsolveTo cplx F s x hb]
  generalize lsolveTo (blk F.L s) s.fsupc x s.nsupc = x1
  obtain ⟨-, m2, -⟩ := matvec_spec' cplx s.nsupr (s.nsupr - s.nsupc) s.nsupc F.L.lusup (s.luptr + s.nsupc) x1 s.fsupc
    (Array.replicate (s.nsupr - s.nsupc) (0 : K)) (by simp)
  apply List.foldl_ext
  intro a i hi
  have hi' : i < s.nsupr - s.nsupc := List.mem_range.mp hi
  congr 2
  rw [m2 i hi', sumTo_eq_sum]
  have : (Array.replicate (s.nsupr - s.nsupc) (0 : K))[i]! = 0 := by
    simp [getElem!_pos, hi']
  rw [this, zero_add]
  apply Finset.sum_congr rfl
  intro j _
  unfold blk
  have e : s.luptr + s.nsupc + (j * s.nsupr + i) = s.luptr + j * s.nsupr + (s.nsupc + i) := by omega
  rw [e]

/-- `x := inv(L) x` of `sp_[sdcz]trsv` / `[sdcz]gstrs` with every supernode processed by the mirrored
`lsolve` + `matvec` (what the non-vendor build executes; the `nsupc == 1` shortcut of the C code is the
`nsupc = 1` instance: `lsolve` does nothing, `matvec` is one column) -/
def trsvLNblas (cplx : Bool) (F : LUFac K) (x : Array K) : Array K :=
  (List.range (F.L.nsuper + 1)).foldl (fun x k => stepLNblas cplx F (snode F.L k) x) x

/-- `spTrsv_eq_ref` (Lemmas/Trsv.lean) proves the model `trsvLN` equal to the dense reference on well-formed storage;
through this equation that theorem speaks about what the non-vendor C code executes -/
theorem trsvLNblas_eq_trsvLN (cplx : Bool) (F : LUFac K) (x : Array K)
    (hb : ∀ k, k ≤ F.L.nsuper → (snode F.L k).fsupc + (snode F.L k).nsupc ≤ x.size) :
    trsvLNblas cplx F x = trsvLN F x := by
  rw [trsvLN_eq]
  exact foldl_congr_inv (fun a : Array K => a.size = x.size) _ _ _ x rfl
    (fun a _ _ h => (stepLN_size F _ a).trans h)
    (fun a k hk h => stepLNblas_eq_stepLN cplx F _ a (by rw [h]; exact hb k (by have := List.mem_range.mp hk; omega)))

/-- one supernode of the upper solve as the non-vendor C code executes it (dsp_blas2.c:217-227):
`usolve` on the diagonal block, then the column storage of U updates the rows above -/
def stepUNblas (F : LUFac K) (s : SN) (x : Array K) : Array K :=
  uscatTo F.U s.fsupc (usolve s.nsupr s.nsupc F.L.lusup s.luptr x s.fsupc) s.nsupc

omit [Conj K] in
theorem stepUNblas_eq_stepUN (F : LUFac K) (s : SN) (x : Array K) : stepUNblas F s x = stepUN F false s x := by
  unfold stepUNblas stepUN
  rw [usolve_eq_usolveTo]
  have h1 : (fun ir jc => F.L.lusup[s.luptr + (ir + jc * s.nsupr)]!) = blk F.L s := by
    funext ir jc; unfold blk
    have e : s.luptr + (ir + jc * s.nsupr) = s.luptr + jc * s.nsupr + ir := by omega
    rw [e]
  have h2 : (fun (jc : Nat) (v : K) => v / F.L.lusup[s.luptr + (jc + jc * s.nsupr)]!) =
      (fun jc v => if false = true then v else v / blk F.L s jc jc) := by
    funext jc v; unfold blk
    have e : s.luptr + (jc + jc * s.nsupr) = s.luptr + jc * s.nsupr + jc := by omega
    rw [e]; simp
  rw [h1, h2]

def trsvUNblas (F : LUFac K) (x : Array K) : Array K :=
  (List.range (F.L.nsuper + 1)).foldl (fun x kk => stepUNblas F (snode F.L (F.L.nsuper - kk)) x) x

theorem trsvUNblas_eq_trsvUN (F : LUFac K) (x : Array K) : trsvUNblas F x = trsvUN F false x := by
  rw [trsvUN_eq]
  unfold trsvUNblas
  apply List.foldl_ext
  intro a kk _
  exact stepUNblas_eq_stepUN F _ a

end trsv

end Slu.MyBlas2
