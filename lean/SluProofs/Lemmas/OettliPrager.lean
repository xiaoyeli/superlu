import SluProofs.Lemmas.Fold
import Mathlib.Algebra.Order.BigOperators.Group.Finset
import Mathlib.Algebra.BigOperators.Ring.Finset
import Mathlib.Algebra.Order.Field.Basic
import Mathlib.Algebra.Order.Field.Rat
import Mathlib.Tactic.Linarith
import Mathlib.Tactic.Ring
/-
The Oettli–Prager theorem (W. Oettli, W. Prager, Numer. Math. 6 (1964) 405-409; Higham, Accuracy and
Stability of Numerical Algorithms, Thm 7.3): for a real m x n system, `x` is the exact solution of a
system `(A + δA) x = b + δb` with `|δA| ≤ ω E`, `|δb| ≤ ω f` entrywise iff `|b - A x| ≤ ω (E |x| + f)`
row by row; hence the smallest such `ω` — the componentwise backward error of `x` — is
`max_i |r_i| / (E |x| + f)_i`.  With `E = |A|`, `f = |b|` that is the number `[sd]gsrfs` reports in
`berr` (Props/C13.lean, `berr_is_min_backward_error`).

Self-contained: matrices are functions `Nat → Nat → K` read on `i < m`, `j < n`; `K` is any linearly
ordered field for the equivalence, `Rat` for the statements about the running maximum `foldMaxIf`.
-/
namespace Slu.OettliPrager
open Finset

section field
variable {K : Type} [Field K] [LinearOrder K] [IsStrictOrderedRing K]

/-- `x` solves a perturbed system `(A + δA) x = b + δb` with `|δA| ≤ ω E`, `|δb| ≤ ω f` entrywise -/
def Feasible (m n : Nat) (A E : Nat → Nat → K) (x b f : Nat → K) (ω : K) : Prop :=
  ∃ (dA : Nat → Nat → K) (db : Nat → K),
    (∀ i < m, ∀ j < n, |dA i j| ≤ ω * E i j) ∧ (∀ i < m, |db i| ≤ ω * f i) ∧
    (∀ i < m, ∑ j ∈ range n, (A i j + dA i j) * x j = b i + db i)

theorem Feasible.mono_E {m n : Nat} {A E E' : Nat → Nat → K} {x b f : Nat → K} {ω : K} (hω : 0 ≤ ω)
    (hE : ∀ i < m, ∀ j < n, E i j ≤ E' i j) (h : Feasible m n A E x b f ω) : Feasible m n A E' x b f ω := by
  obtain ⟨dA, db, h1, h2, h3⟩ := h
  exact ⟨dA, db, fun i hi j hj => le_trans (h1 i hi j hj) (mul_le_mul_of_nonneg_left (hE i hi j hj) hω), h2, h3⟩

def res (n : Nat) (A : Nat → Nat → K) (x b : Nat → K) (i : Nat) : K := b i - ∑ j ∈ range n, A i j * x j

/-- the weight of row `i`: `(E |x| + f)_i` -/
def den (n : Nat) (E : Nat → Nat → K) (x f : Nat → K) (i : Nat) : K := ∑ j ∈ range n, E i j * |x j| + f i

def sgn (t : K) : K := if 0 ≤ t then 1 else -1

theorem abs_sgn (t : K) : |sgn t| = 1 := by
  unfold sgn; split <;> simp

theorem sgn_mul_self (t : K) : sgn t * t = |t| := by
  unfold sgn; split
  · rename_i h; rw [abs_of_nonneg h, one_mul]
  · rename_i h; rw [abs_of_neg (not_le.mp h)]; ring

variable (m n : Nat) (A E : Nat → Nat → K) (x b f : Nat → K) (ω : K)

theorem den_nonneg (i : Nat) (hE : ∀ j < n, 0 ≤ E i j) (hf : 0 ≤ f i) : 0 ≤ den n E x f i :=
  add_nonneg (sum_nonneg fun j hj => mul_nonneg (hE j (mem_range.mp hj)) (abs_nonneg _)) hf

/-- (→): the triangle inequality. -/
theorem feasible_imp_bound (h : Feasible m n A E x b f ω) : ∀ i < m, |res n A x b i| ≤ ω * den n E x f i := by
  obtain ⟨dA, db, hA, hb, hs⟩ := h
  intro i hi
  have e : res n A x b i = ∑ j ∈ range n, dA i j * x j - db i := by
    have := hs i hi
    simp only [add_mul, sum_add_distrib] at this
    exact sub_eq_sub_iff_add_eq_add.mpr (by rw [← this, add_comm])
  have h1 : |∑ j ∈ range n, dA i j * x j| ≤ ω * ∑ j ∈ range n, E i j * |x j| := by
    rw [mul_sum]
    refine le_trans (abs_sum_le_sum_abs _ _) (sum_le_sum fun j hj => ?_)
    rw [abs_mul, ← mul_assoc]
    exact mul_le_mul_of_nonneg_right (hA i hi j (mem_range.mp hj)) (abs_nonneg _)
  calc |res n A x b i| = |∑ j ∈ range n, dA i j * x j - db i| := by rw [e]
    _ ≤ |∑ j ∈ range n, dA i j * x j| + |db i| := abs_sub _ _
    _ ≤ ω * ∑ j ∈ range n, E i j * |x j| + ω * f i := add_le_add h1 (hb i hi)
    _ = ω * den n E x f i := (mul_add _ _ _).symm

theorem ratio_spec {r d ω : K} (hd : 0 ≤ d) (hω : 0 ≤ ω) (h : |r| ≤ ω * d) : |r / d| ≤ ω ∧ r / d * d = r := by
  rcases eq_or_lt_of_le hd with h0 | hpos
  · subst h0
    rw [mul_zero] at h
    rw [div_zero, abs_zero, zero_mul]
    exact ⟨hω, (abs_nonpos_iff.mp h).symm⟩
  · exact ⟨by rw [abs_div, abs_of_pos hpos]; exact (div_le_iff₀ hpos).mpr h, div_mul_cancel₀ _ (ne_of_gt hpos)⟩

/-- (←): the explicit perturbation `δA = (r_i / d_i) E_ij sign(x_j)`, `δb_i = -(r_i / d_i) f_i`. -/
theorem bound_imp_feasible (hω : 0 ≤ ω)
    (hE : ∀ i < m, ∀ j < n, 0 ≤ E i j) (hf : ∀ i < m, 0 ≤ f i)
    (h : ∀ i < m, |res n A x b i| ≤ ω * den n E x f i) : Feasible m n A E x b f ω := by
  let t : Nat → K := fun i => res n A x b i / den n E x f i
  have key : ∀ i < m, |t i| ≤ ω ∧ t i * den n E x f i = res n A x b i := fun i hi =>
    ratio_spec (den_nonneg n E x f i (hE i hi) (hf i hi)) hω (h i hi)
  refine ⟨fun i j => t i * E i j * sgn (x j), fun i => -(t i * f i), fun i hi j hj => ?_, fun i hi => ?_, fun i hi => ?_⟩
  · rw [abs_mul, abs_mul, abs_sgn, mul_one, abs_of_nonneg (hE i hi j hj)]
    exact mul_le_mul_of_nonneg_right (key i hi).1 (hE i hi j hj)
  · rw [abs_neg, abs_mul, abs_of_nonneg (hf i hi)]
    exact mul_le_mul_of_nonneg_right (key i hi).1 (hf i hi)
  · have h2 : ∑ j ∈ range n, (A i j + t i * E i j * sgn (x j)) * x j =
        ∑ j ∈ range n, A i j * x j + t i * ∑ j ∈ range n, E i j * |x j| := by
      rw [mul_sum, ← sum_add_distrib]
      refine sum_congr rfl fun j _ => ?_
      rw [← sgn_mul_self (x j)]; ring
    have hc := (key i hi).2
    rw [den, res, mul_add] at hc
    show _ = b i + -(t i * f i)
    rw [h2, eq_sub_of_add_eq hc]
    ring

/-- **Oettli–Prager, general weights** `E`, `f` (entrywise non-negative). -/
theorem oettli_prager_weights (hω : 0 ≤ ω)
    (hE : ∀ i < m, ∀ j < n, 0 ≤ E i j) (hf : ∀ i < m, 0 ≤ f i) :
    Feasible m n A E x b f ω ↔ ∀ i < m, |res n A x b i| ≤ ω * den n E x f i :=
  ⟨feasible_imp_bound m n A E x b f ω, bound_imp_feasible m n A E x b f ω hω hE hf⟩

end field

section rat

section weights
variable (m n : Nat) (A E : Nat → Nat → ℚ) (x b f : Nat → ℚ)

/-- `max_{i < m, d_i ≠ 0} |r_i| / d_i` as the running maximum the library computes -/
def omegaStar : ℚ :=
  foldMaxIf (fun i => den n E x f i ≠ 0) (fun i => |res n A x b i| / den n E x f i) 0 (List.range m)

theorem omegaStar_nonneg : 0 ≤ omegaStar m n A E x b f :=
  foldMaxIf_ge_init _ _ 0 _

variable (hE : ∀ i < m, ∀ j < n, 0 ≤ E i j) (hf : ∀ i < m, 0 ≤ f i)
include hE hf

/-- (a) if the rows with a zero weight have a zero residual, the maximum ratio is feasible -/
theorem omegaStar_feasible (hz : ∀ i < m, den n E x f i = 0 → res n A x b i = 0) :
    Feasible m n A E x b f (omegaStar m n A E x b f) := by
  apply bound_imp_feasible m n A E x b f _ (omegaStar_nonneg m n A E x b f) hE hf
  intro i hi
  have hd0 : 0 ≤ den n E x f i := den_nonneg n E x f i (hE i hi) (hf i hi)
  rcases eq_or_lt_of_le hd0 with h0 | hpos
  · rw [hz i hi h0.symm, ← h0, abs_zero, mul_zero]
  · exact (div_le_iff₀ hpos).mp ((foldMaxIf_range_spec (fun i => den n E x f i ≠ 0)
      (fun i => |res n A x b i| / den n E x f i) m).1 i hi (ne_of_gt hpos))

/-- (b) no feasible `ω ≥ 0` is smaller than the maximum ratio -/
theorem omegaStar_le (ω : ℚ) (hω : 0 ≤ ω) (h : Feasible m n A E x b f ω) : omegaStar m n A E x b f ≤ ω := by
  have hb := feasible_imp_bound m n A E x b f ω h
  rcases (foldMaxIf_range_spec (fun i => den n E x f i ≠ 0) (fun i => |res n A x b i| / den n E x f i) m).2.1
    with h0 | ⟨i, hi', hne, he⟩
  · unfold omegaStar; rw [h0]; exact hω
  · have hpos : 0 < den n E x f i := lt_of_le_of_ne (den_nonneg n E x f i (hE i hi') (hf i hi')) (Ne.symm hne)
    unfold omegaStar; rw [← he]
    exact (div_le_iff₀ hpos).mpr (hb i hi')

end weights

/-- with the weights `|A|`, `|b|` a row of zero weight has a zero residual: `δA = -A`, `δb = -b` is feasible for
`ω = 1`, so `|r_i| ≤ (|A||x| + |b|)_i` (dense matrices over `ℚ`; `Gssvx.resid_zero_of_denom_zero` is the fact for a
stored entry list over any scalars, whose magnitude need not obey the triangle inequality) -/
theorem res_zero_of_den_zero (n : Nat) (A : Nat → Nat → ℚ) (x b : Nat → ℚ) (i : Nat)
    (h : den n (fun i j => |A i j|) x (fun i => |b i|) i = 0) : res n A x b i = 0 := by
  have := feasible_imp_bound (i + 1) n A (fun i j => |A i j|) x b (fun i => |b i|) 1
    ⟨fun i j => -A i j, fun i => -b i, fun _ _ _ _ => by rw [abs_neg, one_mul], fun _ _ => by rw [abs_neg, one_mul],
      fun _ _ => by simp only [add_neg_cancel, zero_mul, sum_const_zero]⟩ i i.lt_succ_self
  rwa [h, mul_zero, abs_nonpos_iff] at this

/-- **Oettli–Prager (1964), over `ℚ`.** `x` is the exact solution of a system whose matrix and right-hand side
differ from `A`, `b` by at most `ω` times their entries' magnitudes iff `|b - A x| ≤ ω (|A||x| + |b|)`: the weights
`E = |A|`, `f = |b|` in `oettli_prager_weights`, which holds over every linearly ordered field. -/
theorem oettli_prager (m n : Nat) (A : Nat → Nat → ℚ) (x b : Nat → ℚ) (ω : ℚ) (hω : 0 ≤ ω) :
    (∃ (dA : Nat → Nat → ℚ) (db : Nat → ℚ),
      (∀ i < m, ∀ j < n, |dA i j| ≤ ω * |A i j|) ∧ (∀ i < m, |db i| ≤ ω * |b i|) ∧
      (∀ i < m, ∑ j ∈ Finset.range n, (A i j + dA i j) * x j = b i + db i))
    ↔ (∀ i < m, |b i - ∑ j ∈ Finset.range n, A i j * x j| ≤ ω * (∑ j ∈ Finset.range n, |A i j| * |x j| + |b i|)) :=
  oettli_prager_weights m n A (fun i j => |A i j|) x b (fun i => |b i|) ω hω
    (fun _ _ _ _ => abs_nonneg _) (fun _ _ => abs_nonneg _)

/-- **The componentwise relative backward error is `max_i |r_i| / d_i`.**  With `r = b - A x`,
`d = |A||x| + |b|` and `ω* = max_{i < m, d_i ≠ 0} |r_i| / d_i` (running maximum from `0`):
`ω* ≥ 0`, (a) `x` solves a system perturbed entrywise by at most `ω*` relative, and (b) no `ω ≥ 0`
for which such a perturbation exists is smaller. -/
theorem oettli_prager_min (m n : Nat) (A : Nat → Nat → ℚ) (x b : Nat → ℚ) :
    let r : Nat → ℚ := fun i => b i - ∑ j ∈ Finset.range n, A i j * x j
    let d : Nat → ℚ := fun i => ∑ j ∈ Finset.range n, |A i j| * |x j| + |b i|
    let ωs : ℚ := foldMaxIf (fun i => d i ≠ 0) (fun i => |r i| / d i) 0 (List.range m)
    let feasible : ℚ → Prop := fun ω => ∃ (dA : Nat → Nat → ℚ) (db : Nat → ℚ),
      (∀ i < m, ∀ j < n, |dA i j| ≤ ω * |A i j|) ∧ (∀ i < m, |db i| ≤ ω * |b i|) ∧
      (∀ i < m, ∑ j ∈ Finset.range n, (A i j + dA i j) * x j = b i + db i)
    0 ≤ ωs ∧ feasible ωs ∧ ∀ ω, 0 ≤ ω → feasible ω → ωs ≤ ω := by
  intro r d ωs feasible
  have hE : ∀ i < m, ∀ j < n, (0 : ℚ) ≤ |A i j| := fun _ _ _ _ => abs_nonneg _
  have hf : ∀ i < m, (0 : ℚ) ≤ |b i| := fun _ _ => abs_nonneg _
  exact ⟨omegaStar_nonneg m n A (fun i j => |A i j|) x b (fun i => |b i|),
    omegaStar_feasible m n A (fun i j => |A i j|) x b (fun i => |b i|) hE hf
      (fun i _ h => res_zero_of_den_zero n A x b i h),
    fun ω hω h => omegaStar_le m n A (fun i j => |A i j|) x b (fun i => |b i|) hE hf ω hω h⟩

end rat
end Slu.OettliPrager
