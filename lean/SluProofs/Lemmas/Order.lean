import Slu.Model.Order
import SluProofs.Lemmas.ArrayBasic
import SluProofs.Lemmas.ListLayout
import SluProofs.Lemmas.PermFn
import SluProofs.Lemmas.Forest
/-
Lemmas for C10 (SluProofs/Props/C10.lean) about the arrays of the ordering phase: the permutation checker,
compressed-column storage built from a list of columns, the marker loop (`dedupFrom`) and the columns of AᵀA and
Aᵀ+A, the scatter loops of sp_preorder, and the clauses of what sp_preorder returns (`SpPreorder`; proved in
Lemmas/EtreeDef.lean, `spPreorder_spec`, once the tree is known to be heap ordered).
-/
namespace Slu.Order

theorem View.mem_col {V : View} {c r : Nat} (h : r ∈ V.col c) : r ∈ V.rowind.toList :=
  List.mem_of_mem_drop (List.mem_of_mem_take h)

theorem getD_eq_toList_getElem (p : Array Nat) (i : Nat) (h : i < p.size) :
    p.getD i 0 = p.toList[i]'(by simpa using h) := by
  simp [Array.getD, h]

theorem range_getD (k j : Nat) (h : j < k) : (Array.range k).getD j 0 = j := by
  simp [Array.getD_eq_getD_getElem?, h]

theorem distinct_iff_nodup (l : List Nat) : distinct l = true ↔ l.Nodup := by
  induction l with
  | nil => simp [distinct]
  | cons x xs ih => simp [distinct, ih]

theorem isPerm_def (n : Nat) (p : Array Nat) :
    isPerm n p = true ↔ (p.size = n ∧ ∀ x ∈ p.toList, x < n) ∧ p.toList.Nodup := by
  unfold isPerm
  simp only [Bool.and_eq_true, beq_iff_eq, List.all_eq_true, decide_eq_true_eq, distinct_iff_nodup]

theorem isPerm_of_injective (n : Nat) (p : Array Nat) (hs : p.size = n) (hlt : ∀ i < n, p.getD i 0 < n)
    (hinj : ∀ i < n, ∀ j < n, p.getD i 0 = p.getD j 0 → i = j) : isPerm n p = true := by
  rw [isPerm_def]
  have hlen : p.toList.length = n := by simpa using hs
  refine ⟨⟨hs, ?_⟩, ?_⟩
  · intro x hx
    obtain ⟨i, hi, hix⟩ := List.getElem_of_mem hx
    have := hlt i (hlen ▸ hi)
    rw [getD_eq_toList_getElem p i (by simpa using hi)] at this
    exact hix ▸ this
  · rw [List.nodup_iff_injective_getElem]
    intro ⟨i, hi⟩ ⟨j, hj⟩ hij
    simp only at hij
    have := hinj i (hlen ▸ hi) j (hlen ▸ hj) (by
      rw [getD_eq_toList_getElem p i (by simpa using hi), getD_eq_toList_getElem p j (by simpa using hj)]; exact hij)
    exact Fin.ext this

theorem isPerm_iff (n : Nat) (p : Array Nat) :
    isPerm n p = true ↔
      p.size = n ∧ (∀ i < n, p.getD i 0 < n) ∧
      (∀ i < n, ∀ j < n, p.getD i 0 = p.getD j 0 → i = j) ∧ (∀ v < n, ∃ i < n, p.getD i 0 = v) := by
  constructor
  · intro h
    obtain ⟨⟨hs, hlt⟩, hnd⟩ := (isPerm_def n p).mp h
    have hlt' : ∀ i < n, p.getD i 0 < n := fun i hi => by
      rw [getD_eq_toList_getElem p i (hs ▸ hi)]
      exact hlt _ (List.getElem_mem _)
    have hinj : ∀ i < n, ∀ j < n, p.getD i 0 = p.getD j 0 → i = j := fun i hi j hj hij => by
      rw [getD_eq_toList_getElem p i (hs ▸ hi), getD_eq_toList_getElem p j (hs ▸ hj)] at hij
      exact (List.Nodup.getElem_inj_iff hnd).mp hij
    exact ⟨hs, hlt', hinj, fun v hv => (PermFn.mk hlt' hinj).surj hv⟩
  · rintro ⟨hs, hlt, hinj, _⟩
    exact isPerm_of_injective n p hs hlt hinj

theorem ptrs_length (s : Nat) (cols : List (List Nat)) : (ptrs s cols).length = cols.length + 1 :=
  (Slu.offsets_getD ptrs List.length (fun _ => rfl) (fun _ _ _ => rfl) s cols 0 (Nat.zero_le _)).1

theorem ptrs_getD (s : Nat) (cols : List (List Nat)) (j : Nat) (h : j ≤ cols.length) :
    (ptrs s cols).getD j 0 = s + ((cols.take j).flatten).length := by
  rw [List.length_flatten]
  exact (Slu.offsets_getD ptrs List.length (fun _ => rfl) (fun _ _ _ => rfl) s cols j h).2

theorem ptrs_getD_succ (s : Nat) (cols : List (List Nat)) (j : Nat) (h : j < cols.length) :
    (ptrs s cols).getD (j + 1) 0 = (ptrs s cols).getD j 0 + cols[j].length := by
  have H := Slu.offsets_getD ptrs List.length (fun _ => rfl) (fun _ _ _ => rfl) s cols
  rw [(H (j + 1) h).2, (H j (Nat.le_of_lt h)).2, List.map_take, List.map_take,
    Slu.sum_take_succ _ j (by rwa [List.length_map]), List.getElem_map, Nat.add_assoc]

theorem ofCols_col (m : Nat) (cols : List (List Nat)) (j : Nat) (h : j < cols.length) :
    (ofCols m cols).col j = cols[j] := by
  unfold Pat.col ofCols slice
  simp only [toArray_getD]
  rw [ptrs_getD 0 cols (j + 1) h, ptrs_getD 0 cols j (Nat.le_of_lt h), Nat.zero_add, Nat.zero_add]
  exact Slu.flatten_segment cols j h

theorem ofCols_range_col (n : Nat) (f : Nat → List Nat) (j : Nat) (hj : j < n) :
    (ofCols n ((List.range n).map f)).col j = f j := by
  rw [ofCols_col _ _ j (by simpa using hj)]; simp

/-- a compressed matrix built from a column function: `getata` and `atPlusA` are built so -/
theorem ofCols_range (n : Nat) (f : Nat → List Nat) {P : Pat} (hP : P = ofCols n ((List.range n).map f)) :
    P.n = n ∧ P.colptr.size = n + 1 ∧ P.colptr.getD 0 0 = 0 ∧
    (∀ j < n, P.colptr.getD (j + 1) 0 = P.colptr.getD j 0 + (P.col j).length) ∧
    P.colptr.getD n 0 = P.rowind.size ∧ ∀ j < n, P.col j = f j := by
  subst hP
  have hlen : ((List.range n).map f).length = n := by simp
  refine ⟨hlen, by simp [ofCols, ptrs_length], ?_, fun j hj => ?_, ?_, ofCols_range_col n f⟩
  · simp only [ofCols, toArray_getD]; rw [ptrs_getD 0 _ 0 (Nat.zero_le _)]; simp
  · rw [ofCols_col _ _ j (hlen.symm ▸ hj)]
    simp only [ofCols, toArray_getD]
    exact ptrs_getD_succ 0 _ j (hlen.symm ▸ hj)
  · simp only [ofCols, toArray_getD]
    rw [ptrs_getD 0 _ n (Nat.le_of_eq hlen.symm), List.take_of_length_le (Nat.le_of_eq hlen)]; simp

theorem mem_transposeCol (n : Nat) (col : Nat → List Nat) (k j : Nat) :
    j ∈ transposeCol n col k ↔ j < n ∧ k ∈ col j := by
  unfold transposeCol
  simp only [List.mem_flatMap, List.mem_range, List.mem_map, List.mem_filter, beq_iff_eq]
  constructor
  · rintro ⟨a, ha, b, ⟨hb, rfl⟩, rfl⟩; exact ⟨ha, hb⟩
  · rintro ⟨h1, h2⟩; exact ⟨j, h1, k, ⟨h2, rfl⟩, rfl⟩

theorem mem_dedupFrom (seen xs : List Nat) (x : Nat) :
    x ∈ dedupFrom seen xs ↔ x ∈ xs ∧ x ∉ seen := by
  fun_induction dedupFrom seen xs with
  | case1 seen => simp
  | case2 seen y ys hy ih =>
    have hy : y ∈ seen := List.contains_iff_mem.1 hy
    rw [ih, List.mem_cons]
    exact ⟨fun ⟨h1, h2⟩ => ⟨Or.inr h1, h2⟩, fun ⟨h1, h2⟩ => ⟨h1.resolve_left fun e => h2 (e ▸ hy), h2⟩⟩
  | case3 seen y ys hy ih =>
    have hy : y ∉ seen := fun c => hy (List.contains_iff_mem.2 c)
    rw [List.mem_cons, ih, List.mem_cons, List.mem_cons, not_or]
    by_cases hxy : x = y
    · exact ⟨fun _ => ⟨Or.inl hxy, hxy ▸ hy⟩, fun _ => Or.inl hxy⟩
    · exact ⟨fun h => (h.resolve_left hxy).imp Or.inr And.right, fun ⟨h1, h2⟩ => Or.inr ⟨h1.resolve_left hxy, hxy, h2⟩⟩

theorem nodup_dedupFrom (seen xs : List Nat) : (dedupFrom seen xs).Nodup := by
  fun_induction dedupFrom seen xs with
  | case1 seen => exact List.nodup_nil
  | case2 seen y ys hy ih => exact ih
  | case3 seen y ys hy ih => exact List.nodup_cons.mpr ⟨by rw [mem_dedupFrom]; simp, ih⟩

theorem mem_ataCol (n : Nat) (col : Nat → List Nat) (i j : Nat) :
    i ∈ ataCol n col j ↔ i ≠ j ∧ i < n ∧ ∃ k, k ∈ col i ∧ k ∈ col j := by
  unfold ataCol
  simp only [mem_dedupFrom, List.mem_flatMap, mem_transposeCol, List.mem_singleton]
  constructor
  · rintro ⟨⟨k, hk, hi, hki⟩, hne⟩; exact ⟨hne, hi, k, hki, hk⟩
  · rintro ⟨hne, hi, k, hki, hk⟩; exact ⟨⟨k, hk, hi, hki⟩, hne⟩

theorem mem_apaCol (n : Nat) (col : Nat → List Nat) (i j : Nat) :
    i ∈ apaCol n col j ↔ i ≠ j ∧ (i ∈ col j ∨ (i < n ∧ j ∈ col i)) := by
  unfold apaCol
  simp only [mem_dedupFrom, List.mem_append, mem_transposeCol, List.mem_singleton]
  exact and_comm

theorem getata_col (A : Pat) (j : Nat) (hj : j < A.n) : (getata A).col j = ataCol A.n A.col j :=
  ofCols_range_col A.n (ataCol A.n A.col) j hj

theorem atPlusA_col (A : Pat) (j : Nat) (hj : j < A.n) : (atPlusA A).col j = apaCol A.n A.col j :=
  ofCols_range_col A.n (apaCol A.n A.col) j hj

theorem firstN_size (n : Nat) (a : Array Nat) : (firstN n a).size = n := by simp [firstN]

theorem firstN_getD (n : Nat) (a : Array Nat) (i : Nat) (h : i < n) : (firstN n a).getD i 0 = a.getD i 0 := by
  unfold firstN
  simp only [toArray_getD, List.getD_eq_getElem?_getD]
  rw [List.getElem?_map, List.getElem?_range h]
  simp

theorem firstN_map_range_getD (n : Nat) (f : Nat → Nat) (i : Nat) (hi : i < n) :
    (firstN n ((List.range n).map f).toArray).getD i 0 = f i := by
  rw [firstN_getD _ _ _ hi, toArray_getD, List.getD_eq_getElem?_getD, List.getElem?_map, List.getElem?_range hi]
  rfl

theorem isPerm_firstN (n : Nat) (a : Array Nat) (hlt : ∀ i < n, a.getD i 0 < n)
    (hinj : ∀ i < n, ∀ j < n, a.getD i 0 = a.getD j 0 → i = j) : isPerm n (firstN n a) = true :=
  isPerm_of_injective _ _ (firstN_size _ _) (fun i hi => firstN_getD n a i hi ▸ hlt i hi)
    fun i hi j hj e => hinj i hi j hj (firstN_getD n a i hi ▸ firstN_getD n a j hj ▸ e)

theorem scatter_size (n : Nat) (idx val : Nat → Nat) (init : Array Nat) :
    (scatter n idx val init).size = init.size :=
  (Slu.foldl_stores idx val 0 (List.range n) init).1

theorem scatter_getD (n : Nat) (idx val : Nat → Nat) (init : Array Nat)
    (hinj : ∀ i < n, ∀ j < n, idx i = idx j → i = j) (hb : ∀ i < n, idx i < init.size) :
    ∀ i < n, (scatter n idx val init).getD (idx i) 0 = val i := fun i hi =>
  (Slu.foldl_stores idx val 0 (List.range n) init).2.1 i (List.mem_range.mpr hi) (hb i hi) fun j hj e =>
    congrArg val (hinj j (List.mem_range.mp hj) i hi e)

/-- the relabelling loops of sp_preorder: `iwork[post[i]] = val i; out[i] = iwork[i]` -/
theorem relabel_getD (n : Nat) (pst val : Nat → Nat) (hlt : ∀ j < n, pst j < n)
    (hinj : ∀ i < n, ∀ j < n, pst i = pst j → i = j) (j : Nat) (hj : j < n) :
    (firstN n (scatter n pst val (Array.replicate (n + 1) 0))).getD (pst j) 0 = val j := by
  rw [firstN_getD _ _ _ (hlt j hj)]
  exact scatter_getD n pst val _ hinj
    (fun i hi => by rw [Array.size_replicate]; exact Nat.lt_succ_of_lt (hlt i hi)) j hj

theorem permView_colbeg (A : Pat) (p : Array Nat) (hp : isPerm A.n p = true) (i : Nat) (hi : i < A.n) :
    (permView A p).colbeg.getD (p.getD i 0) 0 = A.colptr.getD i 0 ∧
    (permView A p).colend.getD (p.getD i 0) 0 = A.colptr.getD (i + 1) 0 := by
  obtain ⟨_, hlt, hinj, _⟩ := (isPerm_iff A.n p).mp hp
  have hb : ∀ i < A.n, p.getD i 0 < (Array.replicate A.n 0).size := fun i hi => by simpa using hlt i hi
  exact ⟨scatter_getD A.n _ _ _ hinj hb i hi,
         scatter_getD A.n _ (fun i => A.colptr.getD (i + 1) 0) _ hinj hb i hi⟩

theorem permView_col (A : Pat) (p : Array Nat) (hp : isPerm A.n p = true) (i : Nat) (hi : i < A.n) :
    (permView A p).col (p.getD i 0) = A.col i := by
  obtain ⟨hb, he⟩ := permView_colbeg A p hp i hi
  simp only [View.col, Pat.col]
  rw [hb, he]
  rfl

/-- the postorder applied by sp_preorder: the identity in SymmetricMode -/
def postOf (A : Pat) (p : Array Nat) (sym : Bool) : Array Nat :=
  if sym then Array.range (A.n + 1) else treePostorder A.n (coletree A.m A.n (permView A p).col)

/-- what sp_preorder returns, in either mode, read through `q = postOf A p sym`: `perm_c` is `q ∘ p`, the tree and the
view are those of `A·Pc` relabelled by `q` -/
structure SpPreorder (A : Pat) (p : Array Nat) (sym : Bool) : Prop where
  qlt : ∀ j < A.n, (postOf A p sym).getD j 0 < A.n
  qroot : (postOf A p sym).getD A.n 0 = A.n
  qinj : ∀ i < A.n, ∀ j < A.n, (postOf A p sym).getD i 0 = (postOf A p sym).getD j 0 → i = j
  perm : isPerm A.n (spPreorder A p sym).permc = true
  permc : ∀ i < A.n, (spPreorder A p sym).permc.getD i 0 = (postOf A p sym).getD (p.getD i 0) 0
  size : (spPreorder A p sym).etree.size = A.n
  etree : ∀ j < A.n, (spPreorder A p sym).etree.getD ((postOf A p sym).getD j 0) 0 =
    (postOf A p sym).getD ((coletree A.m A.n (permView A p).col).getD j 0) 0
  col : ∀ j < A.n, ((spPreorder A p sym).view A).col ((postOf A p sym).getD j 0) = (permView A p).col j
  heap : Heap A.n (spPreorder A p sym).etree

theorem SpPreorder.qsurj {A : Pat} {p : Array Nat} {sym : Bool} (S : SpPreorder A p sym) :
    ∀ c < A.n, ∃ j < A.n, (postOf A p sym).getD j 0 = c := fun _ hc => (PermFn.mk S.qlt S.qinj).surj hc

end Slu.Order
