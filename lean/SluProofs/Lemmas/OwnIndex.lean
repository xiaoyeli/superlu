import Slu.Gen.Ownership
import SluProofs.Lemmas.StrKey
/-
An index of an ownership table by routine, for the kernel evaluations of Props/C19.lean.  Every predicate evaluated
there looks only at the records of one or two routines.  Selecting them with `List.filter` costs one string comparison per
record of the table and routine asked for, and the kernel re-reads both literals at each, even when they differ in the
first character (Lemmas/StrKey.lean).  `runs` cuts the table once into runs of records of one routine, each under the
`key` of its name; `ofRoutines` then compares one pair of `Nat` literals per run, and `ofRoutine`, for a single routine, only
per run of one of the `buckets` the runs are dealt into.
-/
namespace Slu.Gen

/-- The first `n` maximal runs of consecutive records of one routine, each under the `key` of that routine's name.  Recursion is
per run and lazy in the tail (a recursion per record exhausts the kernel's stack on a table of a few thousand records). -/
def runsAux : Nat → List OwnRec → List (Nat × List OwnRec)
  | n + 1, r :: rs =>
    (key r.routine, r :: rs.takeWhile (·.routine == r.routine)) :: runsAux n (rs.dropWhile (·.routine == r.routine))
  | _, _ => []

/-- `tbl` cut into runs.  The scanner writes the records of a routine together, so the regenerated table has one run
per routine; nothing proved here relies on that. -/
def runs (tbl : List OwnRec) : List (Nat × List OwnRec) := runsAux tbl.length tbl

def ofRoutines (tbl : List OwnRec) (xs : List String) : List OwnRec :=
  ((runs tbl).filter fun g => (xs.map key).contains g.1).flatMap (·.2)

theorem ofRoutines_eq_filter (tbl : List OwnRec) (xs : List String) :
    ofRoutines tbl xs = tbl.filter fun r => xs.contains r.routine := by
  suffices ∀ n (l : List OwnRec), l.length ≤ n →
      ((runsAux n l).filter fun g => (xs.map key).contains g.1).flatMap (·.2) = l.filter fun r => xs.contains r.routine from
    this _ tbl (Nat.le_refl _)
  intro n
  induction n with
  | zero => intro l hl; rw [List.eq_nil_of_length_eq_zero (Nat.le_zero.1 hl)]; rfl
  | succ n ih =>
    intro l hl
    cases l with
    | nil => rfl
    | cons r rs =>
      -- the rest of the first run has the routine of `r`, so the selection takes all of it or nothing
      have hp : ∀ a ∈ rs.takeWhile (·.routine == r.routine), a.routine = r.routine :=
        fun a ha => beq_iff_eq.1 (List.all_eq_true.1 List.all_takeWhile a ha)
      have ht : (rs.takeWhile (·.routine == r.routine)).filter (fun a => xs.contains a.routine) =
          if xs.contains r.routine then rs.takeWhile (·.routine == r.routine) else [] := by
        split
        · next h => exact List.filter_eq_self.2 fun a ha => by rw [hp a ha]; exact h
        · next h => exact List.filter_eq_nil_iff.2 fun a ha => by rw [hp a ha]; exact h
      have hd := ih (rs.dropWhile (·.routine == r.routine))
        (Nat.le_trans (List.dropWhile_sublist _).length_le (Nat.le_of_succ_le_succ hl))
      rw [runsAux, List.filter_cons, List.filter_cons, ← contains_key,
        ← List.takeWhile_append_dropWhile (p := (·.routine == r.routine)) (l := rs), List.filter_append, ht, ← hd,
        List.takeWhile_append_dropWhile]
      split <;> rfl

/-- The runs dealt into 13 buckets by their key modulo 13.  `ofRoutines` looks at every run, so a hundred selections from a
table of a hundred routines cost the kernel ten thousand comparisons of keys, as much as everything it then does with the
records selected; a selection through the buckets looks at the runs of one bucket.  13 is near the square root of the number
of routines (dealing costs one pass over the runs per bucket), and odd, so that every byte of the name counts. -/
def buckets (tbl : List OwnRec) : List (List (Nat × List OwnRec)) :=
  (List.range 13).map fun i => (runs tbl).filter (·.1 % 13 == i)

def ofRoutine (tbl : List OwnRec) (x : String) : List OwnRec :=
  (((buckets tbl).getD (key x % 13) []).filter (·.1 == key x)).flatMap (·.2)

theorem ofRoutine_eq (tbl : List OwnRec) (x : String) : ofRoutine tbl x = ofRoutines tbl [x] := by
  have h : key x % 13 < 13 := Nat.mod_lt _ (by decide)
  simp only [ofRoutine, ofRoutines, buckets, List.getD_eq_getElem?_getD, List.getElem?_map, List.getElem?_range h,
    Option.map_some, Option.getD_some, List.filter_filter, List.map_cons, List.map_nil, List.contains_cons, List.contains_nil,
    Bool.or_false]
  congr 2
  funext g
  -- a run with the key of `x` lies in the bucket of `x`
  by_cases hg : g.1 = key x <;> simp [hg]

variable {p : OwnRec → Bool} {xs : List String} (h : ∀ r, p r = true → r.routine ∈ xs) (tbl : List OwnRec)
include h

/-- The hypothesis comes first, so `rw [filter_ofRoutines]` finds `p` and `xs` in the goal and leaves it as a side goal. -/
theorem filter_ofRoutines : (ofRoutines tbl xs).filter p = tbl.filter p := by
  rw [ofRoutines_eq_filter, List.filter_filter]
  congr 1
  funext r
  cases hp : p r
  · rfl
  · simpa using h r hp

theorem any_ofRoutines : (ofRoutines tbl xs).any p = tbl.any p := by
  rw [ofRoutines_eq_filter, List.any_filter]
  congr 1
  funext r
  cases hp : p r
  · simp
  · simpa using h r hp

end Slu.Gen
