import Mathlib.Algebra.BigOperators.Group.Finset.Basic
import Mathlib.Data.Finset.Card
import Mathlib.Data.List.Nodup
/-
A permutation of `0 .. n-1` given as a function: bounded and injective there.  An injection of a finite set into
itself is onto (`image`), which is proved here once; sums may be taken along it; on `Fin n` it is a bijection (`bijective`);
the model inverts one by `find?` over `range n` (`find_inv`).
-/
namespace Slu
open Finset

structure PermFn (n : Nat) (f : Nat → Nat) : Prop where
  lt : ∀ i < n, f i < n
  inj : ∀ i < n, ∀ j < n, f i = f j → i = j

namespace PermFn
variable {n : Nat} {f : Nat → Nat}

theorem injOn (h : PermFn n f) : Set.InjOn f (range n : Finset Nat) := fun a ha b hb hab =>
  h.inj a (by simpa using ha) b (by simpa using hb) hab

theorem image (h : PermFn n f) : (range n).image f = range n :=
  eq_of_subset_of_card_le
    (fun c hc => by
      obtain ⟨j, hj, rfl⟩ := mem_image.mp hc
      exact mem_range.mpr (h.lt j (mem_range.mp hj)))
    (by rw [card_image_of_injOn h.injOn])

theorem surj (h : PermFn n f) {v : Nat} (hv : v < n) : ∃ i < n, f i = v := by
  obtain ⟨i, hi, e⟩ := mem_image.mp (h.image ▸ mem_range.mpr hv)
  exact ⟨i, mem_range.mp hi, e⟩

theorem bijective (h : PermFn n f) : Function.Bijective fun i : Fin n => (⟨f i, h.lt i i.2⟩ : Fin n) :=
  ⟨fun a b hab => Fin.ext (h.inj a a.2 b b.2 (congrArg Fin.val hab)),
    fun v => let ⟨i, hi, e⟩ := h.surj v.2; ⟨⟨i, hi⟩, Fin.ext e⟩⟩

theorem sum {M : Type} [AddCommMonoid M] (h : PermFn n f) (g : Nat → M) :
    ∑ j ∈ range n, g (f j) = ∑ c ∈ range n, g c := by
  conv_rhs => rw [← h.image]
  exact (sum_image h.injOn).symm

theorem find_inv (h : PermFn n f) {c : Nat} (hc : c < n) : ((List.range n).find? fun c' => f c' = f c).getD 0 = c := by
  have : (List.range n).find? (fun c' => decide (f c' = f c)) = some c := by
    rw [List.find?_range_eq_some]
    refine ⟨by simp, by simpa using hc, ?_⟩
    intro j hj
    simp only [Bool.not_eq_true', decide_eq_false_iff_not]
    intro e
    have := h.inj j (by omega) c hc e
    omega
  rw [this]; rfl

theorem of_perm (h : ((List.range n).map f).Perm (List.range n)) : PermFn n f where
  lt i hi := List.mem_range.mp (h.subset (List.mem_map.mpr ⟨i, List.mem_range.mpr hi, rfl⟩))
  inj _ hi _ hj := List.inj_on_of_nodup_map (h.nodup_iff.mpr List.nodup_range) (List.mem_range.mpr hi)
    (List.mem_range.mpr hj)

end PermFn
end Slu
