import Slu.Model.LU
import SluProofs.Lemmas.RatBasic
/-
The pivot policy `Slu.LU.pivotChoice` at exact arithmetic (`R = Rat`).

On a column whose maximum is zero it reports `jcol+1` (`pivotChoice_of_zero`); otherwise it takes the position that
`prefer` — the preference order it shares with `ilu_?pivotL` — picks from what the scans found (`pivotChoice_pos`).
`pivotChoice_spec` says what is returned in either case; every other statement about the policy is read off these.
-/
namespace Slu.LU
open Slu

variable {K : Type} [Mag K Rat]

theorem isZero_rat (x : Rat) : IsZero.isZero x = true ↔ x = 0 := by
  simp [IsZero.isZero]

theorem scanPivAux_spec (cands : List (Nat × K)) (k : Nat) (acc : Rat × Nat) :
    acc.1 ≤ (scanPivAux cands k acc).1 ∧ (∀ c ∈ cands, (Mag.abs1 c.2 : Rat) ≤ (scanPivAux cands k acc).1) ∧
    (scanPivAux cands k acc = acc ∨
      ∃ i c, cands[i]? = some c ∧ scanPivAux cands k acc = (Mag.abs1 c.2, k + i)) := by
  induction cands generalizing k acc with
  | nil => exact ⟨le_refl _, fun _ hc => absurd hc List.not_mem_nil, Or.inl rfl⟩
  | cons c rest ih =>
    rw [scanPivAux]
    -- the accumulator after `c`: at least the old one, at least `|c|`, and the old one or `(|c|, k)`
    obtain ⟨acc', e, h1, h2, h3⟩ : ∃ acc', (if (Mag.abs1 c.2 : Rat) > acc.1 then (Mag.abs1 c.2, k) else acc) = acc' ∧
        acc.1 ≤ acc'.1 ∧ (Mag.abs1 c.2 : Rat) ≤ acc'.1 ∧ (acc' = acc ∨ acc' = (Mag.abs1 c.2, k)) := by
      refine ⟨_, rfl, ?_⟩
      split
      · rename_i hgt; exact ⟨le_of_lt hgt, le_refl _, Or.inr rfl⟩
      · rename_i hgt; exact ⟨le_refl _, not_lt.mp hgt, Or.inl rfl⟩
    rw [e]
    obtain ⟨g1, g2, g3⟩ := ih (k + 1) acc'
    refine ⟨le_trans h1 g1, ?_, ?_⟩
    · intro c' hc'
      rcases List.mem_cons.mp hc' with rfl | hc'
      · exact le_trans h2 g1
      · exact g2 c' hc'
    · rcases g3 with g3 | ⟨i, c', hc', g3⟩
      · rw [g3]
        rcases h3 with h3 | h3
        · exact Or.inl h3
        · exact Or.inr ⟨0, c, rfl, by rw [h3, Nat.add_zero]⟩
      · exact Or.inr ⟨i + 1, c', hc', by rw [g3, Nat.add_right_comm, Nat.add_assoc]⟩

theorem scanPiv_spec (cands : List (Nat × K)) :
    (∀ c ∈ cands, (Mag.abs1 c.2 : Rat) ≤ (scanPiv (R := Rat) cands).1) ∧ 0 ≤ (scanPiv (R := Rat) cands).1 ∧
    ((scanPiv (R := Rat) cands).1 = 0 ∨
      ∃ c, cands[(scanPiv (R := Rat) cands).2]? = some c ∧ (Mag.abs1 c.2 : Rat) = (scanPiv (R := Rat) cands).1) := by
  obtain ⟨h1, h2, h3⟩ := scanPivAux_spec cands 0 ((0 : Rat), 0)
  refine ⟨h2, h1, ?_⟩
  rcases h3 with h3 | ⟨i, c, hc, h3⟩
  · left; rw [scanPiv, h3]
  · right; rw [scanPiv, h3]; exact ⟨c, by simpa using hc, rfl⟩

omit [Mag K Rat] in
theorem findRowAux_spec (cands : List (Nat × K)) (r k : Nat) (acc : Option Nat) (a : Nat)
    (h : findRowAux cands r k acc = some a) :
    acc = some a ∨ ∃ i c, cands[i]? = some c ∧ c.1 = r ∧ a = k + i := by
  induction cands generalizing k acc with
  | nil => exact Or.inl h
  | cons c rest ih =>
    rw [findRowAux] at h
    rcases ih (k + 1) _ h with h1 | ⟨i, c', h2, h3, h4⟩
    · split at h1
      · rename_i hc
        exact Or.inr ⟨0, c, rfl, hc, by simpa using (Option.some.inj h1).symm⟩
      · exact Or.inl h1
    · exact Or.inr ⟨i + 1, c', h2, h3, by rw [h4, Nat.add_right_comm, Nat.add_assoc]⟩

omit [Mag K Rat] in
theorem findRow_spec (cands : List (Nat × K)) (r a : Nat) (h : findRow cands r = some a) :
    ∃ c, cands[a]? = some c ∧ c.1 = r := by
  rcases findRowAux_spec cands r 0 none a h with h1 | ⟨i, c, h2, h3, h4⟩
  · cases h1
  · exact ⟨c, by simpa [h4] using h2, h3⟩

theorem passes_spec (cands : List (Nat × K)) (thresh : Rat) (p : Nat) (h : passes cands thresh p = true) :
    ∃ c, cands[p]? = some c ∧ (Mag.abs1 c.2 : Rat) ≠ 0 ∧ thresh ≤ (Mag.abs1 c.2 : Rat) := by
  unfold passes at h
  split at h
  · rename_i c hc
    simp only [Bool.and_eq_true, Bool.not_eq_true', decide_eq_true_eq] at h
    exact ⟨c, hc, fun h0 => by rw [(isZero_rat _).mpr h0] at h; exact absurd h.1 (by simp), h.2⟩
  · cases h

/-- the preference order of `?pivotL` / `ilu_?pivotL`: the remembered position if it passes the test, else the diagonal
position if it passes, else the position of the maximum; the flag says whether the remembered row was kept -/
def prefer (old diag : Option Nat) (pass : Nat → Bool) (ptr : Nat) : Nat × Bool :=
  match old.filter pass with
  | some op => (op, true)
  | none => ((diag.filter pass).getD ptr, false)

theorem prefer_cases (old diag : Option Nat) (pass : Nat → Bool) (ptr : Nat) :
    (∃ op, old = some op ∧ pass op = true ∧ prefer old diag pass ptr = (op, true)) ∨
    (old.filter pass = none ∧ ∃ d, diag = some d ∧ pass d = true ∧ prefer old diag pass ptr = (d, false)) ∨
    (old.filter pass = none ∧ prefer old diag pass ptr = (ptr, false)) := by
  unfold prefer
  cases ho : old.filter pass with
  | some op =>
    obtain ⟨h1, h2⟩ := Option.filter_eq_some_iff.mp ho
    exact Or.inl ⟨op, h1, h2, rfl⟩
  | none =>
    right
    cases hd : diag.filter pass with
    | some d =>
      obtain ⟨h1, h2⟩ := Option.filter_eq_some_iff.mp hd
      exact Or.inl ⟨rfl, d, h1, h2, rfl⟩
    | none => exact Or.inr ⟨rfl, rfl⟩

/-- only the verdicts on the two recorded positions matter -/
theorem prefer_congr {old diag : Option Nat} {pass pass' : Nat → Bool} (ptr : Nat)
    (ho : ∀ k, old = some k → pass k = pass' k) (hd : ∀ k, diag = some k → pass k = pass' k) :
    prefer old diag pass ptr = prefer old diag pass' ptr := by
  have e : ∀ o : Option Nat, (∀ k, o = some k → pass k = pass' k) → o.filter pass = o.filter pass' := by
    intro o h
    cases o with
    | none => rfl
    | some k => rw [Option.filter_some, Option.filter_some, h k rfl]
  rw [prefer, prefer, e old ho, e diag hd]

theorem prefer_kept {old diag : Option Nat} {pass : Nat → Bool} {op : Nat} (ptr : Nat) (ho : old = some op)
    (hp : pass op = true) : prefer old diag pass ptr = (op, true) := by
  rw [prefer, ho, Option.filter_some, if_pos hp]

theorem prefer_snd_false {old diag : Option Nat} {pass : Nat → Bool} (ptr : Nat) (ho : old.filter pass = none) :
    (prefer old diag pass ptr).2 = false := by
  simp [prefer, ho]

theorem prefer_diag {old diag : Option Nat} {pass : Nat → Bool} {d : Nat} (ptr : Nat) (ho : old.filter pass = none)
    (hd : diag = some d) (hp : pass d = true) : prefer old diag pass ptr = (d, false) := by
  rw [prefer, ho, hd, Option.filter_some, if_pos hp]; rfl

/-- the result for the choice `c` (position, reuse flag) -/
def chosen (cands : List (Nat × K)) (oldRow : Nat) (c : Nat × Bool) : PivotOut :=
  { info := 0, pos := c.1, row := if c.2 then oldRow else (cands[c.1]?.map (·.1)).getD 0, usepr := c.2 }

theorem pivotChoice_pos {j : Nat} {cands : List (Nat × K)} {thr : Rat → Rat} {usepr : Bool} {oldRow diagRow : Nat}
    (h0 : (scanPiv (R := Rat) cands).1 ≠ 0) :
    pivotChoice (R := Rat) j cands thr usepr oldRow diagRow =
      chosen cands oldRow (prefer (if usepr then findRow cands oldRow else none) (findRow cands diagRow)
        (passes cands (thr (scanPiv (R := Rat) cands).1)) (scanPiv (R := Rat) cands).2) := by
  have hz : IsZero.isZero (scanPiv (R := Rat) cands).1 = false := by
    rw [← Bool.not_eq_true, isZero_rat]; exact h0
  simp only [pivotChoice, hz, Bool.false_eq_true, if_false, prefer, chosen]
  split
  · rename_i op ho; simp only [ho, if_true]
  · rename_i ho
    simp only [ho]
    cases hd : findRow cands diagRow with
    | none => rfl
    | some d => cases hp : passes cands (thr (scanPiv (R := Rat) cands).1) d <;> simp [Option.filter, hp]

theorem pivotChoice_of_zero {j : Nat} {cands : List (Nat × K)} {thr : Rat → Rat} {usepr : Bool} {oldRow diagRow : Nat}
    (h0 : (scanPiv (R := Rat) cands).1 = 0) :
    pivotChoice (R := Rat) j cands thr usepr oldRow diagRow =
      { info := j + 1, pos := (scanPiv (R := Rat) cands).2, row := 0, usepr := false } := by
  simp [pivotChoice, (isZero_rat _).mpr h0]

/-- For any threshold function and without assumptions on the magnitude.  The last clause: the reuse flag comes out
set only if it went in set and the remembered row was taken. -/
theorem pivotChoice_spec (j : Nat) (cands : List (Nat × K)) (thr : Rat → Rat) (usepr : Bool) (oldRow diagRow : Nat) :
    ((scanPiv (R := Rat) cands).1 = 0 ∧ pivotChoice (R := Rat) j cands thr usepr oldRow diagRow =
        { info := j + 1, pos := (scanPiv (R := Rat) cands).2, row := 0, usepr := false }) ∨
    ((scanPiv (R := Rat) cands).1 ≠ 0 ∧ ∃ pos c b, pivotChoice (R := Rat) j cands thr usepr oldRow diagRow =
        { info := 0, pos := pos, row := c.1, usepr := b } ∧
      cands[pos]? = some c ∧ (Mag.abs1 c.2 : Rat) ≠ 0 ∧
      (thr (scanPiv (R := Rat) cands).1 ≤ (Mag.abs1 c.2 : Rat) ∨ (Mag.abs1 c.2 : Rat) = (scanPiv (R := Rat) cands).1) ∧
      (b = true → usepr = true ∧ c.1 = oldRow)) := by
  by_cases h0 : (scanPiv (R := Rat) cands).1 = 0
  · exact Or.inl ⟨h0, pivotChoice_of_zero h0⟩
  refine Or.inr ⟨h0, ?_⟩
  rw [pivotChoice_pos h0]
  rcases prefer_cases (if usepr then findRow cands oldRow else none) (findRow cands diagRow)
    (passes cands (thr (scanPiv (R := Rat) cands).1)) (scanPiv (R := Rat) cands).2 with
    ⟨op, ho, hp, e⟩ | ⟨_, d, _, hp, e⟩ | ⟨_, e⟩
  · -- the remembered row: only looked for when the flag is set
    have hu : usepr = true ∧ findRow cands oldRow = some op := by
      cases usepr
      · cases ho
      · exact ⟨rfl, ho⟩
    obtain ⟨c, hc, hnz, hth⟩ := passes_spec cands _ op hp
    obtain ⟨c2, hc2, hrow⟩ := findRow_spec cands oldRow op hu.2
    rw [hc] at hc2; cases hc2
    exact ⟨op, c, true, by rw [e, chosen, if_pos rfl, hrow], hc, hnz, Or.inl hth, fun _ => ⟨hu.1, hrow⟩⟩
  · obtain ⟨c, hc, hnz, hth⟩ := passes_spec cands _ d hp
    exact ⟨d, c, false, by simp [e, chosen, hc], hc, hnz, Or.inl hth, fun h => by cases h⟩
  · rcases (scanPiv_spec cands).2.2 with hz | ⟨c, hc, hv⟩
    · exact absurd hz h0
    · exact ⟨_, c, false, by simp [e, chosen, hc], hc, by rw [hv]; exact h0, Or.inr hv, fun h => by cases h⟩

theorem scanPiv_eq_zero_iff (hnn : ∀ x : K, 0 ≤ (Mag.abs1 x : Rat)) (cands : List (Nat × K)) :
    (scanPiv (R := Rat) cands).1 = 0 ↔ ∀ c ∈ cands, (Mag.abs1 c.2 : Rat) = 0 := by
  obtain ⟨hmax, _, hatt⟩ := scanPiv_spec cands
  refine ⟨fun h0 c hc => le_antisymm (h0 ▸ hmax c hc) (hnn _), fun hall => ?_⟩
  rcases hatt with hz | ⟨c, hc, hv⟩
  · exact hz
  · exact hv ▸ hall c (List.mem_of_getElem? hc)

/-- what bounds every multiplier by `1/u` -/
theorem dominates_of_passes (cands : List (Nat × K)) (u : Rat) (hu0 : 0 ≤ u) (hu1 : u ≤ 1) (x : Rat)
    (h : u * (scanPiv (R := Rat) cands).1 ≤ x ∨ x = (scanPiv (R := Rat) cands).1) :
    ∀ c' ∈ cands, u * (Mag.abs1 c'.2 : Rat) ≤ x := by
  obtain ⟨hmax, hpos, _⟩ := scanPiv_spec cands
  have hx : u * (scanPiv (R := Rat) cands).1 ≤ x := h.elim id fun e => e.symm ▸ mul_le_of_le_one_left hpos hu1
  exact fun c' hc' => le_trans (mul_le_mul_of_nonneg_left (hmax c' hc') hu0) hx

end Slu.LU
