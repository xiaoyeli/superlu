import Slu.Model.PostorderNR
import SluProofs.Lemmas.ArrayBasic
import SluProofs.Lemmas.Forest
/-
C10 — the loop form `nr_etdfs` (Model/PostorderNR.lean) computes the recursive depth-first numbering
(`Slu.Order.order` / `treePostorder`) on every heap-ordered forest.

The push loop of TreePostorder threads the children of every vertex, in increasing order, through `next_kid`
(`IsList`, `KidsOK`).  Following such a list from any loop head whose next step reads its head pointer numbers the
subtrees of the children in turn, then the parent (`kids_walk`); both loop heads of `nr_etdfs` are of that kind, so the
walk from the outer head at `v` numbers the subtree of `v` in `order` (`sub_walk`), the dummy root included.
-/
namespace Slu.Order.NR
open Slu.Order

/-- numbers the vertices of a list consecutively from `p` -/
def writeList : Array Nat → List Nat → Nat → Array Nat
  | post, [], _ => post
  | post, u :: t, p => writeList (post.setIfInBounds u p) t (p + 1)

theorem writeList_append (post : Array Nat) (l1 l2 : List Nat) (p : Nat) :
    writeList post (l1 ++ l2) p = writeList (writeList post l1 p) l2 (p + l1.length) := by
  induction l1 generalizing post p with
  | nil => rfl
  | cons u t ih => rw [List.cons_append, writeList, ih, List.length_cons, Nat.add_right_comm, Nat.add_assoc]; rfl

@[simp] theorem writeList_size (post : Array Nat) (l : List Nat) (p : Nat) : (writeList post l p).size = post.size := by
  induction l generalizing post p with
  | nil => rfl
  | cons u t ih => rw [writeList, ih, Array.size_setIfInBounds]

theorem writeList_getD_of_not_mem (post : Array Nat) (l : List Nat) (p u : Nat) (h : u ∉ l) :
    (writeList post l p).getD u 0 = post.getD u 0 := by
  induction l generalizing post p with
  | nil => rfl
  | cons x t ih =>
    rw [List.mem_cons, not_or] at h
    rw [writeList, ih _ _ h.2, Slu.getD_setIfInBounds_ne _ _ _ fun e => h.1 e.symm]

theorem writeList_getD_of_mem (post : Array Nat) (l : List Nat) (p u : Nat) (hn : l.Nodup) (h : u ∈ l)
    (hu : u < post.size) : (writeList post l p).getD u 0 = p + l.idxOf u := by
  induction l generalizing post p with
  | nil => cases h
  | cons x t ih =>
    rw [List.nodup_cons] at hn
    rw [writeList]
    by_cases hx : x = u
    · subst hx
      rw [writeList_getD_of_not_mem _ _ _ _ hn.1, Slu.getD_setIfInBounds_self _ _ _ hu, List.idxOf_cons_self]
      rfl
    · rw [ih _ _ hn.2 ((List.mem_cons.mp h).resolve_left (Ne.symm hx)) (by simpa using hu),
        List.idxOf_cons_ne _ hx]
      omega

/-- `l` is the list threaded through `next` from the head pointer `h`, with -1 after its last element -/
def IsList (next : Array Int) : Int → List Nat → Prop
  | h, [] => h = -1
  | h, c :: cs => h = (c : Int) ∧ IsList next (next.getD c 0) cs

theorem IsList.frame {next : Array Int} {h : Int} {l : List Nat} (hl : IsList next h l) {v : Nat} (x : Int)
    (hv : v ∉ l) : IsList (next.setIfInBounds v x) h l := by
  induction l generalizing h with
  | nil => exact hl
  | cons c cs ih =>
    rw [List.mem_cons, not_or] at hv
    refine ⟨hl.1, ?_⟩
    rw [Slu.getD_setIfInBounds_ne _ _ _ hv.1]
    exact ih hl.2 hv.2

/-- what `nr_etdfs` needs from the work arrays: from `first_kid[d]`, `next_kid` threads the children of `d` in
increasing order, and the never-assigned slot `next_kid[n]` is not -1 -/
structure KidsOK (n : Nat) (parent : Array Nat) (K : Kids) : Prop where
  lists : ∀ d ≤ n, IsList K.next (K.first.getD d 0) (kids parent d)
  nextRoot : K.next.getD n 0 ≠ -1

variable {n : Nat} {parent : Array Nat} {next0 : Array Int} {K : Kids}

/-- the work arrays after the vertices of `l` have been pushed, last first: for every `d` the vertices of `l` whose
parent is `d` are threaded from `first_kid[d]` in the order of `l`; the slots of `next_kid` outside `l` are untouched -/
structure PInv (n : Nat) (parent : Array Nat) (next0 : Array Int) (l : List Nat) (K : Kids) : Prop where
  fsz : K.first.size = n + 1
  nsz : K.next.size = n + 1
  lists : ∀ d ≤ n, IsList K.next (K.first.getD d 0) (l.filter fun c => parent.getD c 0 == d)
  other : ∀ c, c ∉ l → K.next.getD c 0 = next0.getD c 0

/-- every push puts its vertex in front of the list of its parent; whatever the order of the pushes -/
theorem pinv_foldr (hs : next0.size = n + 1) (l : List Nat) (hn : l.Nodup)
    (hl : ∀ v ∈ l, v < n ∧ parent.getD v 0 ≤ n) :
    PInv n parent next0 l (l.foldr (fun v K => pushKid parent K v)
      { first := Array.replicate (n + 1) (-1), next := next0 }) := by
  induction l with
  | nil =>
    exact ⟨by simp, hs, fun d hd => by simp [IsList, Array.getD_eq_getD_getElem?, Nat.lt_succ_of_le hd], fun _ _ => rfl⟩
  | cons v l ih =>
    obtain ⟨hv, hn⟩ := List.nodup_cons.mp hn
    obtain ⟨hvn, hdad⟩ := hl v List.mem_cons_self
    have inv := ih hn fun x hx => hl x (List.mem_cons_of_mem _ hx)
    have hnot : ∀ d, v ∉ l.filter fun c => parent.getD c 0 == d := fun d hm => hv (List.mem_filter.mp hm).1
    rw [List.foldr_cons]
    generalize l.foldr _ _ = K at inv ⊢
    refine ⟨by simp [pushKid, inv.fsz], by simp [pushKid, inv.nsz], fun d hd => ?_, fun c hc => ?_⟩ <;>
      simp only [pushKid]
    · rw [List.filter_cons, Slu.getD_setIfInBounds]
      by_cases e : parent.getD v 0 = d
      · rw [if_pos ⟨e, by rw [inv.fsz]; omega⟩, if_pos (beq_iff_eq.mpr e)]
        refine ⟨rfl, ?_⟩
        rw [Slu.getD_setIfInBounds_self _ _ _ (by rw [inv.nsz]; omega), e]
        exact (inv.lists d hd).frame _ (hnot d)
      · rw [if_neg fun c => e c.1, if_neg fun c => e (beq_iff_eq.mp c)]
        exact (inv.lists d hd).frame _ (hnot d)
    · rw [List.mem_cons, not_or] at hc
      rw [Slu.getD_setIfInBounds_ne _ _ _ fun e => hc.1 e.symm]
      exact inv.other c hc.2

theorem buildKidsFrom_ok (next0 : Array Int) (h : Heap n parent)
    (hs : next0.size = n + 1) (hroot : next0.getD n 0 ≠ -1) : KidsOK n parent (buildKidsFrom next0 n parent) := by
  have inv := pinv_foldr (parent := parent) hs (List.range n) List.nodup_range fun v hv =>
    ⟨List.mem_range.mp hv, (h.lt (List.mem_range.mp hv)).2⟩
  rw [buildKidsFrom, List.foldl_reverse]
  exact ⟨fun d hd => filter_range_eq_kids h hd ▸ inv.lists d hd,
    (inv.other n fun c => Nat.lt_irrefl n (List.mem_range.mp c)).symm ▸ hroot⟩

theorem buildKids_ok (h : Heap n parent) : KidsOK n parent (buildKids n parent) :=
  buildKidsFrom_ok _ h (by simp) (by simp [Array.getD_eq_getD_getElem?])

theorem run_add (a b : Nat) (s : St) :
    run n parent K (a + b) s = run n parent K b (run n parent K a s) := by
  induction a generalizing s with
  | zero => rw [Nat.zero_add]; rfl
  | succ a ih => rw [Nat.succ_add]; exact ih _

theorem run_one (s : St) : run n parent K 1 s = step n parent K s := rfl

theorem run_done (k p : Nat) (post : Array Nat) :
    run n parent K k ⟨.done, p, post⟩ = ⟨.done, p, post⟩ := by
  induction k with
  | zero => rfl
  | succ k ih => exact ih

/-- the outer loop head below the exit test follows `first_kid` -/
theorem step_down {c p : Nat} (post : Array Nat) (hp : p ≠ n) :
    step n parent K ⟨.down c, p, post⟩ =
      if K.first.getD c 0 = -1 then ⟨.up c, p + 1, post.setIfInBounds c p⟩
      else ⟨.down (K.first.getD c 0).toNat, p, post⟩ := by
  simp only [step, if_neg hp]

/-- the inner loop head before the stopping criterion follows `next_kid` -/
theorem step_up {c p : Nat} (post : Array Nat) (hp : p ≠ n + 1) :
    step n parent K ⟨.up c, p, post⟩ =
      if K.next.getD c 0 = -1 then ⟨.up (parent.getD c 0), p + 1, post.setIfInBounds (parent.getD c 0) p⟩
      else ⟨.down (K.next.getD c 0).toNat, p, post⟩ := by
  simp only [step, if_neg hp]

/-- from the outer loop head at `c`, not yet at its exit, the machine numbers the subtree of `c` in `order` and stands
at the inner loop head of `c`; at most `2·size − 1` loop heads -/
def SubOK (n : Nat) (parent : Array Nat) (K : Kids) (c : Nat) : Prop :=
  ∀ p post, p < n → p + (order parent c).length ≤ n + 1 →
    ∃ k, k + 1 ≤ 2 * (order parent c).length ∧
      run n parent K k ⟨.down c, p, post⟩ =
        ⟨.up c, p + (order parent c).length, writeList post (order parent c) p⟩

/-- following the list `cs` of children of `d` from a loop head that reads its head pointer `h`: every subtree is
numbered in turn, then `d` -/
theorem kids_walk (d : Nat) (cs : List Nat)
    (hsub : ∀ x ∈ cs, SubOK n parent K x ∧ parent.getD x 0 = d) (h : Int) (hl : IsList K.next h cs) (s : St)
    (p : Nat) (post : Array Nat)
    (hs : step n parent K s =
      if h = -1 then ⟨.up d, p + 1, post.setIfInBounds d p⟩ else ⟨.down h.toNat, p, post⟩)
    (hp : p + (cs.flatMap (order parent)).length ≤ n) :
    ∃ k, k ≤ 2 * (cs.flatMap (order parent)).length ∧
      run n parent K (k + 1) s =
        ⟨.up d, p + (cs.flatMap (order parent)).length + 1,
          writeList post (cs.flatMap (order parent) ++ [d]) p⟩ := by
  induction cs generalizing h s p post with
  | nil => exact ⟨0, Nat.le_refl _, by rw [run_one, hs, if_pos (show h = -1 from hl)]; rfl⟩
  | cons c cs ih =>
    rw [List.flatMap_cons, List.length_append] at hp ⊢
    have hpos := order_length_pos parent c
    obtain ⟨k1, hk1, e1⟩ := (hsub c List.mem_cons_self).1 p post (by omega) (by omega)
    obtain ⟨k2, hk2, e2⟩ := ih (fun x hx => hsub x (List.mem_cons_of_mem _ hx)) _ hl.2
      ⟨.up c, p + (order parent c).length, writeList post (order parent c) p⟩ _ _
      (by rw [step_up _ (by omega), (hsub c List.mem_cons_self).2]) (by omega)
    refine ⟨1 + k1 + k2, by omega, ?_⟩
    rw [show 1 + k1 + k2 + 1 = 1 + (k1 + (k2 + 1)) by omega, run_add, run_one, hs, hl.1,
      if_neg (by omega), Int.toNat_natCast, run_add, e1, e2, List.append_assoc, writeList_append post]
    simp only [Nat.add_assoc]

theorem sub_walk (ok : KidsOK n parent K) (v : Nat) (hv : v ≤ n) :
    SubOK n parent K v := by
  induction v using Nat.strong_induction_on with
  | _ v ih =>
    intro p post hp hlen
    rw [order_eq, List.length_append, List.length_singleton] at hlen ⊢
    obtain ⟨k, hk, e⟩ := kids_walk v (kids parent v)
      (fun x hx => have := (mem_kids parent v x).mp hx; ⟨ih x this.1 (by omega), this.2⟩) _ (ok.lists v hv) _ p post
      (step_down post (Nat.ne_of_lt hp)) (by omega)
    exact ⟨k + 1, by omega, e⟩

theorem writeList_order_eq_treePostorder (h : Heap n parent) :
    writeList (Array.replicate (n + 1) 0) (order parent n) 0 = treePostorder n parent := by
  refine Slu.ext_getElem! _ _ (by simp [treePostorder_size]) fun i hi => ?_
  have hi : i ≤ n := by simp at hi; omega
  exact (writeList_getD_of_mem _ _ 0 i (nodup_order parent n) (all_mem_order h i hi) (by simp; omega)).trans
    ((Nat.zero_add _).trans (treePostorder_getD n parent i hi).symm)

theorem nrEtdfs_eq (h : Heap n parent) (ok : KidsOK n parent K) :
    (nrEtdfs n parent K).mode = .done ∧ (nrEtdfs n parent K).post = treePostorder n parent := by
  rw [← writeList_order_eq_treePostorder h]
  unfold nrEtdfs
  by_cases hn : n = 0
  · subst hn
    rw [order_eq]
    simp [run, step, kids, writeList]
  · obtain ⟨k, hk, e⟩ := sub_walk ok n (Nat.le_refl n) 0 (Array.replicate (n + 1) 0) (by omega)
      (by rw [order_length h]; omega)
    rw [order_length h] at hk e
    -- at the inner loop head of the dummy root `next_kid[n] ≠ -1` and `postnum = n + 1`: the stopping criterion
    have hexit : ∀ post, step n parent K ⟨.up n, n + 1, post⟩ = ⟨.done, n + 1, post⟩ := fun post => by
      simp only [step, ok.nextRoot, if_false, if_true]
    rw [show 2 * n + 3 = k + (1 + (2 * n + 2 - k)) by omega, run_add, e, run_add, run_one,
      Nat.zero_add, hexit, run_done]
    exact ⟨rfl, rfl⟩

end Slu.Order.NR
