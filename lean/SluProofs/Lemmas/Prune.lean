import SluProofs.Lemmas.DfsTopo
import SluProofs.Lemmas.SymbSound
/-
SYMMETRIC PRUNING (Eisenstat–Liu; SRC/[sdcz]pruneL.c, consumed by [sdcz]column_dfs.c / panel_dfs.c through
`xprune`) does not change what the depth-first searches reach, nor the schedule they produce.

Rows are in PIVOT numbering (row `r` is pivotal in column `r`).  `struct k r` : row `r` belongs to
struct(L_k) below the diagonal.  After column `c` has been factored, [sdcz]pruneL looks at every column
`k` in the U-structure of `c` (`segrep`, `repfnz ≠ EMPTY`) that is not pruned yet
(`xprune[k] >= xlsub[k+1]`) and whose structure contains the pivot row of `c`: a SYMMETRIC PAIR
(`U(k,c) ≠ 0` and `L(c,k) ≠ 0` structurally).  It partitions the row list of `k` so that the rows that
are pivotal by now (`perm_r ≠ EMPTY`: rows `≤ c`) come first and sets `xprune[k]` behind them.  All later
searches scan `xlsub[k] .. xprune[k]-1` only — both for the pivotal rows they FOLLOW and for the
non-pivotal rows they COLLECT as new rows of L.  A column is pruned once, at the first symmetric pair met.

Here `p k = some c` says "the list of `k` has been cut at column `c`"; the only thing assumed about `p`
is `PruneOk`: `k < c`, `c ∈ struct k`, and the FILL PROPERTY for that pair, `r ∈ struct k, r > c ⟹
r ∈ struct c`.  For the symbolic structure the fill property holds for every `k` in the U-structure of
`c` (`fillSym_colStruct`, read off `ColReach.step`), so ANY choice of symmetric pairs is allowed, not
only the least one (`pruneOk_of_symPair`).
-/
namespace Slu.Symb

/-- a cut column survives its own cut -/
theorem cut_le {p : Nat → Option Nat} {k c : Nat} (h : p k = some c) (c' : Nat) (h' : p k = some c') : c ≤ c' :=
  Nat.le_of_eq (Option.some.inj (h.symm.trans h'))

/-! ### pruning on relations -/

/-- **symmetric pair** `(k, j)`: `k < j`, the pivot row of `j` lies in struct(L_k) and `k` lies in the
structure of `U(:,j)` -/
def SymPair (struct ustruct : Nat → Nat → Prop) (k j : Nat) : Prop := k < j ∧ struct k j ∧ ustruct j k

/-- **fill property (F)** for symmetric pairs: the part of struct(L_k) below row `j` is inside struct(L_j) -/
def FillSym (struct ustruct : Nat → Nat → Prop) : Prop :=
  ∀ k j, SymPair struct ustruct k j → ∀ r, struct k r → j < r → struct j r

/-- what the theorems need of the cuts `p` (`p k = some c`: the list of `k` was cut at column `c`) -/
def PruneOk (struct : Nat → Nat → Prop) (p : Nat → Option Nat) : Prop :=
  ∀ k c, p k = some c → k < c ∧ struct k c ∧ ∀ r, struct k r → c < r → struct c r

theorem pruneOk_of_symPair {struct ustruct : Nat → Nat → Prop} {p : Nat → Option Nat}
    (hF : FillSym struct ustruct) (hp : ∀ k c, p k = some c → SymPair struct ustruct k c) :
    PruneOk struct p :=
  fun k c h => ⟨(hp k c h).1, (hp k c h).2.1, hF k c (hp k c h)⟩

section rel
variable (struct : Nat → Nat → Prop) (p : Nat → Option Nat)

/-- the row list of column `k` as scanned by the search for column `t`: cut at `c` when `p k = some c`
and column `c` is already factored (`c < t`) -/
def PrunedStruct (t k r : Nat) : Prop := struct k r ∧ ∀ c, p k = some c → c < t → r ≤ c

/-- edge of the full graph of the search for column `t`: `r < t` is a pivotal row of struct(L_k) -/
def FullEdge (t k r : Nat) : Prop := k < t ∧ r < t ∧ struct k r

def PrunedEdge (t k r : Nat) : Prop := k < t ∧ r < t ∧ PrunedStruct struct p t k r

variable {struct p}

theorem PrunedEdge.full {t k r : Nat} (h : PrunedEdge struct p t k r) : FullEdge struct t k r :=
  ⟨h.1, h.2.1, h.2.2.1⟩

/-- **The detour.** A row `r` (pivotal or not) of the full list of a column `k < t` is in the PRUNED list
of a column `k'` that the pruned graph reaches from `k`: `k' = k` if `r` survived the cut, otherwise follow
the cut columns `k → c → c' → …` (each edge `k → c` survives since `c ≤ c`; `r ∈ struct c` by (F)); the
cut columns increase and stay below `t`. -/
theorem prune_detour (hp : PruneOk struct p) (t : Nat) {k r : Nat} (hk : k < t) (hr : struct k r) :
    ∃ k', Relation.ReflTransGen (PrunedEdge struct p t) k k' ∧ k' < t ∧ PrunedStruct struct p t k' r := by
  induction hd : t - k using Nat.strong_induction_on generalizing k with
  | _ d ih =>
    by_cases hcut : ∃ c, p k = some c ∧ c < t ∧ c < r
    · obtain ⟨c, hpk, hct, hcr⟩ := hcut
      obtain ⟨hkc, hsc, hfill⟩ := hp k c hpk
      obtain ⟨k', hpath, hk', hs⟩ := ih (t - c) (by omega) hct (hfill r hr hcr) rfl
      exact ⟨k', Relation.ReflTransGen.head ⟨hk, hct, hsc, fun c' hc' _ => cut_le hpk c' hc'⟩ hpath, hk', hs⟩
    · exact ⟨k, Relation.ReflTransGen.refl, hk, hr, fun c hc hct => Nat.le_of_not_lt fun hcr => hcut ⟨c, hc, hct, hcr⟩⟩

theorem prune_reach (hp : PruneOk struct p) (t a b : Nat) :
    Relation.ReflTransGen (PrunedEdge struct p t) a b ↔ Relation.ReflTransGen (FullEdge struct t) a b := by
  constructor
  · exact Relation.ReflTransGen.mono (fun _ _ h => PrunedEdge.full h) _ _
  · intro h
    induction h with
    | refl => exact Relation.ReflTransGen.refl
    | tail _ hbc ih =>
      obtain ⟨k', hpath, hk', hs⟩ := prune_detour hp t hbc.1 hbc.2.2
      exact (ih.trans hpath).tail ⟨hk', hbc.2.1, hs⟩

variable (struct p)

/-- rows met by the search for column `t` from `roots` on the FULL lists: the rows `own` of the column
itself and every row of the list of a reached column -/
def HitsFull (t : Nat) (roots own : Nat → Prop) (r : Nat) : Prop :=
  own r ∨ ∃ s k, roots s ∧ Relation.ReflTransGen (FullEdge struct t) s k ∧ k < t ∧ struct k r

def HitsPruned (t : Nat) (roots own : Nat → Prop) (r : Nat) : Prop :=
  own r ∨ ∃ s k, roots s ∧ Relation.ReflTransGen (PrunedEdge struct p t) s k ∧ k < t ∧ PrunedStruct struct p t k r

variable {struct p}

theorem prune_hits (hp : PruneOk struct p) (t : Nat) (roots own : Nat → Prop) (r : Nat) :
    HitsPruned struct p t roots own r ↔ HitsFull struct t roots own r := by
  constructor
  · rintro (h | ⟨s, k, hs, hpath, hk, hr⟩)
    · exact Or.inl h
    · exact Or.inr ⟨s, k, hs, (prune_reach hp t s k).mp hpath, hk, hr.1⟩
  · rintro (h | ⟨s, k, hs, hpath, hk, hr⟩)
    · exact Or.inl h
    · obtain ⟨k', hpath', hk', hs'⟩ := prune_detour hp t hk hr
      exact Or.inr ⟨s, k', hs, ((prune_reach hp t s k).mpr hpath).trans hpath', hk', hs'⟩

end rel

/-! ### the column-level symbolic factorization is what the (pruned) search computes -/

/-- struct(L_k) below the diagonal, column level -/
def LStruct (cols : Nat → List Nat) (k r : Nat) : Prop := k < r ∧ ColReach cols k r
/-- struct(U(:,j)) above the diagonal, column level -/
def UStruct (cols : Nat → List Nat) (j k : Nat) : Prop := k < j ∧ ColReach cols j k

theorem lStruct_iff_colStruct (cols : Nat → List Nat) (k r : Nat) : LStruct cols k r ↔ (ColStruct cols k r ∧ r ≠ k) := by
  unfold LStruct ColStruct
  constructor
  · rintro ⟨h1, h2⟩; exact ⟨Or.inr ⟨h1, h2⟩, by omega⟩
  · rintro ⟨h | h, hne⟩
    · exact absurd h hne
    · exact h

theorem uStruct_iff_colUStruct (cols : Nat → List Nat) (j k : Nat) : UStruct cols j k ↔ (ColUStruct cols j k ∧ k ≠ j) := by
  unfold UStruct ColUStruct
  constructor
  · rintro ⟨h1, h2⟩; exact ⟨Or.inr ⟨h1, h2⟩, by omega⟩
  · rintro ⟨h | h, hne⟩
    · exact absurd h hne
    · exact h

/-- **(F) holds for the symbolic structure**: it is `ColReach.step` (only `k ∈ ustruct j` is used) -/
theorem fillSym_colStruct (cols : Nat → List Nat) : FillSym (LStruct cols) (UStruct cols) := by
  rintro k j ⟨hkj, _, _, hjk⟩ r ⟨hkr, hr⟩ hjr
  exact ⟨hjr, ColReach.step hjk hkj hkr hr⟩

/-- `ColReach cols t` is exactly the set of rows met by the search for column `t` on the full lists:
roots = the pivotal rows `s < t` of `B(:,t)`, own rows = all rows of `B(:,t)`. -/
theorem colReach_iff_search (cols : Nat → List Nat) (t r : Nat) :
    ColReach cols t r ↔ HitsFull (LStruct cols) t (fun s => s ∈ cols t ∧ s < t) (fun r => r ∈ cols t) r := by
  constructor
  · intro h
    induction h with
    | base h => exact Or.inl h
    | @step j k r _ hkj hkr h2 ih1 _ =>
      rcases ih1 with h | ⟨s, k0, hs, hpath, hk0, hk0k⟩
      · exact Or.inr ⟨k, k, ⟨h, hkj⟩, Relation.ReflTransGen.refl, hkj, hkr, h2⟩
      · exact Or.inr ⟨s, k, hs, hpath.tail ⟨hk0, hkj, hk0k⟩, hkj, hkr, h2⟩
  · have hreach : ∀ s k, s ∈ cols t → Relation.ReflTransGen (FullEdge (LStruct cols) t) s k → ColReach cols t k := by
      intro s k hs hpath
      induction hpath with
      | refl => exact ColReach.base hs
      | tail _ hbc ih => exact ColReach.step ih hbc.1 hbc.2.2.1 hbc.2.2.2
    rintro (h | ⟨s, k, ⟨hs, hst⟩, hpath, hk, hkr, hr⟩)
    · exact ColReach.base h
    · exact ColReach.step (hreach s k hs hpath) hk hkr hr

/-- **Pruned search = symbolic factorization.** With the lists cut at ANY symmetric pairs of the
symbolic structure, the search for column `t` still meets exactly `ColReach cols t`: the pivotal rows
`< t` (structure of `U(:,t)`) and the non-pivotal rows `≥ t` (structure of `L(:,t)`). -/
theorem colReach_iff_prunedSearch (cols : Nat → List Nat) (p : Nat → Option Nat)
    (hp : ∀ k c, p k = some c → SymPair (LStruct cols) (UStruct cols) k c) (t r : Nat) :
    ColReach cols t r ↔
      HitsPruned (LStruct cols) p t (fun s => s ∈ cols t ∧ s < t) (fun r => r ∈ cols t) r := by
  rw [prune_hits (pruneOk_of_symPair (fillSym_colStruct cols) hp)]
  exact colReach_iff_search cols t r

end Slu.Symb

/-! ### the executable search on pruned adjacency lists -/
namespace Slu.LU
open Slu List

def keepRow (c : Option Nat) (r : Nat) : Bool :=
  match c with
  | none => true
  | some c => decide (r ≤ c)

/-- the adjacency lists cut by `p`: what `xlsub[k] .. xprune[k]-1` holds -/
def pruneAdj (p : Nat → Option Nat) (adj : Nat → List Nat) (k : Nat) : List Nat :=
  (adj k).filter (keepRow (p k))

/-- `Symb.PruneOk` on adjacency lists, without `k < c` (`TopoClosed.unprune` needs no bound on the edges) -/
def PruneOkAdj (adj : Nat → List Nat) (p : Nat → Option Nat) : Prop :=
  ∀ k c, p k = some c → c ∈ adj k ∧ ∀ r ∈ adj k, c < r → r ∈ adj c

theorem mem_pruneAdj (p : Nat → Option Nat) (adj : Nat → List Nat) (k r : Nat) :
    r ∈ pruneAdj p adj k ↔ r ∈ adj k ∧ ∀ c, p k = some c → r ≤ c := by
  unfold pruneAdj keepRow
  rw [mem_filter]
  cases p k with
  | none => simp
  | some c => simp

theorem pruneAdj_subset (p : Nat → Option Nat) (adj : Nat → List Nat) (k r : Nat) (h : r ∈ pruneAdj p adj k) :
    r ∈ adj k := ((mem_pruneAdj p adj k r).mp h).1

theorem pruneAdj_sublist (p : Nat → Option Nat) (adj : Nat → List Nat) (k : Nat) : pruneAdj p adj k <+ adj k :=
  filter_sublist

section graph
variable {adj : Nat → List Nat} {p : Nat → Option Nat}

/-- a list that is successor-closed and topologically ordered for the CUT lists is so for the FULL lists: a
successor `r` of `k` that was cut off lies beyond the cut column `c`; `c` is behind `k`, `r` is a successor of `c`
(fill property of the pair), and what is behind `k` is closed under the full lists already.  No bound on the
edges is needed. -/
theorem TopoClosed.unprune (hp : PruneOkAdj adj p) : ∀ {L : List Nat}, TopoClosed (pruneAdj p adj) L → TopoClosed adj L
  | [], _ => trivial
  | k :: B, h => by
    have hB := TopoClosed.unprune hp h.2
    refine ⟨fun r hr => ?_, hB⟩
    by_cases hc : ∀ c, p k = some c → r ≤ c
    · exact h.1 r ((mem_pruneAdj p adj k r).mpr ⟨hr, hc⟩)
    · obtain ⟨c, hc⟩ := Classical.not_forall.mp hc
      obtain ⟨hpk, hcr⟩ := Classical.not_imp.mp hc
      have hcB : c ∈ B := h.1 c ((mem_pruneAdj p adj k c).mpr ⟨(hp k c hpk).1, Symb.cut_le hpk⟩)
      exact hB.closed c hcB r ((hp k c hpk).2 r hr (Nat.lt_of_not_le hcr))

variable {j : Nat} (hadj : ∀ k, ∀ r ∈ adj k, k < r ∧ r < j)
include hadj

theorem pruneAdj_bound : ∀ k, ∀ r ∈ pruneAdj p adj k, k < r ∧ r < j :=
  fun k r hr => hadj k r (pruneAdj_subset p adj k r hr)

/-- **The search on the cut lists is a search of the FULL graph**: its result meets the specification `DfsStep` of
the search on `adj` — what it lists is reachable along `adj` (the cut lists are sublists), it is closed and
topologically ordered for `adj`, also for the edges that were cut (`TopoClosed.unprune`). -/
theorem dfsRevPost_pruneAdj_step (hp : PruneOkAdj adj p) (roots : List Nat) (hroots : ∀ r ∈ roots, r < j) :
    DfsStep adj roots [] (dfsRevPost j (pruneAdj p adj) roots) :=
  have h := dfsRevPost_step (pruneAdj_bound hadj) roots hroots
  ⟨h.ext.imp fun _ hn => ⟨hn.1, fun x hx => (hn.2 x hx).imp fun _ hs =>
      ⟨hs.1, Relation.ReflTransGen.mono (fun a b => pruneAdj_subset p adj a b) _ _ hs.2⟩⟩,
    h.nodup, h.topo.unprune hp, h.mem⟩

end graph

end Slu.LU
