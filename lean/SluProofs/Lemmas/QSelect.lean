import Slu.Model.QSelect
import SluProofs.Lemmas.ArrayBasic
import Mathlib.Order.Basic
import Mathlib.Algebra.Order.Field.Rat
/-
C15 — `[sd]qselect` (Slu/Model/QSelect.lean): termination for every asymmetric `<` (Float with NaN, Float32, Rat),
the array afterwards is a permutation of the array before; for every strict weak order the entry returned splits that array at
position `k` (`qselect_split`), which over `Rat` makes it the element of rank k of the descending order (`rank_of_split`).
-/
namespace Slu

theorem setIfInBounds_swap {α : Type} [Inhabited α] (a : Array α) {i j : Nat} (hi : i < a.size) (hj : j < a.size) :
    (a.setIfInBounds i a[j]!).setIfInBounds j a[i]! = a.swap i j hi hj := by
  simp [Array.swap, Array.setIfInBounds, hi, hj]

/-- an array with a hole at `a` to be filled with `v`: filling the hole from `b` and leaving the hole at `b` exchanges
two entries of the filled array -/
theorem hole_move {α : Type} [Inhabited α] (A : Array α) {a b : Nat} (v : α) (ha : a < A.size) (hb : b < A.size) :
    ((A.setIfInBounds a A[b]!).setIfInBounds b v).Perm (A.setIfInBounds a v) := by
  by_cases hab : a = b
  · subst hab; simp
  · have h := Array.swap_perm (xs := A.setIfInBounds a v) (i := a) (j := b) (by simpa using ha) (by simpa using hb)
    rw [← setIfInBounds_swap, getElem!_setIfInBounds_ne _ _ hab, getElem!_setIfInBounds_self _ _ ha] at h
    simpa using h

end Slu

namespace Slu.QSelect

variable {R : Type} [Inhabited R] [LT R] [DecidableLT R]

/-- what the two scans have established of the window `A[lo .. lo+n)` of an array that started as `A0`, and what a store into
the hole keeps: nothing `< val` before `i`, nothing `> val` after `j`, the outside untouched, every entry of the window an entry
of the window of `A0` (all that `Parted.split` needs of the permutation) -/
structure Scanned (A0 : Array R) (lo n : Nat) (val : R) (i j : Nat) (A : Array R) : Prop where
  left : ∀ x, x < i → ¬ A[lo + x]! < val
  right : ∀ x, j < x → x < n → ¬ val < A[lo + x]!
  out : ∀ y, (y < lo ∨ lo + n ≤ y) → A[y]! = A0[y]!
  vals : ∀ t, lo ≤ t → t < lo + n → ∃ t', lo ≤ t' ∧ t' < lo + n ∧ A[t]! = A0[t']!

omit [DecidableLT R] in
/-- a value of the window of `A0` stored between the two pointers -/
theorem Scanned.store {A0 A : Array R} {lo n i j p : Nat} {val : R} (h : Scanned A0 lo n val i j A) (hip : i ≤ p) (hpj : p ≤ j)
    (hjn : j < n) (hsz : lo + n ≤ A.size) (v : R) (hv : ∃ t', lo ≤ t' ∧ t' < lo + n ∧ v = A0[t']!) :
    Scanned A0 lo n val i j (A.setIfInBounds (lo + p) v) := by
  refine ⟨fun x hx => ?_, fun x h1 h2 => ?_, fun y hy => ?_, fun t t1 t2 => ?_⟩
  · rw [getElem!_setIfInBounds_ne _ _ (by omega)]; exact h.left x hx
  · rw [getElem!_setIfInBounds_ne _ _ (by omega)]; exact h.right x h1 h2
  · rw [getElem!_setIfInBounds_ne _ _ (by omega)]; exact h.out y hy
  · by_cases htp : lo + p = t
    · rw [← htp, getElem!_setIfInBounds_self _ _ (by omega)]; exact hv
    · rw [getElem!_setIfInBounds_ne _ _ htp]; exact h.vals t t1 t2

/-- invariant of `while (i < j)`: `A0` is the array when the partition starts (with `A0[lo+n-1] = val`); position `p`
is a hole, to be filled with `val` -/
structure PInv (A0 : Array R) (lo n : Nat) (val : R) (s : PSt R) : Prop extends Scanned A0 lo n val s.i s.j s.A where
  size : s.A.size = A0.size
  win : lo + n ≤ A0.size
  ip : s.i ≤ s.p
  pj : s.p ≤ s.j
  jn : s.j < n
  perm : (s.A.setIfInBounds (lo + s.p) val).Perm A0

variable {A0 : Array R} {lo n : Nat} {val : R} {s : PSt R}

omit [DecidableLT R] in
/-- `A[p] = A[q]; p = q` for any `q` between the two pointers -/
theorem PInv.move (h : PInv A0 lo n val s) (q : Nat) (hq1 : s.i ≤ q) (hq2 : q ≤ s.j) :
    PInv A0 lo n val { s with A := s.A.setIfInBounds (lo + s.p) s.A[lo + q]!, p := q } := by
  have hs := h.size; have hw := h.win; have hp := h.pj; have hj := h.jn
  exact { toScanned := h.toScanned.store h.ip hp hj (by omega) _ (h.vals (lo + q) (Nat.le_add_right _ _) (by omega)),
          size := by simpa using hs, win := hw, ip := hq1, pj := hq2, jn := hj,
          perm := (hole_move s.A val (by omega) (by omega)).trans h.perm }

theorem scanUp_inv {A : Array R} {j p : Nat} (f i : Nat) (hf : p - i ≤ f) (h : PInv A0 lo n val ⟨A, i, j, p⟩) :
    PInv A0 lo n val ⟨A, scanUp A lo val p f i, j, p⟩ ∧ i ≤ scanUp A lo val p f i ∧
    (scanUp A lo val p f i = p ∨ A[lo + scanUp A lo val p f i]! < val) := by
  fun_induction scanUp A lo val p f i with
  | case1 i => exact ⟨h, Nat.le_refl _, Or.inl (Nat.le_antisymm h.ip (Nat.le_of_sub_eq_zero (Nat.le_zero.mp hf)))⟩
  | case2 f i hc ih =>
    obtain ⟨a, b, c⟩ := ih (by omega) { h with ip := hc.2, left := fun x hx =>
      (Nat.eq_or_lt_of_le (Nat.le_of_lt_succ hx)).elim (· ▸ hc.1) (h.left x) }
    exact ⟨a, Nat.le_of_succ_le b, c⟩
  | case3 f i hc =>
    exact ⟨h, Nat.le_refl _, (Nat.eq_or_lt_of_le h.ip).imp_right fun hlt => Decidable.not_not.mp fun hn => hc ⟨hn, hlt⟩⟩

theorem scanDown_inv {A : Array R} {i p : Nat} (f j : Nat) (hf : j - p ≤ f) (h : PInv A0 lo n val ⟨A, i, j, p⟩) :
    PInv A0 lo n val ⟨A, i, scanDown A lo val p f j, p⟩ ∧ scanDown A lo val p f j ≤ j ∧
    (scanDown A lo val p f j = p ∨ val < A[lo + scanDown A lo val p f j]!) := by
  fun_induction scanDown A lo val p f j with
  | case1 j => exact ⟨h, Nat.le_refl _, Or.inl (Nat.le_antisymm (Nat.le_of_sub_eq_zero (Nat.le_zero.mp hf)) h.pj)⟩
  | case2 f j hc ih =>
    have hj := h.jn
    obtain ⟨a, b, c⟩ := ih (by omega) { h with
      pj := Nat.le_sub_one_of_lt hc.2, jn := Nat.lt_of_le_of_lt (Nat.sub_le _ _) hj
      right := fun x (x1 : j - 1 < x) x2 => (Nat.eq_or_lt_of_le (show j ≤ x by omega)).elim (· ▸ hc.1) (h.right x · x2) }
    exact ⟨a, Nat.le_trans b (Nat.sub_le _ _), c⟩
  | case3 f j hc =>
    exact ⟨h, Nat.le_refl _, (Nat.eq_or_lt_of_le h.pj).imp Eq.symm fun hlt => Decidable.not_not.mp fun hn => hc ⟨hn, hlt⟩⟩

/-- first half of the loop body: the upward scan and `if (A[i] < val) { A[p] = A[i]; p = i; }` -/
def stepL (lo : Nat) (val : R) (s : PSt R) : PSt R :=
  let i := scanUp s.A lo val s.p (s.p - s.i) s.i
  { A := if s.A[lo + i]! < val then s.A.setIfInBounds (lo + s.p) s.A[lo + i]! else s.A, i := i, j := s.j,
    p := if s.A[lo + i]! < val then i else s.p }

/-- second half: the downward scan and `if (A[j] > val) { A[p] = A[j]; p = j; }` -/
def stepR (lo : Nat) (val : R) (s : PSt R) : PSt R :=
  let j := scanDown s.A lo val s.p (s.j - s.p) s.j
  { A := if val < s.A[lo + j]! then s.A.setIfInBounds (lo + s.p) s.A[lo + j]! else s.A, i := s.i, j := j,
    p := if val < s.A[lo + j]! then j else s.p }

theorem partStep_eq (lo : Nat) (val : R) (s : PSt R) : partStep lo val s = stepR lo val (stepL lo val s) := rfl

/-- after the first half the hole is at `i`, unless the scan stopped at an entry `< val`, which was then moved to the
old hole -/
theorem stepL_inv (h : PInv A0 lo n val s) :
    PInv A0 lo n val (stepL lo val s) ∧ (stepL lo val s).p = (stepL lo val s).i ∧ s.i ≤ (stepL lo val s).i ∧
    ((stepL lo val s).i < s.p → (stepL lo val s).A[lo + s.p]! < val) := by
  obtain ⟨hI, u1, u4⟩ := scanUp_inv (s.p - s.i) s.i (Nat.le_refl _) h
  unfold stepL
  generalize scanUp s.A lo val s.p (s.p - s.i) s.i = i' at *
  by_cases hm : s.A[lo + i']! < val
  · simp only [hm, if_true]
    refine ⟨hI.move i' (Nat.le_refl _) (Nat.le_trans hI.ip h.pj), trivial, u1, fun _ => ?_⟩
    rw [getElem!_setIfInBounds_self _ _ (by have := h.size; have := h.win; have := h.pj; have := h.jn; omega)]
    exact hm
  · simp only [hm, if_false]
    obtain rfl : i' = s.p := u4.resolve_right hm
    exact ⟨hI, rfl, u1, fun hlt => absurd hlt (Nat.lt_irrefl _)⟩

/-- the second half leaves the hole at `j`, unless the scan came down to the hole; it passes `j` if `A[j] > val` fails -/
theorem stepR_inv (h : PInv A0 lo n val s) :
    PInv A0 lo n val (stepR lo val s) ∧ (stepR lo val s).j ≤ s.j ∧
    ((stepR lo val s).j = s.p ∨ (stepR lo val s).p = (stepR lo val s).j) ∧
    (¬ val < s.A[lo + s.j]! → s.p < s.j → (stepR lo val s).j < s.j) := by
  obtain ⟨hJ, u2, u4⟩ := scanDown_inv (s.j - s.p) s.j (Nat.le_refl _) h
  unfold stepR
  generalize scanDown s.A lo val s.p (s.j - s.p) s.j = j' at *
  have hprog : ¬ val < s.A[lo + s.j]! → s.p < s.j → j' < s.j := fun h1 h2 =>
    Nat.lt_of_le_of_ne u2 fun e => u4.elim (fun e' => by omega) (fun hv => h1 (e ▸ hv))
  by_cases hm : val < s.A[lo + j']!
  · simp only [hm, if_true]
    exact ⟨hJ.move j' (Nat.le_trans h.ip hJ.pj) (Nat.le_refl _), u2, Or.inr trivial, hprog⟩
  · simp only [hm, if_false]
    exact ⟨hJ, u2, Or.inl (u4.resolve_right hm), hprog⟩

/-- the loop with fuel `f` runs to `¬ i < j` keeping `PInv`.  The hypothesis is the whole idea: at the loop head the hole
is at `j` (`p = j`), and the distance `j - i`, which every turn shrinks, is below the fuel -/
theorem partLoop_spec (hasym : ∀ a b : R, a < b → ¬ b < a) (f : Nat) (s : PSt R) (h : PInv A0 lo n val s)
    (hf : s.i < s.j → s.p = s.j ∧ s.j - s.i < f) :
    (partLoop lo val f s).2 = true ∧ PInv A0 lo n val (partLoop lo val f s).1 ∧
    ¬ (partLoop lo val f s).1.i < (partLoop lo val f s).1.j := by
  fun_induction partLoop lo val f s with
  | case1 s =>
    have : ¬ s.i < s.j := fun h' => Nat.not_lt_zero _ (hf h').2
    exact ⟨decide_eq_true this, h, this⟩
  | case2 f s hij ih =>
    obtain ⟨hp, hf'⟩ := hf hij
    obtain ⟨hL, l1, l2, l4⟩ := stepL_inv h
    obtain ⟨hR, r2, r3, r4⟩ := stepR_inv hL
    rw [partStep_eq] at ih ⊢
    refine ih hR fun hlt => ?_
    have e1 : (stepR lo val (stepL lo val s)).i = (stepL lo val s).i := rfl
    have e2 : (stepL lo val s).j = s.j := rfl
    -- `i` stopped below the hole `p = j`, so `A[j]` now holds an entry `< val` and the downward scan passes it
    have h3 : ¬ val < (stepL lo val s).A[lo + (stepL lo val s).j]! := by
      rw [e2, ← hp]; exact hasym _ _ (l4 (by omega))
    have := r4 h3 (by omega)
    exact ⟨r3.resolve_left (by omega), by omega⟩
  | case3 f s hij => exact ⟨rfl, h, hij⟩

/-- what `partition` leaves of the window `A[lo .. lo+n)`: `A'` with the pivot `A[lo+n-1]` at `lo + p` -/
structure Parted (A : Array R) (lo n : Nat) (A' : Array R) (p : Nat) : Prop extends Scanned A lo n A[lo + n - 1]! p p A' where
  lt : p < n
  perm : A'.Perm A
  pivot : A'[lo + p]! = A[lo + n - 1]!

theorem partition_spec (hasym : ∀ a b : R, a < b → ¬ b < a) (A : Array R) (lo n : Nat) (hn : 1 ≤ n) (hw : lo + n ≤ A.size) :
    ∃ A' p, partition A lo n = (A', p, true) ∧ Parted A lo n A' p := by
  have hfill : A.setIfInBounds (lo + (n - 1)) A[lo + n - 1]! = A :=
    (show lo + (n - 1) = lo + n - 1 by omega) ▸ setIfInBounds_getElem!_self A _
  have h0 : PInv A lo n A[lo + n - 1]! { A := A, i := 0, j := n - 1, p := n - 1 } :=
    { left := fun x hx => absurd hx (Nat.not_lt_zero x), right := fun x h1 h2 => by dsimp only at h1; omega, out := fun _ _ => rfl,
      vals := fun t t1 t2 => ⟨t, t1, t2, rfl⟩, size := rfl, win := hw, ip := Nat.zero_le _, pj := Nat.le_refl _,
      jn := Nat.sub_lt hn Nat.one_pos, perm := by dsimp only; rw [hfill] }
  obtain ⟨a, hI, c⟩ := partLoop_spec hasym n _ h0 (fun _ => ⟨rfl, by dsimp only; omega⟩)
  refine ⟨_, _, Prod.ext rfl (Prod.ext rfl a), ?_⟩
  dsimp only [partition]
  generalize (partLoop lo A[lo + n - 1]! n { A := A, i := 0, j := n - 1, p := n - 1 }).1 = r at *
  have hs := hI.size; have hi := hI.ip; have hp := hI.pj; have hj := hI.jn
  have sc := hI.toScanned.store hi hp hj (by omega) A[lo + n - 1]! ⟨lo + n - 1, by omega, by omega, rfl⟩
  exact { left := fun x hx => sc.left x (by omega), right := fun x h1 h2 => sc.right x (by omega) h2, out := sc.out, vals := sc.vals,
          lt := by omega, perm := hI.perm, pivot := getElem!_setIfInBounds_self _ _ (by omega) }

theorem qsel_one (f : Nat) (A : Array R) (lo n k : Nat) (hn : ¬ 1 < n) : qsel (f + 1) A lo n k = some (A[lo]!, A) := by
  rw [qsel, if_neg hn]

theorem qsel_step (hasym : ∀ a b : R, a < b → ¬ b < a) (f : Nat) (A : Array R) (lo n k : Nat) (hn : 1 < n)
    (hw : lo + n ≤ A.size) :
    ∃ A' p, Parted A lo n A' p ∧ qsel (f + 1) A lo n k =
      if p = k then some (A[lo + n - 1]!, A') else if k < p then qsel f A' lo p k
      else qsel f A' (lo + (p + 1)) (n - (p + 1)) (k - (p + 1)) := by
  obtain ⟨A', p, e, hP⟩ := partition_spec hasym A lo n (Nat.le_of_lt hn) hw
  refine ⟨A', p, hP, ?_⟩
  rw [qsel, if_pos hn]
  simp only [e, Bool.not_true, Bool.false_eq_true, if_false]

/-- the outer loop with fuel `> n` on the window `A[lo .. lo+n)`: it returns entry `k` of the window of the array it
leaves, which is a permutation of `A` and differs from it only inside the window.  `Q A q` is any property of a
position that each partition hands on from the two ends of its window to both sides of its pivot (`hQ`): it then holds on
both sides of the entry returned.  (`True` for termination alone, `Split` for the rank.) -/
theorem qsel_post (hasym : ∀ a b : R, a < b → ¬ b < a) (Q : Array R → Nat → Prop)
    (hQ : ∀ A lo n A' p, lo + n ≤ A.size → Parted A lo n A' p → Q A lo → Q A (lo + n) →
      Q A' lo ∧ Q A' (lo + n) ∧ Q A' (lo + p) ∧ Q A' (lo + p + 1)) :
    ∀ f (A : Array R) (lo n k : Nat), 1 ≤ n → lo + n ≤ A.size → n < f → k < n → Q A lo → Q A (lo + n) →
      ∃ v A', qsel f A lo n k = some (v, A') ∧ A'.Perm A ∧ (∀ y, (y < lo ∨ lo + n ≤ y) → A'[y]! = A[y]!) ∧
        v = A'[lo + k]! ∧ Q A' (lo + k) ∧ Q A' (lo + k + 1) := by
  intro f
  induction f with
  | zero => intro A lo n k _ _ h; omega
  | succ f ih =>
    intro A lo n k hn hw hf hk h1 h2
    by_cases hn1 : 1 < n
    · obtain ⟨A1, p, hP, e⟩ := qsel_step hasym f A lo n k hn1 hw
      obtain ⟨s1, s2, s3, s4⟩ := hQ A lo n A1 p hw hP h1 h2
      have hsz : A1.size = A.size := hP.perm.size_eq
      have hp := hP.lt
      rw [e]
      by_cases e2 : p = k
      · rw [if_pos e2]; subst e2; exact ⟨_, _, rfl, hP.perm, hP.out, hP.pivot.symm, s3, s4⟩
      · rw [if_neg e2]
        by_cases e3 : k < p
        · rw [if_pos e3]
          obtain ⟨v, A', r1, r2, r3, r4⟩ := ih A1 lo p k (by omega) (by omega) (by omega) e3 s1 s3
          exact ⟨v, A', r1, r2.trans hP.perm, fun y hy => by rw [r3 y (by omega), hP.out y hy], r4⟩
        · rw [if_neg e3]
          have hpk : p + 1 ≤ k := by omega
          have ea : lo + (p + 1) + (n - (p + 1)) = lo + n := by omega
          have eb : lo + (p + 1) + (k - (p + 1)) = lo + k := by omega
          obtain ⟨v, A', r1, r2, r3, r4⟩ := ih A1 (lo + (p + 1)) (n - (p + 1)) (k - (p + 1)) (by omega) (by omega) (by omega)
            (by omega) s4 (ea ▸ s2)
          rw [eb] at r4
          exact ⟨v, A', r1, r2.trans hP.perm, fun y hy => by rw [r3 y (by omega), hP.out y hy], r4⟩
    · obtain rfl : n = 1 := by omega
      obtain rfl : k = 0 := by omega
      exact ⟨_, _, qsel_one f A lo 1 0 hn1, Array.Perm.refl _, fun _ _ => rfl, rfl, h1, h2⟩

theorem clampK_lt (n : Nat) (k : Int) (hn : 1 ≤ n) : clampK n k < n := by
  unfold clampK; omega

/-- `qsel_post` for the routine itself: the clamp of `k` and the fuel `n + 1` discharged -/
theorem qselect_post (hasym : ∀ a b : R, a < b → ¬ b < a) (Q : Array R → Nat → Prop)
    (hQ : ∀ A lo n A' p, lo + n ≤ A.size → Parted A lo n A' p → Q A lo → Q A (lo + n) →
      Q A' lo ∧ Q A' (lo + n) ∧ Q A' (lo + p) ∧ Q A' (lo + p + 1))
    (A : Array R) (n : Nat) (k : Int) (hn : 1 ≤ n) (hA : n ≤ A.size) (h1 : Q A 0) (h2 : Q A n) :
    ∃ v A', qselect n A k = some (v, A') ∧ A'.Perm A ∧ (∀ y, n ≤ y → A'[y]! = A[y]!) ∧
      v = A'[clampK n k]! ∧ Q A' (clampK n k) ∧ Q A' (clampK n k + 1) := by
  obtain ⟨v, A', e, hp, ho, r⟩ := qsel_post hasym Q hQ (n + 1) A 0 n (clampK n k) hn (by omega) (by omega)
    (clampK_lt n k hn) h1 (by rwa [Nat.zero_add])
  simp only [Nat.zero_add] at ho r
  exact ⟨v, A', e, hp, fun y hy => ho y (Or.inr hy), r⟩

theorem qselect_some (hasym : ∀ a b : R, a < b → ¬ b < a) (A : Array R) (n : Nat) (k : Int) (hn : 1 ≤ n) (hA : n ≤ A.size) :
    ∃ v A', qselect n A k = some (v, A') ∧ A'.Perm A ∧ ∀ y, n ≤ y → A'[y]! = A[y]! := by
  obtain ⟨v, A', e, hp, ho, -⟩ := qselect_post hasym (fun _ _ => True)
    (fun _ _ _ _ _ _ _ _ _ => ⟨trivial, trivial, trivial, trivial⟩) A n k hn hA trivial trivial
  exact ⟨v, A', e, hp, ho⟩

omit [DecidableLT R] in
/-- nothing before position `q` is smaller than anything from `q` on -/
def Split (A : Array R) (q : Nat) : Prop := ∀ a b, a < q → q ≤ b → b < A.size → ¬ A[a]! < A[b]!

omit [DecidableLT R] in
/-- a partition of the window between two split points leaves them split points and makes the pivot's position one, on
either side of the pivot; `hnt` (with `hasym`: `<` is a strict weak order) carries a comparison across the pivot -/
theorem Parted.split (hasym : ∀ a b : R, a < b → ¬ b < a) (hnt : ∀ a b c : R, ¬ a < b → ¬ b < c → ¬ a < c)
    {A A' : Array R} {lo n p : Nat} (hP : Parted A lo n A' p) (hw : lo + n ≤ A.size)
    (h1 : Split A lo) (h2 : Split A (lo + n)) :
    Split A' lo ∧ Split A' (lo + n) ∧ Split A' (lo + p) ∧ Split A' (lo + p + 1) := by
  obtain ⟨⟨left, right, out, vals⟩, hp, perm, pivot⟩ := hP
  have hsz : A'.size = A.size := perm.size_eq
  generalize A[lo + n - 1]! = val at *
  -- an entry of `A'` is an entry of `A` in the same part: below the window, in it, or above
  have src : ∀ t, t < A'.size → ∃ t', t' < A.size ∧ A'[t]! = A[t']! ∧ (t < lo ↔ t' < lo) ∧ (t < lo + n ↔ t' < lo + n) := by
    intro t ht
    by_cases hwin : lo ≤ t ∧ t < lo + n
    · obtain ⟨t', h1, h2, e⟩ := vals t hwin.1 hwin.2
      exact ⟨t', by omega, e, by omega, by omega⟩
    · exact ⟨t, by omega, out t (by omega), Iff.rfl, Iff.rfl⟩
  have s1 : Split A' lo := fun a b ha hb hbs => by
    obtain ⟨a', _, ea, ia, _⟩ := src a (Nat.lt_of_lt_of_le ha (Nat.le_trans hb (Nat.le_of_lt hbs)))
    obtain ⟨b', hb', eb, ib, _⟩ := src b hbs
    rw [ea, eb]
    exact h1 a' b' (ia.mp ha) (Nat.le_of_not_lt fun h => Nat.not_lt.mpr hb (ib.mpr h)) hb'
  have s2 : Split A' (lo + n) := fun a b ha hb hbs => by
    obtain ⟨a', _, ea, _, ia⟩ := src a (Nat.lt_of_lt_of_le ha (Nat.le_trans hb (Nat.le_of_lt hbs)))
    obtain ⟨b', hb', eb, _, ib⟩ := src b hbs
    rw [ea, eb]
    exact h2 a' b' (ia.mp ha) (Nat.le_of_not_lt fun h => Nat.not_lt.mpr hb (ib.mpr h)) hb'
  have hge : ∀ t, lo ≤ t → t ≤ lo + p → ¬ A'[t]! < val := fun t t1 t2 => by
    rcases Nat.eq_or_lt_of_le t2 with rfl | t2
    · exact pivot ▸ fun h => hasym _ _ h h
    · rw [show t = lo + (t - lo) by omega]; exact left (t - lo) (by omega)
  have hle : ∀ t, lo + p ≤ t → t < lo + n → ¬ val < A'[t]! := fun t t1 t2 => by
    rcases Nat.eq_or_lt_of_le t1 with rfl | t1
    · exact pivot ▸ fun h => hasym _ _ h h
    · rw [show t = lo + (t - lo) by omega]; exact right (t - lo) (by omega) (by omega)
  have mid : ∀ q, lo + p ≤ q → q ≤ lo + p + 1 → Split A' q := fun q q1 q2 a b ha hb hbs => by
    by_cases ha2 : a < lo
    · exact s1 a b ha2 (by omega) hbs
    · by_cases hb2 : b < lo + n
      · exact hnt _ _ _ (hge a (by omega) (by omega)) (hle b (by omega) hb2)
      · exact s2 a b (by omega) (by omega) hbs
  exact ⟨s1, s2, mid _ (Nat.le_refl _) (Nat.le_succ _), mid _ (Nat.le_succ _) (Nat.le_refl _)⟩

/-- for every strict weak order (`<` asymmetric and negatively transitive, as on `Rat` and on IEEE numbers without NaN; with a
NaN `hnt` fails) the entry returned splits the array left behind: nothing before position `k` is smaller, nothing after it larger.
`n = A.size`, where `qselect_some` has `n ≤ A.size`: `Split` compares with every later entry of the array, and the routine does
not look beyond the window -/
theorem qselect_split (hasym : ∀ a b : R, a < b → ¬ b < a) (hnt : ∀ a b c : R, ¬ a < b → ¬ b < c → ¬ a < c)
    (A : Array R) (n : Nat) (k : Int) (hn : 1 ≤ n) (hA : n = A.size) :
    ∃ v A', qselect n A k = some (v, A') ∧ A'.Perm A ∧ v = A'[clampK n k]! ∧ Split A' (clampK n k) ∧
      Split A' (clampK n k + 1) := by
  obtain ⟨v, A', e, hp, -, r⟩ := qselect_post hasym Split (fun _ _ _ _ _ hw hP => hP.split hasym hnt hw) A n k hn
    (Nat.le_of_eq hA) (fun a _ ha => absurd ha (Nat.not_lt_zero a)) (fun _ b _ hb hbs => absurd hbs (by omega))
  exact ⟨v, A', e, hp, r⟩

theorem rat_asym : ∀ a b : Rat, a < b → ¬ b < a := fun _ _ h => not_lt.mpr (le_of_lt h)

theorem rat_negtrans : ∀ a b c : Rat, ¬ a < b → ¬ b < c → ¬ a < c := fun _ _ _ h1 h2 =>
  not_lt.mpr (le_trans (not_lt.mp h2) (not_lt.mp h1))

/-- over `Rat`: if position `k` of a rearrangement `A'` of `A` splits it on both sides (everything before is `>=`, everything
after is `<=`), then `A'[k]` is the entry of rank `k` of the descending rearrangement of `A`: sorting the two sides of `k`
separately gives a sorted list, and there is only one -/
theorem rank_of_split (A A' : Array Rat) (hperm : A'.Perm A) (k : Nat) (hk : k < A'.size) (h1 : Split A' k)
    (h2 : Split A' (k + 1)) : (A.toList.mergeSort (fun a b => decide (b ≤ a)))[k]? = some A'[k]! := by
  let ge : Rat → Rat → Bool := fun a b => decide (b ≤ a)
  have sorted : ∀ t : List Rat, (t.mergeSort ge).Pairwise (fun a b => b ≤ a) := fun t =>
    (List.pairwise_mergeSort (le := ge) (fun a b c h1 h2 => decide_eq_true (le_trans (of_decide_eq_true h2) (of_decide_eq_true h1)))
      (fun a b => by simp only [ge, Bool.or_eq_true, decide_eq_true_eq]; exact le_total b a) t).imp of_decide_eq_true
  have hg : ∀ a (h : a < A'.toList.length), A'.toList[a] = A'[a]! := fun a h => by
    rw [Array.getElem_toList, getElem!_pos A' a (by simpa using h)]
  have hkl : k < A'.toList.length := by simpa using hk
  have hv : A'.toList[k] = A'[k]! := hg k hkl
  have hl : ∀ a (h : a < A'.toList.length), a < k → A'[k]! ≤ A'.toList[a] := fun a h hak => by
    rw [hg]; exact not_lt.mp (h1 a k hak (Nat.le_refl _) hk)
  have hr : ∀ c (h : c < A'.toList.length), k < c → A'.toList[c] ≤ A'[k]! := fun c h hkc => by
    rw [hg]; exact not_lt.mp (h2 k c (Nat.lt_succ_self k) hkc (by simpa using h))
  have hp : (A.toList.mergeSort ge).Perm A'.toList :=
    (List.mergeSort_perm _ ge).trans (Array.perm_iff_toList_perm.mp hperm).symm
  have hs := sorted A.toList
  clear hg
  generalize A'[k]! = v at *
  generalize A'.toList = l at *
  generalize A.toList.mergeSort ge = s at *
  have hL : ∀ x ∈ (l.take k).mergeSort ge, v ≤ x := fun x hx => by
    obtain ⟨a, ha, rfl⟩ := List.mem_take_iff_getElem.mp (List.mem_mergeSort.mp hx)
    exact hl a (by omega) (by omega)
  have hR : ∀ y ∈ (l.drop (k + 1)).mergeSort ge, y ≤ v := fun y hy => by
    obtain ⟨c, hc, rfl⟩ := List.mem_drop_iff_getElem.mp (List.mem_mergeSort.mp hy)
    exact hr (k + 1 + c) (by omega) (by omega)
  have hsplit : (l.take k ++ v :: l.drop (k + 1)).Perm l := by
    rw [← hv, List.getElem_cons_drop, List.take_append_drop]
  have : s = (l.take k).mergeSort ge ++ v :: (l.drop (k + 1)).mergeSort ge :=
    List.Perm.eq_of_pairwise (le := fun a b => b ≤ a) (fun a b _ _ h1 h2 => le_antisymm h2 h1) hs
      (List.pairwise_append.mpr ⟨sorted _, List.pairwise_cons.mpr ⟨hR, sorted _⟩, fun x hx y hy => by
        rcases List.mem_cons.mp hy with rfl | hy
        · exact hL x hx
        · exact le_trans (hR y hy) (hL x hx)⟩)
      (hp.trans (hsplit.symm.trans (((List.mergeSort_perm _ ge).append ((List.mergeSort_perm _ ge).cons v)).symm)))
  have hlen : ((l.take k).mergeSort ge).length = k := by rw [List.length_mergeSort, List.length_take]; omega
  rw [this, List.getElem?_append_right (by omega), hlen, Nat.sub_self]
  rfl

end Slu.QSelect
