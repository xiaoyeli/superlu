import Slu.Model.ColDfs
import SluProofs.Lemmas.ArrayBasic
import Mathlib.Data.List.Nodup
import Mathlib.Data.List.Range
import Mathlib.Data.List.Perm.Subperm
import Mathlib.Data.Int.Order.Basic
import Mathlib.Algebra.Ring.Int.Defs
/-
The arrays of the search models (Slu/Model/ColDfs.lean, PanelDfs.lean) are read and written through `rd` / `wr` at
`Int` indices, and a stretch `a[lo .. hi)` is the list `slice a lo hi`.  What a write does to a read and to a slice;
a duplicate-free list of indices below `n` has at most `n` entries, which is where room in `segrep` and `lsub` comes from
(`seg_room`, `unpivoted_length`).
-/
namespace Slu.ColDfs
open Slu List

theorem size_wr (a : Array Int) (i v : Int) : (wr a i v).size = a.size := by
  unfold wr; split <;> simp

theorem le_size_wr {n : Int} {a : Array Int} (h : n ≤ a.size) (i v : Int) : n ≤ (wr a i v).size := by
  rw [size_wr]; exact h

theorem rd_wr (a : Array Int) (i k v : Int) :
    rd (wr a i v) k = if k = i ∧ 0 ≤ i ∧ i < a.size then v else rd a k := by
  unfold rd wr
  by_cases hi : 0 ≤ i
  · by_cases hk : 0 ≤ k
    · have e1 : i.toNat = k.toNat ↔ k = i :=
        ⟨fun h => by rw [← Int.toNat_of_nonneg hk, ← Int.toNat_of_nonneg hi, h], fun h => h ▸ rfl⟩
      simp only [hi, hk, if_true, true_and, getD_setIfInBounds, e1, Int.toNat_lt hi]
    · have : ¬ k = i := fun h => hk (h ▸ hi)
      simp only [hk, this, false_and, if_false]
  · simp only [hi, false_and, and_false, if_false]

theorem rd_wr_of_lt {a : Array Int} {i : Int} (h0 : 0 ≤ i) (h1 : i < a.size) (v k : Int) :
    rd (wr a i v) k = if k = i then v else rd a k := by
  rw [rd_wr]; exact if_congr ⟨fun h => h.1, fun h => ⟨h, h0, h1⟩⟩ rfl rfl

theorem rd_wr_ne {a : Array Int} {i k v : Int} (h : k ≠ i) : rd (wr a i v) k = rd a k := by
  rw [rd_wr, if_neg (fun c => h c.1)]

theorem rd_wr_eq {a : Array Int} {i v : Int} (h0 : 0 ≤ i) (h1 : i < a.size) : rd (wr a i v) i = v := by
  rw [rd_wr, if_pos ⟨rfl, h0, h1⟩]

theorem rd_oob_neg {a : Array Int} {i : Int} (h : i < 0) : rd a i = oob := by
  unfold rd; simp [Int.not_le.mpr h]

theorem rd_wr_self_or (a : Array Int) (i v : Int) : rd (wr a i v) i = v ∨ rd (wr a i v) i = rd a i := by
  rw [rd_wr]; split
  · exact Or.inl rfl
  · exact Or.inr rfl

theorem disc_wr {a : Array Int} {i v : Int} (hv : v ≠ EMPTY) (hi : rd a i ≠ EMPTY) (t : Int) :
    rd (wr a i v) t ≠ EMPTY ↔ rd a t ≠ EMPTY := by
  rw [rd_wr]; split
  · next h => rw [h.1]; exact iff_of_true hv hi
  · exact Iff.rfl

theorem slice_nil (a : Array Int) (lo : Int) : slice a lo lo = [] := by simp [slice]

theorem slice_length (a : Array Int) (lo hi : Int) : (slice a lo hi).length = (hi - lo).toNat := by
  simp [slice]

theorem slice_congr {a b : Array Int} {lo hi : Int} (h0 : 0 ≤ lo)
    (h : ∀ x, lo ≤ x → x < hi → rd a x = rd b x) : slice a lo hi = slice b lo hi := by
  unfold slice
  apply map_congr_left
  intro k hk
  rw [mem_range'_1] at hk
  have hl := Int.toNat_of_nonneg h0
  have := Int.lt_toNat.mp (Nat.sub_lt_left_of_lt_add hk.1 hk.2)
  exact h k (by omega) (by omega)

theorem slice_append (a : Array Int) {lo mid hi : Int} (h0 : 0 ≤ lo) (h1 : lo ≤ mid) (h2 : mid ≤ hi) :
    slice a lo hi = slice a lo mid ++ slice a mid hi := by
  unfold slice
  have e1 : (hi - lo).toNat = (mid - lo).toNat + (hi - mid).toNat := by
    rw [← Int.toNat_add (Int.sub_nonneg_of_le h1) (Int.sub_nonneg_of_le h2), show mid - lo + (hi - mid) = hi - lo by omega]
  have e2 : mid.toNat = lo.toNat + (mid - lo).toNat := by
    rw [← Int.toNat_add h0 (Int.sub_nonneg_of_le h1), show lo + (mid - lo) = mid by omega]
  rw [e1, ← List.range'_append_1, map_append, e2]

theorem slice_one (a : Array Int) {lo : Int} (h0 : 0 ≤ lo) : slice a lo (lo + 1) = [rd a lo] := by
  unfold slice
  rw [show lo + 1 - lo = 1 by omega, Int.toNat_one, List.range'_one, map_singleton, Int.toNat_of_nonneg h0]

theorem slice_cons (a : Array Int) {lo hi : Int} (h0 : 0 ≤ lo) (h : lo < hi) :
    slice a lo hi = rd a lo :: slice a (lo + 1) hi := by
  rw [slice_append a h0 (Int.le_add_of_nonneg_right (by decide)) (Int.add_one_le_of_lt h), slice_one a h0]; rfl

theorem slice_snoc (a : Array Int) {lo hi : Int} (h0 : 0 ≤ lo) (h : lo ≤ hi) :
    slice a lo (hi + 1) = slice a lo hi ++ [rd a hi] := by
  rw [slice_append a h0 h (Int.le_add_of_nonneg_right (by decide)), slice_one a (Int.le_trans h0 h)]

theorem mem_slice_iff {a : Array Int} {lo hi row : Int} (h0 : 0 ≤ lo) :
    row ∈ slice a lo hi ↔ ∃ x, lo ≤ x ∧ x < hi ∧ row = rd a x := by
  unfold slice
  simp only [mem_map, mem_range'_1]
  have hl := Int.toNat_of_nonneg h0
  generalize lo.toNat = n at hl ⊢
  constructor
  · rintro ⟨k, ⟨hk1, hk2⟩, rfl⟩
    have := Int.lt_toNat.mp (Nat.sub_lt_left_of_lt_add hk1 hk2)
    clear hk2
    exact ⟨k, by omega, by omega, rfl⟩
  · rintro ⟨x, h1, h2, rfl⟩
    obtain ⟨k, rfl⟩ := Int.eq_ofNat_of_zero_le (Int.le_trans h0 h1)
    have : k - n < (hi - lo).toNat := Int.lt_toNat.mpr (by omega)
    generalize (hi - lo).toNat = d at this ⊢
    exact ⟨k, ⟨by omega, by omega⟩, rfl⟩

theorem slice_wr_snoc (a : Array Int) {lo n : Int} (c : Int) (h0 : 0 ≤ lo) (h1 : lo ≤ n) (h2 : n < a.size) :
    slice (wr a n c) lo (n + 1) = slice a lo n ++ [c] := by
  rw [slice_snoc _ h0 h1, rd_wr_eq (by omega) h2]
  congr 1
  exact slice_congr h0 (fun y _ hy => rd_wr_ne (by omega))

theorem toNat_lt_toNat {v n : Int} (h0 : 0 ≤ v) (h1 : v < n) : v.toNat < n.toNat :=
  (Int.toNat_lt_toNat (lt_of_le_of_lt h0 h1)).mpr h1

theorem nodup_map_toNat {l : List Int} (hnd : l.Nodup) (h0 : ∀ v ∈ l, 0 ≤ v) : (l.map Int.toNat).Nodup :=
  Nodup.map_on (fun a ha b hb hab => by rw [← Int.toNat_of_nonneg (h0 a ha), ← Int.toNat_of_nonneg (h0 b hb), hab]) hnd

theorem nodup_lt_length {l : List Nat} {n : Nat} (hnd : l.Nodup) (hlt : ∀ t ∈ l, t < n) : l.length ≤ n :=
  Slu.nodup_lt_length hnd hlt

theorem nodup_int_length {l : List Int} {n : Int} (hn : 0 ≤ n) (hnd : l.Nodup) (hlt : ∀ v ∈ l, 0 ≤ v ∧ v < n) :
    (l.length : Int) ≤ n := by
  have h2 := nodup_lt_length (n := n.toNat) (nodup_map_toNat hnd (fun v hv => (hlt v hv).1)) (by
    intro t ht
    obtain ⟨v, hv, rfl⟩ := mem_map.mp ht
    exact toNat_lt_toNat (hlt v hv).1 (hlt v hv).2)
  rw [length_map] at h2
  exact (Int.le_toNat hn).mp h2

theorem unpivoted_length {m : Int} {perm_r : Array Int} {l : List Int} (hnd : l.Nodup)
    (h : ∀ r ∈ l, 0 ≤ r ∧ r < m ∧ rd perm_r r = EMPTY) : l.length ≤ (unpivoted m perm_r).length := by
  have h2 : l.map Int.toNat ⊆ unpivoted m perm_r := by
    intro t ht
    obtain ⟨r, hr, rfl⟩ := mem_map.mp ht
    obtain ⟨a, b, c⟩ := h r hr
    unfold unpivoted
    simp only [mem_filter, mem_range, decide_eq_true_eq]
    exact ⟨toNat_lt_toNat a b, by rw [Int.toNat_of_nonneg a]; exact c⟩
  simpa using (List.subperm_of_subset (nodup_map_toNat hnd (fun r hr => (h r hr).1)) h2).length_le

theorem nodup_snoc {l : List Int} {c : Int} (hnd : l.Nodup) (hc : c ∉ l) : (l ++ [c]).Nodup := by
  rw [nodup_append]
  exact ⟨hnd, nodup_singleton c, fun a ha b hb => by rw [mem_singleton.mp hb]; exact fun hab => hc (hab ▸ ha)⟩

theorem seg_room {a : Array Int} {n j c : Int} (h0 : 0 ≤ n) (hnd : (slice a 0 n).Nodup)
    (hr : ∀ v ∈ slice a 0 n, 0 ≤ v ∧ v < j) (hsz : j ≤ a.size) (hc0 : 0 ≤ c) (hc1 : c < j) (hcn : c ∉ slice a 0 n) :
    n < a.size := by
  have h := nodup_int_length (le_trans hc0 hc1.le) (nodup_snoc hnd hcn) (fun v hv => by
    rcases mem_append.mp hv with h | h
    · exact hr v h
    · rw [mem_singleton.mp h]; exact ⟨hc0, hc1⟩)
  rw [length_append, slice_length, length_singleton, Int.sub_zero, Nat.cast_add, Int.toNat_of_nonneg h0] at h
  exact lt_of_lt_of_le (Int.lt_of_add_one_le h) hsz

end Slu.ColDfs

namespace Slu.PanelDfs
open Slu.ColDfs (rd)

theorem size_replicate {n : Int} (h : 0 ≤ n) (v : Int) : ((List.replicate n.toNat v).toArray.size : Int) = n := by
  rw [List.size_toArray, List.length_replicate, Int.toNat_of_nonneg h]

theorem rd_replicate {n v i : Int} (h0 : 0 ≤ i) (h1 : i < n) : rd (List.replicate n.toNat v).toArray i = v := by
  unfold rd
  rw [if_pos h0, Array.getD_eq_getD_getElem?, List.getElem?_toArray, List.getElem?_replicate, if_pos (by omega)]; rfl

theorem rd_append_left {a : Array Int} {l : List Int} {i : Int} (h0 : 0 ≤ i) (h1 : i < a.size) :
    rd (a.toList ++ l).toArray i = rd a i := by
  unfold rd
  rw [if_pos h0, if_pos h0, Array.getD_eq_getD_getElem?, Array.getD_eq_getD_getElem?, List.getElem?_toArray,
    List.getElem?_append_left (by rw [Array.length_toList]; omega), Array.getElem?_toList]

end Slu.PanelDfs
