import Slu.Model.Readers
import SluProofs.Lemmas.ReadersText
import Mathlib.Algebra.Group.Nat.Defs  -- `10 ^ w` in `readVector_printInts_of_lt` must be `Monoid.npow`, as wherever Mathlib is imported
/-
C16 — fixed-width blocks (dreadhb.c:141-183, zreadhb.c:162-193).  A printed block
(`Values.printFields`; `printInts` is the block of the digit strings) is cut back into its lines by
`fgets`, and the field positions of its lines are its padded fields.  The two loops of
`[sdcz]ReadValues` are one fold over the fields of all lines, guarded by `i < n`; `ReadVector` reads an
integer block back field by field.
-/
namespace Slu.Readers

theorem forall_take {β : Type} {p : β → Prop} {l : List β} (h : ∀ x ∈ l, p x) (k : Nat) : ∀ x ∈ l.take k, p x :=
  fun x hx => h x (List.mem_of_mem_take hx)

theorem forall_drop {β : Type} {p : β → Prop} {l : List β} (h : ∀ x ∈ l, p x) (k : Nat) : ∀ x ∈ l.drop k, p x :=
  fun x hx => h x (List.mem_of_mem_drop hx)

theorem flatten_length_const {β : Type} (blocks : List (List β)) (w : Nat) (h : ∀ b ∈ blocks, b.length = w) :
    blocks.flatten.length = blocks.length * w := by
  induction blocks with
  | nil => simp
  | cons b bs ih =>
    rw [List.flatten_cons, List.length_append, ih fun c hc => h c (List.mem_cons_of_mem _ hc),
      h b List.mem_cons_self, List.length_cons, Nat.succ_mul, Nat.add_comm]

theorem field_zero_append (b X : List Char) (w : Nat) (hb : b.length = w) : field (b ++ X) 0 w = b := by
  rw [field, Nat.zero_mul, List.drop_zero, ← hb, List.take_left]

theorem field_succ_append (b X : List Char) (j w : Nat) (hb : b.length = w) :
    field (b ++ X) (j + 1) w = field X j w := by
  rw [field, field, Nat.succ_mul, Nat.add_comm, ← List.drop_drop, ← hb, List.drop_left]

theorem field_flatten (blocks : List (List Char)) (tail : List Char) (w : Nat)
    (h : ∀ b ∈ blocks, b.length = w) :
    (List.range blocks.length).map (fun j => field (blocks.flatten ++ tail) j w) = blocks := by
  induction blocks with
  | nil => rfl
  | cons b bs ih =>
    have hb := h b List.mem_cons_self
    rw [List.length_cons, List.range_succ_eq_map, List.map_cons, List.map_map, List.flatten_cons,
      List.append_assoc, field_zero_append b _ w hb]
    refine congrArg (b :: ·) (Eq.trans (List.map_congr_left fun j _ => ?_)
      (ih fun c hc => h c (List.mem_cons_of_mem _ hc)))
    exact field_succ_append b _ j w hb

theorem field_mid (pre f post : List Char) (j persize : Nat) (hpre : pre.length = j * persize)
    (hf : f.length = persize) : field (pre ++ f ++ post) j persize = f := by
  rw [field, List.append_assoc, ← hpre, List.drop_left, ← hf, List.take_left]

theorem fgets_line (body rest : List Char) (d : Nat) (hnl : ∀ c ∈ body, c ≠ '\n') :
    fgets (body.length + d + 2) (body ++ '\n' :: rest) = (body ++ ['\n'], rest) := by
  induction body with
  | nil =>
    rw [List.nil_append, fgets, if_pos (beq_self_eq_true _)]
    · rfl
    · exact Nat.succ_ne_zero _
  | cons c cs ih =>
    rw [List.length_cons, Nat.add_right_comm _ 1 d, List.cons_append, fgets,
      if_neg (by simpa using hnl c List.mem_cons_self), ih fun e he => hnl e (List.mem_cons_of_mem _ he)]
    · rfl
    · exact Nat.succ_ne_zero _

namespace Values

variable {α σ : Type}

theorem pad_length {persize : Nat} {f : List Char} (h : f.length ≤ persize) : (pad persize f).length = persize := by
  rw [pad, List.length_append, List.length_replicate]; omega

/-- a text line that `fgets(buf, 100, fp)` returns whole: no newline inside, newline-terminated, and
at most 99 characters with the newline (`fgets` stores at most `100 - 1` characters and a NUL);
for a full printed line this is `perline * persize + 1 < 100` -/
def GoodLine (l : List Char) : Prop := ∃ body, l = body ++ ['\n'] ∧ (∀ c ∈ body, c ≠ '\n') ∧ body.length + 1 < 100

theorem fgets_goodLine {l rest : List Char} (h : GoodLine l) : fgets 100 (l ++ rest) = (l, rest) := by
  obtain ⟨body, rfl, hnl, hlen⟩ := h
  have := fgets_line body rest (98 - body.length) hnl
  rwa [show body.length + (98 - body.length) + 2 = 100 by omega, ← List.singleton_append, ← List.append_assoc]
    at this

theorem fgetsLines_go_flatten (lines : List (List Char)) (h : ∀ l ∈ lines, GoodLine l) (fuel : Nat)
    (hf : lines.flatten.length ≤ fuel) : fgetsLines.go fuel lines.flatten = lines := by
  induction lines generalizing fuel with
  | nil => cases fuel <;> rfl
  | cons l ls ih =>
    have hl := h l List.mem_cons_self
    have hpos : 0 < l.length := by
      obtain ⟨body, rfl, _⟩ := hl
      rw [List.length_append]; exact Nat.succ_pos _
    rw [List.flatten_cons] at hf ⊢
    rw [List.length_append] at hf
    cases fuel with
    | zero => omega
    | succ fuel =>
      have hne : (l ++ ls.flatten).isEmpty = false :=
        List.isEmpty_eq_false_iff.mpr (List.append_ne_nil_of_left_ne_nil (List.ne_nil_of_length_pos hpos) _)
      rw [fgetsLines.go, hne, if_neg Bool.false_ne_true, fgets_goodLine hl]
      exact congrArg (l :: ·) (ih (fun l hl => h l (List.mem_cons_of_mem _ hl)) fuel (by omega))

theorem fgetsLines_flatten (lines : List (List Char)) (h : ∀ l ∈ lines, GoodLine l) :
    fgetsLines lines.flatten = lines :=
  fgetsLines_go_flatten lines h _ (Nat.le_refl _)

theorem printFields_nil (perline persize : Nat) : printFields perline persize [] = [] := by
  rw [printFields]; simp

def lineFieldsAll (perline persize : Nat) (line : List Char) : List (List Char) :=
  (List.range perline).map fun j => field line j persize

section
variable {perline persize : Nat} {fs : List (List Char)} (hfit : ∀ f ∈ fs, f.length ≤ persize)
include hfit

theorem length_of_mem_map_pad : ∀ b ∈ fs.map (pad persize), b.length = persize :=
  List.forall_mem_map.mpr fun f hf => pad_length (hfit f hf)

theorem goodLine_printFieldsLine (hlen : fs.length ≤ perline) (hnl : ∀ f ∈ fs, ∀ c ∈ f, c ≠ '\n')
    (hbuf : perline * persize + 1 < 100) : GoodLine (printFieldsLine persize fs) := by
  refine ⟨fs.flatMap (pad persize), rfl, ?_, ?_⟩
  · intro c hc
    obtain ⟨f, hf, hcf⟩ := List.mem_flatMap.mp hc
    rcases List.mem_append.mp hcf with hcf | hcf
    · rw [(List.mem_replicate.mp hcf).2]; decide
    · exact hnl f hf c hcf
  · rw [List.flatMap_def, flatten_length_const _ persize (length_of_mem_map_pad hfit), List.length_map]
    have : fs.length * persize ≤ perline * persize := Nat.mul_le_mul_right _ hlen
    omega

theorem goodLine_printFields (hnl : ∀ f ∈ fs, ∀ c ∈ f, c ≠ '\n') (hbuf : perline * persize + 1 < 100) :
    ∀ l ∈ printFields perline persize fs, GoodLine l := by
  fun_induction printFields perline persize fs with
  | case1 | case2 => exact fun l hl => absurd hl List.not_mem_nil
  | case3 fs _ _ ih =>
    intro l hl
    rcases List.mem_cons.mp hl with rfl | hl
    · exact goodLine_printFieldsLine (forall_take hfit _) (List.length_take_le _ _) (forall_take hnl _) hbuf
    · exact ih (forall_drop hfit _) (forall_drop hnl _) l hl

theorem fields_printFieldsLine :
    (List.range fs.length).map (fun j => field (printFieldsLine persize fs) j persize) = fs.map (pad persize) := by
  have := field_flatten (fs.map (pad persize)) ['\n'] persize (length_of_mem_map_pad hfit)
  rwa [List.length_map, ← List.flatMap_def] at this

theorem lineFieldsAll_printFieldsLine (hlen : fs.length ≤ perline) :
    ∃ junk, lineFieldsAll perline persize (printFieldsLine persize fs) = fs.map (pad persize) ++ junk := by
  obtain ⟨d, rfl⟩ : ∃ d, perline = fs.length + d := ⟨perline - fs.length, by omega⟩
  refine ⟨(List.range' fs.length d).map fun j => field (printFieldsLine persize fs) j persize, ?_⟩
  rw [lineFieldsAll, List.range_eq_range', ← List.range'_append_1 (s := 0) (m := fs.length) (n := d),
    List.map_append, ← List.range_eq_range', Nat.zero_add, fields_printFieldsLine hfit]

/-- the field positions of a printed block: the padded fields, then what lies behind a short last line -/
theorem flatMap_printFields (hp : 0 < perline) :
    ∃ junk, (printFields perline persize fs).flatMap (lineFieldsAll perline persize) =
      fs.map (pad persize) ++ junk := by
  fun_induction printFields perline persize fs with
  | case1 _ h0 => exact absurd h0 (Nat.ne_of_gt hp)
  | case2 => exact ⟨[], rfl⟩
  | case3 fs _ _ ih =>
    rw [List.flatMap_cons]
    obtain ⟨junk0, hj0⟩ := lineFieldsAll_printFieldsLine (forall_take hfit _) (List.length_take_le perline fs)
    rw [hj0]
    by_cases hle : fs.length ≤ perline
    · -- the last line, possibly short
      refine ⟨junk0, ?_⟩
      rw [List.take_of_length_le hle, List.drop_eq_nil_of_le hle, printFields_nil, List.flatMap_nil,
        List.append_nil]
    · -- a full line: exactly its fields, then the rest
      have hj0nil : junk0 = [] := by
        have := congrArg List.length hj0
        rw [lineFieldsAll, List.length_map, List.length_range, List.length_append, List.length_map,
          List.length_take] at this
        exact List.eq_nil_of_length_eq_zero (by omega)
      obtain ⟨junk, hj⟩ := ih (forall_drop hfit _)
      refine ⟨junk, ?_⟩
      rw [hj0nil, hj, List.append_nil, ← List.append_assoc, ← List.map_append, List.take_append_drop]

end

def gfold (body : List Char → σ → σ) (more : σ → Bool) (fs : List (List Char)) (st : σ) : σ :=
  fs.foldl (fun st f => if more st then body (dToE f) st else st) st

section
variable (body : List Char → σ → σ) (more : σ → Bool)

theorem gfold_nil (st : σ) : gfold body more [] st = st := rfl

theorem gfold_cons (f : List Char) (fs : List (List Char)) (st : σ) :
    gfold body more (f :: fs) st = gfold body more fs (if more st then body (dToE f) st else st) := rfl

theorem gfold_append (fs gs : List (List Char)) (st : σ) :
    gfold body more (fs ++ gs) st = gfold body more gs (gfold body more fs st) :=
  List.foldl_append

theorem gfold_stop (fs : List (List Char)) (st : σ) (h : more st = false) : gfold body more fs st = st := by
  induction fs with
  | nil => rfl
  | cons f fs ih => rw [gfold_cons, h, if_neg Bool.false_ne_true, ih]

theorem scanLine_eq_gfold (persize : Nat) (line : List Char) (fuel j : Nat) (st : σ) :
    scanLine persize body more line fuel j st =
      gfold body more ((List.range' j fuel).map fun j => field line j persize) st := by
  fun_induction scanLine persize body more line fuel j st with
  | case1 j st => rfl
  | case2 fuel j st h ih => rw [List.range'_succ, List.map_cons, gfold_cons, if_pos h, ih]
  | case3 fuel j st h =>
    rw [List.range'_succ, List.map_cons, gfold_cons, if_neg h, gfold_stop _ _ _ _ (Bool.eq_false_iff.mpr h)]

theorem scanLines_eq_gfold (perline persize : Nat) (lines : List (List Char)) (st : σ) :
    scanLines perline persize body more lines st =
      gfold body more (lines.flatMap (lineFieldsAll perline persize)) st := by
  induction lines generalizing st with
  | nil => rfl
  | cons line rest ih =>
    rw [scanLines, List.flatMap_cons, gfold_append]
    cases h : more st
    · rw [if_neg Bool.false_ne_true, gfold_stop _ _ _ _ h, gfold_stop _ _ _ _ h]
    · rw [if_pos rfl, ih, scanLine_eq_gfold, lineFieldsAll, List.range_eq_range']

end

theorem sub_succ_of_lt {a n : Nat} (h : a < n) : n - a = (n - (a + 1)) + 1 := by omega

theorem pairUp_nil : pairUp ([] : List α) = [] := rfl
theorem pairUp_single (a : α) : pairUp [a] = [] := rfl
theorem pairUp_cons_cons (a b : α) (l : List α) : pairUp (a :: b :: l) = (a, b) :: pairUp l := rfl

theorem pairs_induction {P : List α → Prop} (h0 : P []) (h1 : ∀ a, P [a])
    (h2 : ∀ a b l, P l → P (a :: b :: l)) : ∀ l, P l
  | [] => h0
  | [a] => h1 a
  | a :: b :: l => h2 a b l (pairs_induction h0 h1 h2 l)

theorem pairUp_take_append (a b : List α) (n : Nat) (h : 2 * n ≤ a.length) :
    (pairUp (a ++ b)).take n = (pairUp a).take n := by
  induction n generalizing a with
  | zero => rw [List.take_zero, List.take_zero]
  | succ n ih =>
    match a, h with
    | [], h => exact absurd h (Nat.not_succ_le_zero _)
    | [_], h => exact absurd (Nat.le_of_succ_le_succ h) (Nat.not_succ_le_zero _)
    | x :: y :: l, h =>
      rw [List.cons_append, List.cons_append, pairUp_cons_cons, pairUp_cons_cons, List.take_succ_cons,
        List.take_succ_cons, ih l (Nat.le_of_add_le_add_right (b := 2) h)]

section
variable (perline persize : Nat) (conv : List Char → α) (n : Nat)

theorem gfold_real (fs : List (List Char)) (out : List α) :
    gfold (fun f out => out ++ [conv f]) (fun out => decide (out.length < n)) fs out =
      out ++ (fs.take (n - out.length)).map (fun f => conv (dToE f)) := by
  induction fs generalizing out with
  | nil => rw [gfold_nil, List.take_nil, List.map_nil, List.append_nil]
  | cons f fs ih =>
    by_cases h : out.length < n
    · rw [gfold_cons, if_pos (decide_eq_true h), ih, List.length_append, List.length_singleton,
        sub_succ_of_lt h, List.take_succ_cons, List.map_cons, List.append_assoc, List.singleton_append]
    · rw [gfold_stop _ (fun out => decide (out.length < n)) _ out (decide_eq_false h),
        Nat.sub_eq_zero_of_le (Nat.le_of_not_lt h), List.take_zero, List.map_nil, List.append_nil]

theorem gfold_cx (fs : List (List Char)) (out : List (α × α)) :
    (gfold (cxBody conv) (fun st => decide (st.out.length < n)) fs { out := out, pend := none }).out =
      out ++ (pairUp (fs.map fun f => conv (dToE f))).take (n - out.length) := by
  induction fs using pairs_induction generalizing out with
  | h0 => rw [gfold_nil, List.map_nil, pairUp_nil, List.take_nil, List.append_nil]
  | h1 f =>
    rw [gfold_cons, gfold_nil, List.map_singleton, pairUp_single, List.take_nil, List.append_nil]
    split <;> rfl
  | h2 f g fs ih =>
    by_cases h : out.length < n
    · -- both halves pass the guard: the first leaves `out` as it is
      rw [gfold_cons, gfold_cons, if_pos (decide_eq_true h), cxBody, if_pos (decide_eq_true h)]
      refine (ih (out ++ [(conv (dToE f), conv (dToE g))])).trans ?_
      rw [List.length_append, List.length_singleton, List.map_cons, List.map_cons, pairUp_cons_cons,
        sub_succ_of_lt h, List.take_succ_cons, List.append_assoc, List.singleton_append]
    · rw [gfold_stop _ (fun st : CxState α => decide (st.out.length < n)) _ _ (decide_eq_false h),
        Nat.sub_eq_zero_of_le (Nat.le_of_not_lt h), List.take_zero, List.append_nil]

theorem readValues_eq_gfold (lines : List (List Char)) :
    readValues perline persize conv n lines =
      ((lines.flatMap (lineFieldsAll perline persize)).take n).map (fun f => conv (dToE f)) := by
  rw [readValues, scanLines_eq_gfold, gfold_real]; rfl

theorem readValuesCx_eq_gfold (lines : List (List Char)) :
    readValuesCx perline persize conv n lines =
      (pairUp ((lines.flatMap (lineFieldsAll perline persize)).map fun f => conv (dToE f))).take n := by
  rw [readValuesCx, scanLines_eq_gfold, gfold_cx]; rfl

theorem scanLine_even_pend (line : List Char) (k j : Nat) (out : List (α × α)) :
    (scanLine persize (cxBody conv) (fun st => decide (st.out.length < n)) line (2 * k) j
      { out := out, pend := none }).pend = none := by
  induction k generalizing j out with
  | zero => rfl
  | succ k ih =>
    rw [Nat.mul_succ, scanLine]
    by_cases h : out.length < n
    · rw [if_pos (decide_eq_true h), scanLine, cxBody, if_pos (decide_eq_true h)]
      exact ih _ _
    · rw [if_neg (by simpa using h)]

theorem scanLinesReset_eq {k : Nat} (hk : perline = 2 * k) (lines : List (List Char)) (out : List (α × α)) :
    scanLinesReset perline persize conv n lines { out := out, pend := none } =
      scanLines perline persize (cxBody conv) (fun st => decide (st.out.length < n)) lines
        { out := out, pend := none } := by
  subst hk
  induction lines generalizing out with
  | nil => rfl
  | cons line rest ih =>
    rw [scanLinesReset, scanLines]
    by_cases h : out.length < n
    · rw [if_pos (decide_eq_true h), if_pos (decide_eq_true h)]
      have hp := scanLine_even_pend persize conv n line k 0 out
      generalize scanLine persize (cxBody conv) (fun st => decide (st.out.length < n)) line (2 * k) 0
        { out := out, pend := none } = st at hp
      cases st with
      | mk o p => subst hp; exact ih o
    · rw [if_neg (by simpa using h), if_neg (by simpa using h)]

end

theorem dToE_pad (persize : Nat) (f : List Char) :
    dToE (pad persize f) = List.replicate (persize - f.length) ' ' ++ dToE f := by
  rw [dToE, pad, List.map_append, List.map_replicate]; rfl

theorem dToE_id (f : List Char) (h : ∀ c ∈ f, c ≠ 'D' ∧ c ≠ 'd') : dToE f = f := by
  rw [dToE]
  refine Eq.trans (List.map_congr_left fun c hc => ?_) (List.map_id f)
  obtain ⟨h1, h2⟩ := h c hc
  simp [h1, h2]

end Values

section
variable (k w : Nat)

theorem readFields_zero (s : List Char) : readFields k w 0 s = some ([], s) := by
  rw [readFields]; simp

theorem readFields_step (n : Nat) (s : List Char) (hk : k ≠ 0) (hn : n ≠ 0) :
    readFields k w n s =
      (readFields k w (n - k) (fgets 100 s).2).map (fun p => (lineFields (fgets 100 s).1 k w n ++ p.1, p.2)) := by
  have hmin : n - min k n = n - k := by
    rcases Nat.le_total k n with h | h
    · rw [Nat.min_eq_left h]
    · rw [Nat.min_eq_right h, Nat.sub_self, Nat.sub_eq_zero_of_le h]
  rw [readFields, dif_neg hk, dif_neg hn, hmin]
  rcases fgets 100 s with ⟨line, rest⟩
  dsimp only
  cases readFields k w (n - k) rest <;> rfl

theorem printLine_eq (xs : List Nat) : printLine w xs = Values.printFieldsLine w (xs.map natDigits) := by
  rw [printLine, Values.printFieldsLine, List.flatMap_map]; rfl

theorem printInts_eq_printFields (xs : List Nat) :
    printInts k w xs = (Values.printFields k w (xs.map natDigits)).flatten := by
  fun_induction printInts k w xs with
  | case1 _ h0 => rw [Values.printFields, dif_pos h0]; rfl
  | case2 => rw [List.map_nil, Values.printFields_nil]; rfl
  | case3 xs hk hx ih =>
    rw [Values.printFields, dif_neg hk, dif_neg (by simpa using hx), List.flatten_cons, ← List.map_take,
      ← List.map_drop, ← ih, printLine_eq]

theorem printField_length (x : Nat) (h : (natDigits x).length ≤ w) : (printField w x).length = w :=
  Values.pad_length h

theorem atoi_printField (x : Nat) : atoi (printField w x) = (x : Int) := by
  have h := atoi_natDigits stops_nil x
  rw [List.append_nil] at h
  rw [printField, atoi, scanInt_spaces, ← atoi, h]

end

open Values in
theorem lineFields_printFieldsLine {k w cnt : Nat} {fs : List (List Char)} (hlen : fs.length = min k cnt)
    (hfit : ∀ f ∈ fs, f.length ≤ w) : lineFields (printFieldsLine w fs) k w cnt = fs.map (pad w) := by
  rw [lineFields, ← hlen, fields_printFieldsLine hfit]

open Values in
theorem readFields_printFields {k w : Nat} {fields : List (List Char)} (hk : 0 < k) (hkw : k * w + 1 < 100)
    (hfit : ∀ f ∈ fields, f.length ≤ w) (hnl : ∀ f ∈ fields, ∀ c ∈ f, c ≠ '\n') :
    readFields k w fields.length (printFields k w fields).flatten = some (fields.map (pad w), []) := by
  fun_induction printFields k w fields with
  | case1 _ h0 => exact absurd h0 (Nat.ne_of_gt hk)
  | case2 => exact readFields_zero k w []
  | case3 fs _ hx ih =>
    have hgood := goodLine_printFieldsLine (forall_take hfit k) (List.length_take_le k fs) (forall_take hnl k) hkw
    rw [List.flatten_cons,
      readFields_step k w _ _ (Nat.ne_of_gt hk) (fun h0 => hx (List.length_eq_zero_iff.mp h0)),
      fgets_goodLine hgood, ← List.length_drop, ih (forall_drop hfit k) (forall_drop hnl k), Option.map_some,
      lineFields_printFieldsLine List.length_take (forall_take hfit k), ← List.map_append,
      List.take_append_drop]

theorem readVector_printInts {k w : Nat} {xs : List Nat} (hk : 0 < k) (hkw : k * w + 1 < 100)
    (hfit : ∀ x ∈ xs, (natDigits x).length ≤ w) :
    readVector k w xs.length (printInts k w xs) = some (xs.map (fun x : Nat => (x : Int) - 1), []) := by
  have h := readFields_printFields hk hkw (List.forall_mem_map.mpr hfit)
    (List.forall_mem_map.mpr fun x _ c hc he => absurd (natDigits_all_digits x c hc) (by rw [he]; decide))
  rw [List.length_map] at h
  rw [readVector, printInts_eq_printFields k w xs, h]
  show some (((xs.map natDigits).map (Values.pad w)).map (fun f => atoi f - 1), []) = _
  rw [List.map_map, List.map_map]
  exact congrArg (fun l => some (l, [])) (List.map_congr_left fun x _ => congrArg (· - 1) (atoi_printField w x))

theorem natDigits_length_le (w n : Nat) (hw : 0 < w) (h : n < 10 ^ w) : (natDigits n).length ≤ w := by
  fun_induction natDigits n generalizing w with
  | case1 n h10 => exact hw
  | case2 n h10 ih =>
    obtain ⟨w, rfl⟩ := Nat.exists_eq_succ_of_ne_zero (Nat.ne_of_gt hw)
    rw [Nat.pow_succ, Nat.mul_comm] at h
    -- at least two digits, so `w ≠ 0`
    have hw0 : 0 < w := Nat.pos_of_ne_zero fun e => h10 (by rw [e] at h; exact h)
    rw [List.length_append, List.length_singleton]
    exact Nat.succ_le_succ (ih w hw0 (Nat.div_lt_of_lt_mul h))

theorem readVector_printInts_of_lt (k w : Nat) (xs : List Nat) (hk : 0 < k) (hw : 0 < w)
    (hkw : k * w + 1 < 100) (hfit : ∀ x ∈ xs, x < 10 ^ w) :
    readVector k w xs.length (printInts k w xs) = some (xs.map (fun x : Nat => (x : Int) - 1), []) :=
  readVector_printInts hk hkw (fun x hx => natDigits_length_le w x hw (hfit x hx))

example : readVector 3 4 5 (printInts 3 4 [1, 22, 333, 4444, 5]) = some ([0, 21, 332, 4443, 4], []) :=
  readVector_printInts_of_lt 3 4 [1, 22, 333, 4444, 5] (by decide) (by decide) (by decide) (by decide)

example : printInts 3 4 [1, 22, 333, 4444, 5] = "   1  22 333\n4444   5\n".toList := by decide +kernel

end Slu.Readers
