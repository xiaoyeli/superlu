import Slu.Model.Readers
import SluProofs.Lemmas.ListLayout
import Mathlib.Data.List.Basic
import Mathlib.Data.List.Induction
/-
C16 — `cscOfCols` (the `a_colptr[j+1] = k` bookkeeping of FormFullA, dreadhb.c:244-271): the pointers are the cumulated
column lengths and the entry array is the concatenation, so the storage segment of column `j` is the `j`-th list.
-/
namespace Slu.Readers

variable {α : Type}

def colStep (acc : Array Nat × Array (Trip α)) (c : List (Trip α)) : Array Nat × Array (Trip α) :=
  (acc.1.push (acc.2.size + c.length), acc.2 ++ c.toArray)

theorem cscOfCols_eq (cols : List (List (Trip α))) : cscOfCols cols = cols.foldl colStep (#[0], #[]) := rfl

section
variable (cols : List (List (Trip α)))

theorem cscOfCols_snoc (c : List (Trip α)) : cscOfCols (cols ++ [c]) = colStep (cscOfCols cols) c := by
  rw [cscOfCols_eq, List.foldl_append]; rfl

theorem cscOfCols_inv :
    (cscOfCols cols).1.size = cols.length + 1 ∧
    (cscOfCols cols).2.toList = cols.flatten ∧
    ∀ i, i ≤ cols.length → (cscOfCols cols).1[i]? = some (cols.take i).flatten.length := by
  induction cols using List.reverseRecOn with
  | nil => exact ⟨rfl, rfl, fun i hi => by rw [Nat.le_zero.mp hi]; rfl⟩
  | append_singleton cols c ih =>
    obtain ⟨h1, h2, h3⟩ := ih
    have hsz : (cscOfCols cols).2.size = cols.flatten.length := by rw [← Array.length_toList, h2]
    rw [cscOfCols_snoc]
    refine ⟨by simp [colStep, h1], by simp [colStep, h2], fun i hi => ?_⟩
    rw [List.length_append, List.length_singleton] at hi
    simp only [colStep, Array.getElem?_push, h1]
    split
    · next hlast =>
      rw [hlast, hsz, List.take_of_length_le (by simp), List.flatten_append, List.flatten_singleton,
        List.length_append]
    · next hlast => rw [h3 i (by omega), List.take_append_of_le_length (by omega)]

theorem cscOfCols_getD (i : Nat) (hi : i ≤ cols.length) (d : Nat) :
    (cscOfCols cols).1.getD i d = (cols.take i).flatten.length := by
  rw [Array.getD_eq_getD_getElem?, (cscOfCols_inv cols).2.2 i hi]; rfl

theorem cscOfCols_colSeg (j : Nat) (hj : j < cols.length) :
    colSeg (cscOfCols cols).1 (cscOfCols cols).2 j = cols[j] := by
  rw [colSeg, cscOfCols_getD cols j (by omega), cscOfCols_getD cols (j + 1) (by omega), (cscOfCols_inv cols).2.1]
  exact flatten_segment cols j hj

end

end Slu.Readers
