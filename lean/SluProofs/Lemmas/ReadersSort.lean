import Slu.Model.Readers
import SluProofs.Lemmas.ReadersCols
import Mathlib.Data.List.Basic
import Mathlib.Algebra.BigOperators.Group.List.Basic
/-
C16 — the counting sort `cscOfTriplets` (dreadMM.c:183-207, dreadtriple.c:98-122, and the
transposition inside FormFullA): count per column, exclusive prefix sums, scatter.  Its result is the
layout `cscOfCols` of the triplets grouped by column in file order (`cscOfTriplets_eq_cscOfCols`).
The symmetric expansions of `readMM` (`mmExpand`) and of `FormFullA` (`formFull`) are both rearrangements of
`symFull`: the stored entries, then the mirror images of the off-diagonal ones.
-/
namespace Slu.Readers

theorem groups_perm {β : Type} (f : β → Nat) (l : List β) (n : Nat) :
    ((List.range n).flatMap fun j => l.filter fun x => decide (f x = j)).Perm (l.filter fun x => decide (f x < n)) := by
  induction n with
  | zero => simp
  | succ n ih =>
    rw [List.range_succ, List.flatMap_append, List.flatMap_singleton]
    refine (ih.append_right _).trans ?_
    -- `f x < n + 1` splits into `f x < n` and `f x = n`
    have h := List.filter_append_perm (fun x => decide (f x < n)) (l.filter fun x => decide (f x < n + 1))
    rw [List.filter_filter, List.filter_filter] at h
    have e1 : (fun x => decide (f x < n) && decide (f x < n + 1)) = fun x => decide (f x < n) :=
      funext fun x => Bool.eq_iff_iff.mpr (by simp only [Bool.and_eq_true, decide_eq_true_eq]; omega)
    have e2 : (fun x => !decide (f x < n) && decide (f x < n + 1)) = fun x => decide (f x = n) :=
      funext fun x => Bool.eq_iff_iff.mpr (by
        simp only [Bool.and_eq_true, Bool.not_eq_true', decide_eq_false_iff_not, decide_eq_true_eq]; omega)
    rwa [e1, e2] at h

theorem groups_perm_of_lt {β : Type} (f : β → Nat) (l : List β) (n : Nat) (h : ∀ x ∈ l, f x < n) :
    ((List.range n).flatMap fun j => l.filter fun x => decide (f x = j)).Perm l := by
  have := groups_perm f l n
  rwa [List.filter_eq_self.mpr fun x hx => decide_eq_true (h x hx)] at this

theorem sum_countP_eq {β : Type} (f : β → Nat) (l : List β) (n : Nat) :
    ((List.range n).map fun j => l.countP (fun e => decide (f e = j))).sum =
      l.countP (fun e => decide (f e < n)) := by
  simpa only [List.length_flatMap, List.countP_eq_length_filter] using (groups_perm f l n).length_eq

/-- the loop `k = 0; for j: xa[j] = k; k += f j` of `startsOf` -/
theorem prefixFold_range (f : Nat → Nat) (n : Nat) :
    ((List.range n).map f).foldl (fun (acc : Array Nat × Nat) c => (acc.1.push acc.2, acc.2 + c)) (#[], 0) =
      (((List.range n).map fun j => ((List.range j).map f).sum).toArray, ((List.range n).map f).sum) := by
  induction n with
  | zero => rfl
  | succ n ih =>
    rw [List.range_succ, List.map_append, List.foldl_append, ih, List.map_append, List.sum_append]
    simp

theorem drop_take_eq_of_getElem? {β : Type} (xs L : List β) (a : Nat)
    (h : ∀ r, r < L.length → xs[a + r]? = L[r]?) : (xs.drop a).take L.length = L := by
  apply List.ext_getElem?
  intro r
  by_cases hr : r < L.length
  · rw [List.getElem?_take_of_lt hr, List.getElem?_drop, h r hr]
  · rw [List.getElem?_eq_none (by rw [List.length_take]; omega), List.getElem?_eq_none (by omega)]

variable {α : Type}

def cntCol (ts : List (Trip α)) (j : Nat) : Nat := ts.countP (fun t => decide (t.col = j))
def cntLt (ts : List (Trip α)) (j : Nat) : Nat := ts.countP (fun t => decide (t.col < j))

theorem cntCol_append (p q : List (Trip α)) (j : Nat) : cntCol (p ++ q) j = cntCol p j + cntCol q j :=
  List.countP_append

theorem cntCol_cons (t : Trip α) (q : List (Trip α)) (j : Nat) :
    cntCol (t :: q) j = (if t.col = j then 1 else 0) + cntCol q j := by
  rw [cntCol, List.countP_cons, Nat.add_comm]
  simp only [decide_eq_true_eq]
  rfl

section
variable (ts : List (Trip α))

theorem cntLt_zero : cntLt ts 0 = 0 := by
  simp [cntLt]

theorem cntLt_succ (j : Nat) : cntLt ts (j + 1) = cntLt ts j + cntCol ts j := by
  unfold cntLt
  rw [← sum_countP_eq, ← sum_countP_eq, List.range_succ, List.map_append, List.sum_append]
  simp [cntCol]

theorem cntLt_mono {j j' : Nat} (h : j ≤ j') : cntLt ts j ≤ cntLt ts j' :=
  List.countP_mono_left fun t _ ht => by
    simp only [decide_eq_true_eq] at ht ⊢
    omega

theorem cntLt_all (n : Nat) (h : ∀ t ∈ ts, t.col < n) : cntLt ts n = ts.length :=
  List.countP_eq_length.mpr fun t ht => decide_eq_true (h t ht)

theorem cntCol_eq_length_filter (j : Nat) : cntCol ts j = (ts.filter (fun t => decide (t.col = j))).length :=
  List.countP_eq_length_filter

theorem seg_lt {j j' r : Nat} (hlt : j < j') (hr : r < cntCol ts j) (r' : Nat) :
    cntLt ts j + r < cntLt ts j' + r' :=
  calc cntLt ts j + r < cntLt ts j + cntCol ts j := Nat.add_lt_add_left hr _
    _ = cntLt ts (j + 1) := (cntLt_succ ts j).symm
    _ ≤ cntLt ts j' := cntLt_mono ts hlt
    _ ≤ cntLt ts j' + r' := Nat.le_add_right _ _

theorem seg_inj {j j' r r' : Nat} (hr : r < cntCol ts j) (hr' : r' < cntCol ts j')
    (h : cntLt ts j + r = cntLt ts j' + r') : j = j' := by
  by_contra hne
  rcases Nat.lt_or_gt_of_ne hne with hlt | hgt
  · exact Nat.ne_of_lt (seg_lt ts hlt hr r') h
  · exact Nat.ne_of_gt (seg_lt ts hgt hr' r) h

end

def colGroups (n : Nat) (ts : List (Trip α)) : List (List (Trip α)) :=
  (List.range n).map fun j => ts.filter (fun t => decide (t.col = j))

theorem colGroups_length (n : Nat) (ts : List (Trip α)) : (colGroups n ts).length = n := by
  rw [colGroups, List.length_map, List.length_range]

theorem colGroups_succ (n : Nat) (ts : List (Trip α)) :
    colGroups (n + 1) ts = colGroups n ts ++ [ts.filter (fun t => decide (t.col = n))] := by
  rw [colGroups, colGroups, List.range_succ, List.map_append, List.map_singleton]

theorem colGroups_flatten_length (ts : List (Trip α)) (i : Nat) : (colGroups i ts).flatten.length = cntLt ts i := by
  rw [colGroups, List.length_flatten, List.map_map]
  have hsum := sum_countP_eq (fun t : Trip α => t.col) ts i
  simp only [List.countP_eq_length_filter] at hsum
  rw [Function.comp_def, hsum, ← List.countP_eq_length_filter]
  rfl

theorem colGroups_take (ts : List (Trip α)) {n i : Nat} (hi : i ≤ n) : (colGroups n ts).take i = colGroups i ts := by
  rw [colGroups, ← List.map_take, List.take_range, Nat.min_eq_left hi, colGroups]

theorem countFold_getElem? (ts : List (Trip α)) (xa : Array Nat) (j : Nat) :
    (ts.foldl (fun xa t => xa.modify t.col (· + 1)) xa)[j]? = xa[j]?.map (· + cntCol ts j) := by
  induction ts generalizing xa with
  | nil => exact Option.map_id'.symm
  | cons t ts ih =>
    rw [List.foldl_cons, ih, Array.getElem?_modify, cntCol_cons]
    split
    · rw [Option.map_map]
      exact congrArg (Option.map · _) (funext fun x => Nat.add_assoc x 1 _)
    · rw [Nat.zero_add]

theorem countCols_eq (n : Nat) (ts : List (Trip α)) :
    countCols n ts = ((List.range n).map (cntCol ts)).toArray := by
  apply Array.ext_getElem?
  intro j
  rw [countCols, countFold_getElem?]
  by_cases hj : j < n <;> simp [hj]

theorem starts_eq (n : Nat) (ts : List (Trip α)) :
    startsOf (countCols n ts) = ((List.range n).map (cntLt ts)).toArray := by
  rw [countCols_eq, startsOf, List.foldl_toArray, prefixFold_range]
  exact congrArg List.toArray (List.map_congr_left fun j _ => sum_countP_eq _ ts j)

/-- invariant of the scatter loop once the prefix `p` of `ts` has been placed -/
structure ScInv (n : Nat) (ts p : List (Trip α)) (xa : Array Nat) (out : Array (Trip α)) : Prop where
  xa_size : xa.size = n
  out_size : out.size = ts.length
  xa_val : ∀ j, j < n → xa[j]? = some (cntLt ts j + cntCol p j)
  out_val : ∀ j, j < n → ∀ r, r < cntCol p j →
    out[cntLt ts j + r]? = (p.filter (fun t => decide (t.col = j)))[r]?

theorem scInv_step (n : Nat) (ts p q : List (Trip α)) (t : Trip α) (xa : Array Nat) (out : Array (Trip α))
    (hts : ts = p ++ t :: q) (hc : t.col < n) (inv : ScInv n ts p xa out) :
    ScInv n ts (p ++ [t]) (xa.modify t.col (· + 1)) (out.setIfInBounds (xa.getD t.col 0) t) := by
  have hk : xa.getD t.col 0 = cntLt ts t.col + cntCol p t.col := by
    rw [Array.getD_eq_getD_getElem?, inv.xa_val _ hc]; rfl
  have hle : ∀ j, cntCol (p ++ [t]) j ≤ cntCol ts j := fun j => by
    rw [hts, List.append_cons p t q, cntCol_append (p ++ [t])]; exact Nat.le_add_right _ _
  have hsn : ∀ j, cntCol (p ++ [t]) j = cntCol p j + if t.col = j then 1 else 0 := fun j => by
    rw [cntCol_append, cntCol_cons]; rfl
  have hlt : cntCol p t.col < cntCol ts t.col := by
    have := hle t.col
    rwa [hsn, if_pos rfl] at this
  have hkb : cntLt ts t.col + cntCol p t.col < out.size := by
    rw [inv.out_size]
    calc cntLt ts t.col + cntCol p t.col < cntLt ts t.col + cntCol ts t.col := Nat.add_lt_add_left hlt _
      _ = cntLt ts (t.col + 1) := (cntLt_succ ts t.col).symm
      _ ≤ ts.length := List.countP_le_length
  refine ⟨by rw [Array.size_modify, inv.xa_size], by rw [Array.size_setIfInBounds, inv.out_size], ?_, ?_⟩
  · intro j hj
    rw [Array.getElem?_modify, hsn, inv.xa_val j hj]
    split <;> rfl
  · intro j hj r hr
    rw [hk, Array.getElem?_setIfInBounds, if_pos hkb, List.filter_append]
    have hflen := cntCol_eq_length_filter p j
    split
    · -- the slot just written: it lies in the segment of `t.col`, right after the entries placed before
      next heq =>
      have hcj : t.col = j := seg_inj ts hlt (Nat.lt_of_lt_of_le hr (hle j)) heq
      subst hcj
      have hr2 := Nat.add_left_cancel heq
      subst hr2
      rw [List.getElem?_append_right (Nat.le_of_eq hflen.symm), ← hflen, Nat.sub_self,
        List.filter_cons_of_pos (p := fun t' : Trip α => decide (t'.col = t.col)) (decide_eq_true rfl)]
      rfl
    · next hne =>
      have hr' : r < cntCol p j := by
        rw [hsn] at hr
        split at hr
        · next hcj => subst hcj; exact Nat.lt_of_le_of_ne (Nat.le_of_lt_succ hr) fun h => hne (by rw [h])
        · exact hr
      rw [inv.out_val j hj r hr', List.getElem?_append_left (hflen ▸ hr')]

theorem scatter_inv (n : Nat) (ts : List (Trip α)) (hall : ∀ t ∈ ts, t.col < n) :
    ∀ (q p : List (Trip α)) (xa : Array Nat) (out : Array (Trip α)), ts = p ++ q → ScInv n ts p xa out →
      ScInv n ts ts (scatter xa q out).1 (scatter xa q out).2 := by
  intro q
  induction q with
  | nil =>
    intro p xa out hts inv
    rw [List.append_nil] at hts
    subst hts
    exact inv
  | cons t q ih =>
    intro p xa out hts inv
    have hc : t.col < n := hall t (by rw [hts]; simp)
    exact ih (p ++ [t]) _ _ (by rw [hts, List.append_cons]) (scInv_step n ts p q t xa out hts hc inv)

theorem ScInv.eq_cscOfCols {n : Nat} {ts : List (Trip α)} {xa : Array Nat} {out : Array (Trip α)}
    (inv : ScInv n ts ts xa out) (hall : ∀ t ∈ ts, t.col < n) : (#[0] ++ xa, out) = cscOfCols (colGroups n ts) := by
  obtain ⟨g1, g2, g3⟩ := cscOfCols_inv (colGroups n ts)
  rw [colGroups_length] at g1 g3
  refine Prod.ext (Array.ext_getElem? fun i => ?_) (Array.ext' ?_)
  · by_cases hi : i ≤ n
    · rw [g3 i hi, colGroups_take ts hi, colGroups_flatten_length]
      cases i with
      | zero => rw [Array.getElem?_append_left (by simp)]; exact congrArg some (cntLt_zero ts).symm
      | succ i =>
        rw [Array.getElem?_append_right (by simp)]
        exact (inv.xa_val i hi).trans (congrArg some (cntLt_succ ts i).symm)
    · rw [Array.getElem?_eq_none (by simp [inv.xa_size]; omega), Array.getElem?_eq_none (by omega)]
  · have hseg : ∀ j, j < n →
        (out.toList.drop (cntLt ts j)).take (cntCol ts j) = ts.filter (fun t => decide (t.col = j)) := fun j hj => by
      rw [cntCol_eq_length_filter]
      refine drop_take_eq_of_getElem? _ _ _ fun r hr => ?_
      rw [Array.getElem?_toList]
      exact inv.out_val j hj r (by rwa [cntCol_eq_length_filter])
    have htake : ∀ j, j ≤ n → out.toList.take (cntLt ts j) = (colGroups j ts).flatten := by
      intro j
      induction j with
      | zero => intro _; rw [cntLt_zero]; rfl
      | succ j ih =>
        intro hj
        rw [cntLt_succ, List.take_add, ih (Nat.le_of_succ_le hj), hseg j hj, colGroups_succ, List.flatten_append,
          List.flatten_singleton]
    have h := htake n (Nat.le_refl n)
    rw [cntLt_all ts n hall, ← inv.out_size, ← Array.length_toList, List.take_length] at h
    rw [h, g2]

section
variable [Inhabited α] (n : Nat) (ts : List (Trip α)) (hall : ∀ t ∈ ts, t.col < n)
include hall

theorem cscOfTriplets_eq_cscOfCols : cscOfTriplets n ts = cscOfCols (colGroups n ts) := by
  have inv0 : ScInv n ts [] (startsOf (countCols n ts)) (Array.replicate ts.length default) := by
    rw [starts_eq]
    refine ⟨by simp, by simp, fun j hj => ?_, fun j _ r hr => absurd hr (Nat.not_lt_zero r)⟩
    simp [hj, cntCol]
  exact (scatter_inv n ts hall ts [] _ _ rfl inv0).eq_cscOfCols hall

theorem cscOfTriplets_size : (cscOfTriplets n ts).1.size = n + 1 ∧ (cscOfTriplets n ts).2.size = ts.length := by
  obtain ⟨g1, g2, _⟩ := cscOfCols_inv (colGroups n ts)
  rw [cscOfTriplets_eq_cscOfCols n ts hall, g1, ← Array.length_toList, g2, colGroups_flatten_length,
    cntLt_all ts n hall, colGroups_length]
  exact ⟨rfl, rfl⟩

theorem cscOfTriplets_getD (j : Nat) (hj : j ≤ n) (d : Nat) : (cscOfTriplets n ts).1.getD j d = cntLt ts j := by
  rw [cscOfTriplets_eq_cscOfCols n ts hall, cscOfCols_getD _ j (by rwa [colGroups_length]), colGroups_take ts hj,
    colGroups_flatten_length]

theorem cscOfTriplets_colSeg (j : Nat) (hj : j < n) :
    colSeg (cscOfTriplets n ts).1 (cscOfTriplets n ts).2 j = ts.filter (fun t => decide (t.col = j)) := by
  rw [cscOfTriplets_eq_cscOfCols n ts hall, cscOfCols_colSeg _ j (by rwa [colGroups_length])]
  simp only [colGroups, List.getElem_map, List.getElem_range]

end

theorem mmExpand_cons (t : Trip α) (ts : List (Trip α)) :
    mmExpand (t :: ts) = (if t.row ≠ t.col then [t, t.swap] else [t]) ++ mmExpand ts :=
  List.flatMap_cons

def symFull (ts : List (Trip α)) : List (Trip α) :=
  ts ++ (ts.filter fun t => decide (t.row ≠ t.col)).map Trip.swap

theorem mem_symFull (ts : List (Trip α)) (t : Trip α) :
    t ∈ symFull ts ↔ t ∈ ts ∨ (t.row ≠ t.col ∧ t.swap ∈ ts) := by
  rw [symFull, List.mem_append, List.mem_map]
  refine or_congr_right ⟨?_, fun ⟨hne, hs⟩ => ⟨t.swap, List.mem_filter.mpr ⟨hs, decide_eq_true (Ne.symm hne)⟩, rfl⟩⟩
  rintro ⟨e, he, rfl⟩
  obtain ⟨he, hp⟩ := List.mem_filter.mp he
  exact ⟨Ne.symm (of_decide_eq_true hp), he⟩

theorem symFull_length (ts : List (Trip α)) :
    (symFull ts).length + ts.countP (fun t => decide (t.row = t.col)) = 2 * ts.length := by
  have hsplit : ts.length =
      ts.countP (fun t => decide (t.row = t.col)) + ts.countP (fun t => decide (t.row ≠ t.col)) := by
    rw [List.length_eq_countP_add_countP (fun e : Trip α => decide (e.row = e.col))]; simp
  rw [symFull, List.length_append, List.length_map, ← List.countP_eq_length_filter]
  omega

theorem mmExpand_perm (ts : List (Trip α)) : (mmExpand ts).Perm (symFull ts) := by
  induction ts with
  | nil => exact List.Perm.refl _
  | cons t ts ih =>
    rw [mmExpand_cons, symFull, List.filter_cons]
    by_cases h : t.row = t.col
    · simpa [h, symFull] using ih
    · simp only [h, ne_eq, not_false_eq_true, decide_true, if_true, List.map_cons, List.cons_append, List.nil_append]
      -- the mirror image moves from behind `t` to behind the stored entries
      exact (List.Perm.cons _ ((List.Perm.cons _ ih).trans List.perm_middle.symm))

theorem mmExpand_length (ts : List (Trip α)) :
    (mmExpand ts).length + ts.countP (fun t => decide (t.row = t.col)) = 2 * ts.length :=
  (mmExpand_perm ts).length_eq ▸ symFull_length ts

theorem mem_mmExpand (ts : List (Trip α)) (t : Trip α) :
    t ∈ mmExpand ts ↔ t ∈ ts ∨ (t.row ≠ t.col ∧ t.swap ∈ ts) :=
  (mmExpand_perm ts).mem_iff.trans (mem_symFull ts t)

section
variable [Inhabited α] (n : Nat) (es : List (Trip α))

theorem formFull_eq :
    formFull n es = (List.range n).map fun j =>
      (colSeg (cscOfTriplets n (es.map Trip.swap)).1 (cscOfTriplets n (es.map Trip.swap)).2 j).filter
        (fun t => decide (t.row ≠ j)) ++ es.filter (fun t => decide (t.col = j)) := rfl

theorem formFull_length : (formFull n es).length = n := by
  rw [formFull_eq, List.length_map, List.length_range]

theorem formFull_cols (hrow : ∀ e ∈ es, e.row < n) :
    formFull n es = (List.range n).map fun j =>
      (es.filter (fun e => decide (e.row = j) && decide (e.row ≠ e.col))).map Trip.swap ++
        es.filter (fun e => decide (e.col = j)) := by
  have hall : ∀ t ∈ es.map Trip.swap, t.col < n := List.forall_mem_map.mpr hrow
  rw [formFull_eq]
  refine List.map_congr_left fun j hj => ?_
  rw [cscOfTriplets_colSeg n _ hall j (List.mem_range.mp hj), List.filter_map, List.filter_map, List.filter_filter]
  congr 2
  refine List.filter_congr fun e _ => ?_
  -- `e.swap` lies in column `j` off the diagonal iff `e` lies in row `j` off the diagonal
  show (decide (e.col ≠ j) && decide (e.row = j)) = (decide (e.row = j) && decide (e.row ≠ e.col))
  by_cases h1 : e.row = j
  · subst h1; simp [eq_comm]
  · simp [h1]

theorem formFull_perm (hrow : ∀ e ∈ es, e.row < n) (hcol : ∀ e ∈ es, e.col < n) :
    (formFull n es).flatten.Perm (symFull es) := by
  rw [formFull_cols n es hrow, ← List.flatMap_def]
  refine (List.flatMap_append_perm _ _ _).symm.trans (List.perm_append_comm.trans ?_)
  refine (groups_perm_of_lt _ es n hcol).append ?_
  -- the mirror images, grouped by the row of the original
  have h := (groups_perm_of_lt (fun e : Trip α => e.row) (es.filter fun t => decide (t.row ≠ t.col)) n
    fun e he => hrow e (List.mem_of_mem_filter he)).map Trip.swap
  rw [List.map_flatMap] at h
  refine Eq.mp ?_ h
  congr 2
  funext j
  rw [List.filter_filter]

theorem formFull_count (hrow : ∀ e ∈ es, e.row < n) (hcol : ∀ e ∈ es, e.col < n) :
    (formFull n es).flatten.length + es.countP (fun e => decide (e.row = e.col)) = 2 * es.length :=
  (formFull_perm n es hrow hcol).length_eq ▸ symFull_length es

end

end Slu.Readers
