import Slu.Model.Readers
import SluProofs.Lemmas.ReadersText
/-
C16 — the triplet loop of `readTriple` (dreadtriple.c:60-93) on the lines `row col value` of a printed
file with 1-based in-range indices: the numbers are scanned back, the zero-base heuristic does not
fire, the bound check passes, and the entries come out in file order (`readTriplets_lines`).
-/
namespace Slu.Readers

/-- the entries as the reader stores them: value list `[v]` as a rational -/
def tripRat (t : Trip Nat) : Trip (List Rat) := { row := t.row, col := t.col, val := [(t.val : Rat)] }

theorem scanDec_space (c : Char) (s : List Char) (h : isSpace c = true) : scanDec (c :: s) = scanDec s := by
  rw [scanDec, scanDec, skipWs_space c s h]

theorem scanInt_natDigits_nl (k : Nat) (rest : List Char) :
    scanInt (natDigits k ++ '\n' :: rest) = some ((k : Int), '\n' :: rest) :=
  scanInt_natDigits (stops_cons (by decide)) k

theorem scanInt_ws_natDigits (w c : Char) (k : Nat) (rest : List Char) (hw : isSpace w = true)
    (hc : isDigit c = false) : scanInt (w :: (natDigits k ++ c :: rest)) = some ((k : Int), c :: rest) := by
  rw [scanInt_space w _ hw]
  exact scanInt_natDigits (stops_cons hc) k

/-- a natural number read as a decimal constant (`%lf` on an integer-valued entry) -/
theorem scanDec_natDigits_nl (v : Nat) (rest : List Char) :
    scanDec (natDigits v ++ '\n' :: rest) = some { val := (v : Rat), hasExp := false, rest := '\n' :: rest } := by
  rw [scanDec, takeSign_skipWs_natDigits]
  dsimp only
  rw [takeDigits_natDigits_stop (stops_cons (by decide)) v]
  simp [natDigits_ne_nil, pow10]

theorem printTripLine_append (t : Trip Nat) (rest : List Char) :
    printTripLine t ++ rest =
      natDigits (t.row + 1) ++ ' ' :: (natDigits (t.col + 1) ++ ' ' :: (natDigits t.val ++ '\n' :: rest)) := by
  simp [printTripLine]

/-- a 1-based index never triggers the zero-base heuristic (this and `outOfBound_false` are stated as the `if` / `||`
terms the unfolded body of `readTriplets` contains, so that `readTriplets_step` rewrites with them) -/
theorem zeroBase_false (first : Bool) (a b : Nat) :
    (if first = true then (((a + 1 : Nat) : Int) == 0 || ((b + 1 : Nat) : Int) == 0) else false) = false := by
  have h : ∀ c : Nat, (((c + 1 : Nat) : Int) == 0) = false := fun c =>
    beq_eq_false_iff_ne.mpr (Int.natCast_ne_zero.mpr (Nat.succ_ne_zero c))
  cases first
  · rfl
  · rw [if_pos rfl, h a, h b]; rfl

theorem outOfBound_false (a b n : Nat) (ha : a < n) (hb : b < n) :
    (decide ((a : Int) < 0) || decide ((a : Int) ≥ (n : Int)) || decide ((b : Int) < 0)
      || decide ((b : Int) ≥ (n : Int))) = false := by
  simp only [Bool.or_eq_false_iff, decide_eq_false_iff_not]
  omega

theorem readTriplets_step (n k : Nat) (first : Bool) (w : Char) (hw : isSpace w = true) (t : Trip Nat)
    (hr : t.row < n) (hc : t.col < n) (rest : List Char) (acc : List (Trip (List Rat))) :
    readTriplets 1 n n (k + 1) first false (w :: (printTripLine t ++ rest)) acc =
      readTriplets 1 n n k false false ('\n' :: rest) (tripRat t :: acc) := by
  have hsub : ∀ c : Nat, ((c + 1 : Nat) : Int) - 1 = (c : Int) := fun c => by
    rw [Int.natCast_add, Int.natCast_one, Int.add_sub_cancel]
  -- one turn of the loop: `row` and `col` by `scanInt` ...
  rw [printTripLine_append, readTriplets, scanInt_ws_natDigits w ' ' _ _ hw (by decide)]
  -- ... both 1-based and in range: no switch to zero-based, `row - 1`, `col - 1`, the bound check passes
  simp only [scanInt_ws_natDigits ' ' ' ' _ _ (by decide) (by decide), zeroBase_false, hsub,
    outOfBound_false _ _ n hr hc, Bool.false_eq_true, if_false, Int.toNat_natCast]
  -- the value loop `foldlM` over `List.range vpe`, `vpe = 1`, is a single `scanDec` on ` v\n`;
  -- what remains are the `Except` binds and the record `tripRat t`
  simp [List.range_succ, scanDec_space ' ' _ (by decide), scanDec_natDigits_nl, tripRat]

theorem readTriplets_lines (n : Nat) (ts : List (Trip Nat)) (h : ∀ t ∈ ts, t.row < n ∧ t.col < n)
    (first : Bool) (w : Char) (hw : isSpace w = true) (rest : List Char) (acc : List (Trip (List Rat))) :
    readTriplets 1 n n ts.length first false (w :: (ts.flatMap printTripLine ++ rest)) acc =
      .ok (acc.reverse ++ ts.map tripRat) := by
  induction ts generalizing first w acc with
  | nil => simp [readTriplets]; rfl
  | cons t ts ih =>
    have ht := h t (by simp)
    rw [List.length_cons, List.flatMap_cons, List.append_assoc,
      readTriplets_step n ts.length first w hw t ht.1 ht.2,
      ih (fun u hu => h u (by simp [hu])) false '\n' (by decide)]
    simp

example : ∀ t ∈ [(⟨2, 1, 7⟩ : Trip Nat), ⟨0, 0, 12⟩, ⟨1, 2, 0⟩], t.row < 3 ∧ t.col < 3 := by decide +kernel

example : printTriple 3 [⟨2, 1, 7⟩, ⟨0, 0, 12⟩, ⟨1, 2, 0⟩] = "3 3\n3 2 7\n1 1 12\n2 3 0\n".toList := by
  decide +kernel

/-- duplicates and an empty file are covered -/
example : ∀ t ∈ [(⟨0, 0, 1⟩ : Trip Nat), ⟨0, 0, 2⟩], t.row < 1 ∧ t.col < 1 := by decide +kernel
example : ∀ t ∈ ([] : List (Trip Nat)), t.row < 0 ∧ t.col < 0 := by simp

end Slu.Readers
