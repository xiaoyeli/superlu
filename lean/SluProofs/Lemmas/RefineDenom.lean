import Slu.Model.Refine
import SluProofs.Lemmas.RefineResid
import SluProofs.Lemmas.RatBasic
/-
Entrywise reading of the denominator `rwork = |op(A)||x| + |b|` that `[sdcz]gsrfs` accumulates
(`Slu.Refine.denom`, dgsrfs.c:299-317), in exact arithmetic and for every compressed-column matrix (any order,
duplicates summed); a row where it vanishes has a zero residual.
Names are in namespace `Slu.Gssvx`, like those of `RefineResid.lean`.
-/
namespace Slu.Gssvx
open Slu Slu.Equil Slu.Lacon Slu.Refine

variable {K : Type} [CommRing K] [Inhabited K]

/-- the magnitude and the multiply-add of the arithmetic record behave as in exact arithmetic -/
structure AbsLaws (Ar : Arith K Rat) : Prop where
  mulAdd : ∀ acc a b, Ar.mulAdd acc a b = acc + a * b
  abs_nonneg : ∀ v, 0 ≤ Ar.absK v
  abs_zero : ∀ v, Ar.absK v = 0 → v = 0

theorem absQ_laws : AbsLaws arithQ where
  mulAdd _ _ _ := rfl
  abs_nonneg v := rabs_nonneg v
  abs_zero v h := abs_eq_zero.mp ((rabs_eq_abs v).symm.trans h)

theorem absQC_laws : AbsLaws arithQC where
  mulAdd _ _ _ := rfl
  abs_nonneg v := add_nonneg (rabs_nonneg v.re) (rabs_nonneg v.im)
  abs_zero v h := by
    obtain ⟨h1, h2⟩ := (add_eq_zero_iff_of_nonneg (rabs_nonneg v.re) (rabs_nonneg v.im)).mp h
    rw [rabs_eq_abs, abs_eq_zero] at h1 h2
    ext
    · exact h1
    · exact h2

/-- the stored entries with their magnitudes -/
def absEntries (Ar : Arith K Rat) (A : CSC K) : List (Entry Rat) :=
  (List.range A.n).flatMap fun j => (A.col j).map fun e => { row := e.1, col := j, val := Ar.absK e.2 }

section denom
variable (Ar : Arith K Rat) (al : AbsLaws Ar)
include al

/-- **the denominator `gsrfs` forms is `|b| + |op(A)||x|`**, entry by entry, in exact arithmetic: the same scatter
(NOTRANS) and gather (TRANS, CONJ; magnitudes are real, the conjugation of `opTerm .C` is the identity) as in
`resid_adds`, started from `|b|` -/
theorem denom_exact (hk : Ar.kzero = 0) (tr : Trans) (A : CSC K) (x b : Array K) :
    (denom Ar tr A x b).size = b.size ∧
    ∀ i < b.size, (denom Ar tr A x b).getD i 0 =
      Ar.absK (b.getD i 0) + opMul (opOfTrans tr) (absEntries Ar A) (fun k => Ar.absK (x.getD k 0)) i := by
  have key : (denom Ar tr A x b).size = (b.map Ar.absK).size ∧ ∀ i < (b.map Ar.absK).size,
      (denom Ar tr A x b).getD i 0 = (b.map Ar.absK).getD i 0 +
        opMul (opOfTrans tr) (absEntries Ar A) (fun k => Ar.absK (x.getD k Ar.kzero)) i := by
    cases tr
    · simp only [denom, al.mulAdd]
      exact colLoop_spec Ar.absK A .N (fun k => Ar.absK (x.getD k Ar.kzero))
        (fun j => Adds.scatter Prod.fst (fun e : Nat × K => Ar.absK e.2 * Ar.absK (x.getD j Ar.kzero)) (A.col j)) _
    -- `mulAdd` becomes `+ _ * _` and the inner fold (the dot product of magnitudes) a `List.sum`
    all_goals simp only [denom, al.mulAdd, foldl_add_eq_sum, zero_add]
    · exact colLoop_spec Ar.absK A .T (fun k => Ar.absK (x.getD k Ar.kzero))
        (fun j => Adds.setSum j (A.col j) fun e => Ar.absK e.2 * Ar.absK (x.getD e.1 Ar.kzero)) _
    · exact colLoop_spec Ar.absK A .C (fun k => Ar.absK (x.getD k Ar.kzero))
        (fun j => Adds.setSum j (A.col j) fun e => Ar.absK e.2 * Ar.absK (x.getD e.1 Ar.kzero)) _
  rw [Array.size_map, hk] at key
  exact ⟨key.1, fun i hi => by rw [key.2 i hi, getD_map_of_lt Ar.absK b i hi 0]⟩

omit [CommRing K] al in
theorem absEntries_eq (A : CSC K) :
    absEntries Ar A = (cscEntries A).map (fun e => { row := e.row, col := e.col, val := Ar.absK e.val }) := by
  unfold absEntries cscEntries
  rw [List.map_flatMap]
  congr 1
  funext j
  rw [List.map_map]; rfl

omit [Inhabited K] in
theorem opTerm_abs [HasConj K] [Mag K Rat] [ScalarLaws K] (op : Op) (x : Nat → K) (i : Nat) (e : Entry K) :
    0 ≤ opTerm op (fun k => Ar.absK (x k)) i { row := e.row, col := e.col, val := Ar.absK e.val } ∧
    (opTerm op (fun k => Ar.absK (x k)) i { row := e.row, col := e.col, val := Ar.absK e.val } = 0 →
      opTerm op x i e = 0) := by
  have key : ∀ a v : K, 0 ≤ Ar.absK a * Ar.absK v ∧
      (Ar.absK a * Ar.absK v = 0 → a * v = 0 ∧ HasConj.conj a * v = 0) := by
    refine fun a v => ⟨mul_nonneg (al.abs_nonneg a) (al.abs_nonneg v), fun h => ?_⟩
    rcases mul_eq_zero.mp h with h | h
    · rw [al.abs_zero a h, ScalarLaws.conj_zero, zero_mul]; exact ⟨rfl, rfl⟩
    · rw [al.abs_zero v h, mul_zero, mul_zero]; exact ⟨rfl, rfl⟩
  have pick : ∀ (c : Prop) [Decidable c] (p : Rat) (q : K), (0 ≤ p ∧ (p = 0 → q = 0)) →
      0 ≤ (if c then p else 0) ∧ ((if c then p else 0) = 0 → (if c then q else 0) = 0) := by
    intro c _ p q h
    by_cases hc : c
    · rw [if_pos hc, if_pos hc]; exact h
    · rw [if_neg hc, if_neg hc]; exact ⟨le_refl 0, fun _ => rfl⟩
  cases op
  · exact pick _ _ _ ⟨(key _ _).1, fun h => ((key _ _).2 h).1⟩
  · exact pick _ _ _ ⟨(key _ _).1, fun h => ((key _ _).2 h).1⟩
  · exact pick _ _ _ ⟨(key _ _).1, fun h => ((key _ _).2 h).2⟩
  · exact pick _ _ _ ⟨(key _ _).1, fun h => ((key _ _).2 h).2⟩

/-- a row with a zero denominator has a zero residual: every stored product in it vanishes and so does `b_i`.
This is the fact for the stored entry list and the record's magnitude (real or complex);
`OettliPrager.res_zero_of_den_zero` is its dense reading over `ℚ` with `|·|`. -/
theorem resid_zero_of_denom_zero [HasConj K] [Mag K Rat] [ScalarLaws K] (tr : Trans) (A : CSC K) (x b : Array K) (i : Nat)
    (h : Ar.absK (b.getD i 0) + opMul (opOfTrans tr) (absEntries Ar A) (fun k => Ar.absK (x.getD k 0)) i = 0) :
    b.getD i 0 - opMul (opOfTrans tr) (cscEntries A) (fun k => x.getD k 0) i = 0 := by
  unfold opMul at h ⊢
  rw [absEntries_eq, List.map_map] at h
  have hnn : ∀ t ∈ (cscEntries A).map (opTerm (opOfTrans tr) (fun k => Ar.absK (x.getD k 0)) i ∘
      fun e => { row := e.row, col := e.col, val := Ar.absK e.val }), 0 ≤ t := by
    intro t ht
    obtain ⟨e, _, rfl⟩ := List.mem_map.mp ht
    exact (opTerm_abs Ar al _ (fun k => x.getD k 0) i e).1
  obtain ⟨hb, hs⟩ := (add_eq_zero_iff_of_nonneg (al.abs_nonneg _) (List.sum_nonneg hnn)).mp h
  rw [al.abs_zero _ hb, zero_sub, neg_eq_zero]
  apply List.sum_eq_zero
  intro t ht
  obtain ⟨e, he, rfl⟩ := List.mem_map.mp ht
  exact (opTerm_abs Ar al _ (fun k => x.getD k 0) i e).2
    (List.all_zero_of_le_zero_le_of_sum_eq_zero hnn hs (List.mem_map.mpr ⟨e, he, rfl⟩))

end denom
end Slu.Gssvx
