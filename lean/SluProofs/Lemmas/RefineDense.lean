import SluProofs.Lemmas.RefineDenom
/-
Dense reading of the stored entry list of a real compressed-column matrix, for the Oettli–Prager reading
of BERR (Props/C13.lean, `berr_is_min_backward_error`): entry `(r,c)` is the sum of the values stored at
`(r,c)`; `(op(A) x)_i` (`opMul`) is the dense row sum over `Finset.range n`; the sum of the stored
magnitudes bounds the magnitude of the entry and equals it when no position is stored twice.
The names are in namespace `Slu.Gssvx`, where the entry-list reading `opMul` lives.
-/
namespace Slu.Gssvx
open Slu Slu.Equil Slu.Lacon Slu.Refine

theorem getD_zero_of_size_le (x : Array Rat) (n k : Nat) (hx : x.size ≤ n) (hk : n ≤ k) : x.getD k 0 = 0 := by
  rw [Array.getD_eq_getD_getElem?, Array.getElem?_eq_none (Nat.le_trans hx hk)]; rfl

/-- dense reading of a stored entry list: entry `(r,c)` is the sum of the stored values at `(r,c)` -/
def denseAt (es : List (Entry Rat)) (r c : Nat) : Rat :=
  (es.map fun e => if e.row = r ∧ e.col = c then e.val else 0).sum

/-- entry `(i,j)` of `op(A)` for a real matrix (`A` for `N`, its transpose for `T` and `C`) -/
def opDense (tr : Trans) (es : List (Entry Rat)) (i j : Nat) : Rat :=
  match tr with
  | .N => denseAt es i j
  | _ => denseAt es j i

theorem denseAt_eq_denseK : denseAt = denseK := rfl

theorem opMul_eq_dense (tr : Trans) (es : List (Entry Rat)) (x : Nat → Rat) (n i : Nat)
    (hc : ∀ e ∈ es, e.col < n) (hx : ∀ k, n ≤ k → x k = 0) :
    opMul (opOfTrans tr) es x i = ∑ j ∈ Finset.range n, opDense tr es i j * x j := by
  have hr : ∀ e ∈ es, e.row < n ∨ x e.row = 0 := fun e _ => (Nat.lt_or_ge e.row n).imp id (hx _)
  cases tr <;> simp only [opDense, denseAt_eq_denseK]
  · exact opMul_N_dense n es x i (fun e he => Or.inl (hc e he))
  · exact opMul_T_dense n es x i hr
  · -- conjugation is the identity on `Rat`
    exact opMul_C_dense n es x i hr

theorem mem_cscEntries_col {K : Type} [Inhabited K] (A : CSC K) (e : Entry K) (he : e ∈ cscEntries A) : e.col < A.n := by
  unfold cscEntries at he
  obtain ⟨j, hj, he⟩ := List.mem_flatMap.mp he
  obtain ⟨p, _, rfl⟩ := List.mem_map.mp he
  exact List.mem_range.mp hj

theorem mem_absEntries_col (A : CSC Rat) (e : Entry Rat) (he : e ∈ absEntries arithQ A) : e.col < A.n := by
  rw [absEntries_eq] at he
  obtain ⟨e0, he0, rfl⟩ := List.mem_map.mp he
  exact mem_cscEntries_col A e0 he0

theorem abs_denseAt_le (es : List (Entry Rat)) (r c : Nat) :
    |denseAt es r c| ≤ denseAt (es.map fun e => { row := e.row, col := e.col, val := |e.val| }) r c := by
  unfold denseAt
  induction es with
  | nil => simp
  | cons a t ih =>
    simp only [List.map_cons, List.sum_cons]
    refine le_trans (abs_add_le _ _) (add_le_add ?_ ih)
    split <;> simp

/-- no position of the matrix is stored twice -/
def NoDupPos {K : Type} [Inhabited K] (A : CSC K) : Prop :=
  (cscEntries A).Pairwise fun e e' => ¬ (e.row = e'.row ∧ e.col = e'.col)

theorem denseAt_abs_of_pairwise (es : List (Entry Rat))
    (h : es.Pairwise fun e e' => ¬ (e.row = e'.row ∧ e.col = e'.col)) (r c : Nat) :
    denseAt (es.map fun e => { row := e.row, col := e.col, val := |e.val| }) r c = |denseAt es r c| := by
  unfold denseAt
  induction es with
  | nil => simp
  | cons a t ih =>
    obtain ⟨ha, ht⟩ := List.pairwise_cons.mp h
    simp only [List.map_cons, List.sum_cons]
    rw [ih ht]
    by_cases hp : a.row = r ∧ a.col = c
    · have hz : (t.map fun e => if e.row = r ∧ e.col = c then e.val else 0).sum = 0 := by
        apply List.sum_eq_zero
        intro v hv
        obtain ⟨e, he, rfl⟩ := List.mem_map.mp hv
        have := ha e he
        rw [hp.1, hp.2] at this
        rw [if_neg (fun hh => this ⟨hh.1.symm, hh.2.symm⟩)]
      simp [hp, hz]
    · simp [hp]

theorem absEntriesQ_eq (A : CSC Rat) :
    absEntries arithQ A = (cscEntries A).map fun e => { row := e.row, col := e.col, val := |e.val| } := by
  rw [absEntries_eq]
  apply List.map_congr_left
  intro e _
  show Entry.mk e.row e.col (rabs e.val) = _
  rw [rabs_eq_abs]

theorem opDense_abs_le (tr : Trans) (A : CSC Rat) (i j : Nat) :
    |opDense tr (cscEntries A) i j| ≤ opDense tr (absEntries arithQ A) i j := by
  rw [absEntriesQ_eq]
  cases tr <;> exact abs_denseAt_le _ _ _

theorem opDense_abs_eq (tr : Trans) (A : CSC Rat) (h : NoDupPos A) (i j : Nat) :
    opDense tr (absEntries arithQ A) i j = |opDense tr (cscEntries A) i j| := by
  rw [absEntriesQ_eq]
  cases tr <;> exact denseAt_abs_of_pairwise _ h _ _

end Slu.Gssvx
