import Slu.Model.Refine
import SluProofs.Lemmas.ArrayBasic
import SluProofs.Lemmas.Fold
namespace Slu.Refine
open Slu

/-- **C13 (BERR formula, safeguard inactive).** When every denominator is either exactly zero or above
`safe2` (dgsrfs.c:318-329), the safeguarded maximum is the plain running maximum of `|r_i| / d_i` over the
rows with `d_i ≠ 0`.  `hsafe` excludes the band `0 < d_i ≤ safe2`, where the C code adds `safe1` to the
numerator (`div2`); that branch is not analysed.  `d` and `r` are what the arrays hold in range, in whatever
form the caller knows them. -/
theorem berrOf_eq_foldMax {K : Type} (Ar : Arith K Rat) (hdiv : ∀ r d, Ar.div1 r d = r / d) (s1 s2 : Rat) (hs2 : 0 ≤ s2)
    (work : Array K) (rwork : Array Rat) (d r : Nat → Rat)
    (hd : ∀ i < rwork.size, rwork.getD i 0 = d i) (hr : ∀ i < rwork.size, Ar.absK (work.getD i Ar.kzero) = r i)
    (hsafe : ∀ i < rwork.size, d i = 0 ∨ s2 < d i) :
    berrOf Ar s1 s2 work rwork = foldMaxIf (fun i => d i ≠ 0) (fun i => r i / d i) 0 (List.range rwork.size) := by
  unfold berrOf foldMaxIf
  apply foldl_congr_mem
  intro i hi acc
  have hi' := List.mem_range.mp hi
  simp only [hd i hi', hr i hi']
  rcases hsafe i hi' with h | h
  · simp only [gt_iff_lt, h, not_lt.mpr hs2, if_false, bne_self_eq_false, Bool.false_eq_true, ne_eq, not_true_eq_false]
  · have h0 : d i ≠ 0 := ne_of_gt (lt_of_le_of_lt hs2 h)
    simp only [gt_iff_lt, h, if_true, h0, ne_eq, not_false_eq_true, smax_eq_max, hdiv]

open Slu Slu.Lacon
variable {K : Type} [Inhabited K] (Ar : Arith K Rat) (tr : Trans) (A : CSC K) (safmin eps : Rat)
  (solve : Array K → Array K) (b : Array K)

/-- the corrected iterate `x + solve (b - op(A) x)` -/
def refineNext (x : Array K) : Array K :=
  (Array.range x.size).map fun i => Ar.add (x.getD i Ar.kzero) ((solve (resid Ar tr A x b)).getD i Ar.kzero)

theorem refineLoop_succ (fuel : Nat) (x : Array K) (lstres : Rat) (count : Nat) :
    refineLoop Ar tr A safmin eps solve b (fuel + 1) x lstres count =
      if continue? (berrX Ar tr A safmin eps b x) eps lstres count then
        refineLoop Ar tr A safmin eps solve b fuel (refineNext Ar tr A solve b x) (berrX Ar tr A safmin eps b x) (count + 1)
      else (x, berrX Ar tr A safmin eps b x, count) := rfl

/-- The one induction over the loop.  What it returns is a state `(x, count)` reached from the initial one
through corrections the stopping rule asked for, so it satisfies every invariant `I` of such corrections,
together with the BERR of that very `x`: the loop exits only after re-evaluating the residual of the
corrected solution. -/
theorem refineLoop_spec (I : Array K → Nat → Prop)
    (hstep : ∀ x lstres count, I x count → continue? (berrX Ar tr A safmin eps b x) eps lstres count = true →
      I (refineNext Ar tr A solve b x) (count + 1))
    (fuel : Nat) (x : Array K) (lstres : Rat) (count : Nat) (h : I x count) :
    I (refineLoop Ar tr A safmin eps solve b fuel x lstres count).1
      (refineLoop Ar tr A safmin eps solve b fuel x lstres count).2.2 ∧
    (refineLoop Ar tr A safmin eps solve b fuel x lstres count).2.1 =
      berrX Ar tr A safmin eps b (refineLoop Ar tr A safmin eps solve b fuel x lstres count).1 := by
  fun_induction refineLoop Ar tr A safmin eps solve b fuel x lstres count with
  | case1 x l c => exact ⟨h, rfl⟩
  | case2 f x l c work berr hc dx x' ih => exact ih (hstep x l c h hc)
  | case3 f x l c work berr hc => exact ⟨h, rfl⟩

end Slu.Refine
