import Slu.Model.Refine
import SluProofs.Lemmas.GssvxExact
import SluProofs.Lemmas.Adds
/-
Entrywise reading of the residual that `[sdcz]gsrfs` forms with `sp_[sdcz]gemv` (`Slu.Refine.resid`,
dsp_blas2.c:454-487): in exact arithmetic the scatter (NOTRANS) and gather (TRANS / CONJ) folds compute
`b - op(A) x` for every compressed-column matrix (any order, duplicates summed, out-of-range rows ignored as
`setIfInBounds` ignores them).
`ArithLaws`, `cscEntries`, `resid_exact` are in namespace `Slu.Gssvx`: they speak of `opMul`.
-/
namespace Slu.Gssvx
open Slu Slu.Equil Slu.Lacon Slu.Refine

theorem sum_flatMap_map {K α β : Type} [AddCommMonoid K] (l : List α) (f : α → List β) (g : β → K) :
    ((l.flatMap f).map g).sum = (l.map fun a => ((f a).map g).sum).sum := by
  induction l with
  | nil => rfl
  | cons a t ih => rw [List.flatMap_cons, List.map_append, List.sum_append, ih, List.map_cons, List.sum_cons]

variable {K : Type} [CommRing K] [Inhabited K]

/-- the arithmetic record computes in the ring `K` -/
structure ArithLaws [HasConj K] (Ar : Arith K Rat) : Prop where
  kzero : Ar.kzero = 0
  add : ∀ a b, Ar.add a b = a + b
  mul : ∀ a b, Ar.mul a b = a * b
  negMul : ∀ a, Ar.negMul a = -a
  conj : ∀ a, Ar.conj a = HasConj.conj a
  isZero : ∀ a, Ar.isZero a = true → a = 0

theorem arithQ_laws : ArithLaws arithQ where
  kzero := rfl
  add _ _ := rfl
  mul _ _ := rfl
  negMul a := neg_one_mul a
  conj _ := rfl
  isZero _ h := of_decide_eq_true h

theorem arithQC_laws : ArithLaws arithQC where
  kzero := rfl
  add _ _ := rfl
  mul _ _ := rfl
  negMul a := by ext <;> simp [arithQC, cmul]
  conj _ := rfl
  isZero a h := by
    simp only [arithQC, Bool.and_eq_true, beq_iff_eq] at h
    ext <;> simp [h.1, h.2]

/-- the stored entries of a compressed-column matrix, column by column -/
def cscEntries (A : CSC K) : List (Entry K) :=
  (List.range A.n).flatMap fun j => (A.col j).map fun e => { row := e.1, col := j, val := e.2 }

section loop
variable [HasConj K]

omit [Inhabited K] in
/-- The loop over the columns of an entry list given column by column (`cscEntries` with `v` the identity,
`absEntries` with `v` the magnitude): if the step of column `j` adds to entry `i` what column `j` contributes
to `(op(A) t)_i`, the loop adds `(op(A) t)_i`. -/
theorem colLoop_spec {K' : Type} [Inhabited K'] (v : K' → K) (A : CSC K') (op : Op) (t : Nat → K)
    {step : Array K → Nat → Array K}
    (hstep : ∀ j, Adds (step · j) fun i =>
      ((A.col j).map fun e => opTerm op t i { row := e.1, col := j, val := v e.2 }).sum) :
    Adds ((List.range A.n).foldl step) (opMul op
      ((List.range A.n).flatMap fun j => (A.col j).map fun e => { row := e.1, col := j, val := v e.2 }) t) :=
  (Adds.foldl hstep (List.range A.n)).congr fun i => by
    rw [opMul, sum_flatMap_map]
    simp only [List.map_map, Function.comp_def]

end loop

section resid
variable [HasConj K] (Ar : Arith K Rat) (laws : ArithLaws Ar)
include laws

/-- `sp_gemv(transc, -1, A, x, 1, 1, work, 1)` adds `op(A) (-x)`: a scatter that skips the columns with `x_j = 0`
(NOTRANS), a gather of the dot products of the columns with `x` (TRANS, CONJ).  The operation and the weights
are written out on purpose: left to unification they are found by a search that is far dearer. -/
theorem resid_adds (tr : Trans) (A : CSC K) (x : Array K) :
    Adds (resid Ar tr A x) (opMul (opOfTrans tr) (cscEntries A) fun k => -x.getD k 0) := by
  intro b
  cases tr
  · simp only [resid, laws.kzero, laws.add, laws.mul, laws.negMul]
    -- column `j` scatters `temp * a` with `temp = -x_j` (the factors in the order of the C code), unless `x_j = 0`
    exact colLoop_spec (fun a => a) A .N (fun k => -x.getD k 0) (fun j =>
      ((Adds.scatter Prod.fst (fun e : Nat × K => -x.getD j 0 * e.2) (A.col j)).congr fun i => by
        simp only [opTerm, mul_comm]).skip _ fun hz i => by
        simp only [opTerm, laws.isZero _ hz, neg_zero, mul_zero, ite_self, List.sum_map_zero]) b
  -- the record's operations become ring operations and the inner fold (the dot product) a `List.sum`
  all_goals
    simp only [resid, laws.kzero, laws.add, laws.mul, laws.negMul, laws.conj, reduceCtorEq, if_false, if_true,
      foldl_add_eq_sum, zero_add, List.sum_neg, List.map_map, Function.comp_def, ← mul_neg]
  · exact colLoop_spec (fun a => a) A .T (fun k => -x.getD k 0)
      (fun j => Adds.setSum j (A.col j) fun e => e.2 * -x.getD e.1 0) b
  · exact colLoop_spec (fun a => a) A .C (fun k => -x.getD k 0)
      (fun j => Adds.setSum j (A.col j) fun e => HasConj.conj e.2 * -x.getD e.1 0) b

/-- **the residual `gsrfs` forms is `b - op(A) x`**, entry by entry, in exact arithmetic -/
theorem resid_exact [Mag K Rat] [ScalarLaws K] (tr : Trans) (A : CSC K) (x b : Array K) :
    (resid Ar tr A x b).size = b.size ∧
    ∀ i < b.size, (resid Ar tr A x b).getD i 0 =
      b.getD i 0 - opMul (opOfTrans tr) (cscEntries A) (fun k => x.getD k 0) i :=
  (((resid_adds Ar laws tr A x).congr fun i => opMul_neg _ _ _ i) b).imp_right fun h i hi => by
    rw [h i hi, sub_eq_add_neg]

end resid
end Slu.Gssvx
