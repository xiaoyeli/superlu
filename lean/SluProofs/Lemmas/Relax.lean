import Slu.Model.Order
import SluProofs.Lemmas.Forest
/-
Relaxed supernodes (relax_snode.c, and the part heap_relax_snode.c shares with it).

The `descendants` array holds the number of proper descendants on every heap-ordered forest.  The main loop of
both routines visits a list of ranges `(snode_start, last)`, `rounds`, that depends on the forest and on
`descendants` only; each routine is a fold of its own writes over that list (`relaxLoop_eq`; `heapRelaxLoop_eq`
in HeapRelax.lean).  On a postordered forest the rounds are exactly the maximal subtrees with fewer than `relax`
proper descendants, and every leaf lies in one (`rounds_post`, `rounds_run`).
-/
namespace Slu.Order

theorem sorted_intervals_disjoint {L : List (Nat × Nat)} (hL : L.Pairwise fun b b' => b.2 < b'.1)
    {b b' : Nat × Nat} (hb : b ∈ L) (hb' : b' ∈ L) {x : Nat} (h1 : b.1 ≤ x) (h2 : x ≤ b.2)
    (h1' : b'.1 ≤ x) (h2' : x ≤ b'.2) : b = b' := by
  induction L with
  | nil => cases hb
  | cons a L ih =>
    obtain ⟨hhead, htail⟩ := List.pairwise_cons.mp hL
    rcases List.mem_cons.mp hb with rfl | hbL
    · rcases List.mem_cons.mp hb' with rfl | hbL'
      · rfl
      · exact absurd (Nat.lt_of_le_of_lt h2 (Nat.lt_of_lt_of_le (hhead b' hbL') h1')) (Nat.lt_irrefl _)
    · rcases List.mem_cons.mp hb' with rfl | hbL'
      · exact absurd (Nat.lt_of_le_of_lt h2' (Nat.lt_of_lt_of_le (hhead b hbL) h1)) (Nat.lt_irrefl _)
      · exact ih htail hbL hbL'

/-- after the columns `< m` have been added to their parents, `d[v]` counts the subtrees of the children `< m` -/
theorem descendants_inv (n : Nat) (et : Array Nat) :
    (descendants n et).size = n + 1 ∧ ∀ v, v < n → (descendants n et).getD v 0 =
      (((List.range n).filter fun c => et.getD c 0 == v).flatMap (order et)).length := by
  refine Slu.foldl_range_inv (fun m (d : Array Nat) => d.size = n + 1 ∧ ∀ v, v < n → d.getD v 0 =
      (((List.range m).filter fun c => et.getD c 0 == v).flatMap (order et)).length) _ n _
    ⟨Array.size_replicate, fun v hv => replicate_getD _ _ _ _ (Nat.lt_succ_of_lt hv)⟩ ?_
  intro d m hmn ⟨hs, hv⟩
  dsimp only
  have hsucc : ∀ v, (((List.range (m + 1)).filter fun c => et.getD c 0 == v).flatMap (order et)).length =
      (((List.range m).filter fun c => et.getD c 0 == v).flatMap (order et)).length +
        if et.getD m 0 = v then (order et m).length else 0 := fun v => by
    rw [List.range_succ, List.filter_append, List.flatMap_append, List.length_append]
    by_cases e : et.getD m 0 = v
    · rw [List.filter_cons_of_pos (p := fun c => et.getD c 0 == v) (beq_iff_eq.mpr e), List.filter_nil, List.flatMap_singleton, if_pos e]
    · rw [List.filter_cons_of_neg (p := fun c => et.getD c 0 == v) (fun c => e (beq_iff_eq.mp c)), List.filter_nil, if_neg e]
      rfl
  by_cases hp : et.getD m 0 = n
  · rw [if_neg (not_not.mpr hp)]
    refine ⟨hs, fun v hvn => ?_⟩
    rw [hv v hvn, hsucc, if_neg (hp ▸ Nat.ne_of_gt hvn), Nat.add_zero]
  · rw [if_pos hp]
    refine ⟨(Array.size_setIfInBounds ..).trans hs, fun v hvn => ?_⟩
    rw [Slu.getD_setIfInBounds, hsucc]
    by_cases e : et.getD m 0 = v
    · -- `d[m]` is final: the children of `m` are those below `m`, which is how `kids` lists them
      rw [if_pos ⟨e, hs ▸ e ▸ Nat.lt_succ_of_lt hvn⟩, if_pos e, e, hv v hvn, Nat.add_assoc, hv m hmn, order_eq et m,
        List.length_append]
      rfl
    · rw [if_neg (fun c => e c.1), if_neg e, Nat.add_zero]
      exact hv v hvn

theorem descendants_eq {n : Nat} {et : Array Nat} (h : Heap n et) (v : Nat) (hv : v < n) :
    (descendants n et).getD v 0 + 1 = (order et v).length := by
  rw [(descendants_inv n et).2 v hv, filter_range_eq_kids h (Nat.le_of_lt hv), order_eq, List.length_append]
  rfl

/-- `lo v .. v` is the subtree of `v`, for every vertex: `Subtree n et (lo v) v`, written out -/
def PostBy (n : Nat) (et : Array Nat) (lo : Nat → Nat) : Prop :=
  ∀ v, v < n → ∀ u, u < n → (Desc n et u v ↔ lo v ≤ u ∧ u ≤ v)

theorem descendants_add_of_block {n : Nat} {et : Array Nat} (h : Heap n et) {s e : Nat} (he : e < n)
    (hsub : Subtree n et s e) : (descendants n et).getD e 0 + s = e := by
  have h1 := descendants_eq h e he
  have h2 := order_length_of_block h he hsub
  omega

theorem PostBy.descendants_add {n : Nat} {et : Array Nat} {lo : Nat → Nat} (h : Heap n et) (hp : PostBy n et lo)
    (v : Nat) (hv : v < n) : (descendants n et).getD v 0 + lo v = v :=
  descendants_add_of_block h hv (hp v hv)

theorem PostBy.descendants {n : Nat} {et : Array Nat} {lo : Nat → Nat} (h : Heap n et) (hp : PostBy n et lo)
    (v : Nat) (hv : v < n) : (descendants n et).getD v 0 = v - lo v := by
  have := hp.descendants_add h v hv
  omega

section
variable {n relax : Nat} {et desc : Array Nat} {lo : Nat → Nat}

theorem PostBy.of_exists (h : Heap n et) (hpost : ∀ v < n, ∃ lo, Subtree n et lo v) :
    PostBy n et fun v => v - (Order.descendants n et).getD v 0 := by
  intro v hv
  obtain ⟨lo, hlo⟩ := hpost v hv
  show Subtree n et (v - (Order.descendants n et).getD v 0) v
  rwa [Nat.sub_eq_of_eq_add' (descendants_add_of_block h hv hlo).symm]

theorem PostBy.lo_le (hp : PostBy n et lo) (v : Nat) (hv : v < n) :
    lo v ≤ v := Subtree.le (hp v hv) hv

theorem PostBy.lo_desc (hp : PostBy n et lo) (v : Nat) (hv : v < n) :
    Desc n et (lo v) v :=
  (hp v hv (lo v) (Nat.lt_of_le_of_lt (hp.lo_le v hv) hv)).mpr ⟨Nat.le_refl _, hp.lo_le v hv⟩

theorem PostBy.lo_mono (hp : PostBy n et lo) {q v : Nat} (hv : v < n)
    (hd : Desc n et q v) : lo v ≤ lo q ∧ q ≤ v := by
  have hq : q < n := desc_lt_n hd hv
  exact ⟨((hp v hv (lo q) (Nat.lt_of_le_of_lt (hp.lo_le q hq) hq)).mp (desc_trans (hp.lo_desc q hq) hd)).1,
    ((hp v hv q hq).mp hd).2⟩

theorem PostBy.lo_leaf (hp : PostBy n et lo) (v : Nat) (hv : v < n) :
    lo (lo v) = lo v :=
  Nat.le_antisymm (hp.lo_le (lo v) (Nat.lt_of_le_of_lt (hp.lo_le v hv) hv)) (hp.lo_mono hv (hp.lo_desc v hv)).1

theorem PostBy.lo_unique (hp : PostBy n et lo) {v : Nat} (hv : v < n)
    {lo' : Nat} (hl' : Subtree n et lo' v) : lo' = lo v := by
  have a1 := hp.lo_le v hv
  have a2 := hl'.le hv
  have hn' := Nat.lt_of_le_of_lt a2 hv
  exact Nat.le_antisymm ((hl' (lo v) (Nat.lt_of_le_of_lt a1 hv)).mp (hp.lo_desc v hv)).1
    ((hp v hv lo' hn').mp ((hl' lo' hn').mpr ⟨Nat.le_refl _, a2⟩)).1

/-- the climb of relax_snode cannot go on from `i`: `i` is a root or its parent has at least `relax`
descendants -/
def Stops (n relax : Nat) (et desc : Array Nat) (i : Nat) : Prop :=
  et.getD i 0 = n ∨ relax ≤ desc.getD (et.getD i 0) 0

/-- what holds where a climb starts and is kept by every step to a small parent holds where the climb ends; with
fuel `n ≤ fuel + j` the climb ends because it cannot go on, not because the fuel is spent: every step goes to a
larger column `< n`.  The loops call `climb … n j` with `j < n`. -/
theorem climb_inv (h : Heap n et) (P : Nat → Prop)
    (hstep : ∀ c, c < n → P c → c < et.getD c 0 → et.getD c 0 < n → desc.getD (et.getD c 0) 0 < relax →
      P (et.getD c 0))
    (fuel j : Nat) (hj : j < n) (h0 : P j) :
    (climb n relax et desc fuel j < n ∧ P (climb n relax et desc fuel j)) ∧
      (n ≤ fuel + j → Stops n relax et desc (climb n relax et desc fuel j)) := by
  obtain ⟨a, b⟩ := Slu.fuel_while (climb n relax et desc)
    (fun j => et.getD j 0 ≠ n ∧ desc.getD (et.getD j 0) 0 < relax) (fun j => et.getD j 0)
    (fun _ => rfl) (fun _ _ => rfl) (fun j => j < n ∧ P j) (fun j => n - j)
    (fun j ⟨hj, hp⟩ hc => by
      obtain ⟨h1, h2⟩ := h.lt hj
      have hpn := Nat.lt_of_le_of_ne h2 hc.1
      exact ⟨⟨hpn, hstep j hj hp h1 hpn hc.2⟩, by omega⟩) fuel j ⟨hj, h0⟩
  refine ⟨a, fun hf => ?_⟩
  have := b (by omega)
  by_cases e : et.getD (climb n relax et desc fuel j) 0 = n
  · exact Or.inl e
  · exact Or.inr (Nat.le_of_not_lt fun hlt => this ⟨e, hlt⟩)

theorem climb_spec (h : Heap n et) (fuel j : Nat) (hj : j < n) :
    j ≤ climb n relax et desc fuel j ∧ climb n relax et desc fuel j < n ∧
    (j < climb n relax et desc fuel j → desc.getD (climb n relax et desc fuel j) 0 < relax) ∧
    (n ≤ fuel + j → Stops n relax et desc (climb n relax et desc fuel j)) := by
  obtain ⟨⟨a, b, c⟩, d⟩ := climb_inv (relax := relax) (desc := desc) h
    (fun c => j ≤ c ∧ (j < c → desc.getD c 0 < relax))
    (fun c _ hc h1 _ h3 => ⟨Nat.le_trans hc.1 (Nat.le_of_lt h1), fun _ => h3⟩) fuel j hj
    ⟨Nat.le_refl _, fun hc => absurd hc (Nat.lt_irrefl _)⟩
  exact ⟨b, a, c, d⟩

/-- the search for a new leaf that ends a round, relax_snode.c:81 `while (descendants[j] != 0 && j < n) j++` from
`last + 1` -/
def nextLeaf (n : Nat) (desc : Array Nat) (last : Nat) : Nat :=
  ((List.range n).find? fun k => k > last && desc.getD k 0 == 0).getD n

theorem nextLeaf_spec (n : Nat) (desc : Array Nat) (last : Nat) (hl : last < n) :
    last < nextLeaf n desc last ∧ nextLeaf n desc last ≤ n ∧
    (nextLeaf n desc last < n → desc.getD (nextLeaf n desc last) 0 = 0) ∧
    ∀ k, last < k → k < nextLeaf n desc last → desc.getD k 0 ≠ 0 := by
  rcases find?_range_getD (p := fun k => decide (k > last) && desc.getD k 0 == 0) (x := nextLeaf n desc last) rfl
    with ⟨h1, h2⟩ | ⟨h1, h2, h3⟩
  · refine ⟨Nat.lt_of_lt_of_eq hl h1.symm, Nat.le_of_eq h1, fun hc => absurd h1 (Nat.ne_of_lt hc), fun k hk1 hk2 hd => ?_⟩
    have := h2 k (Nat.lt_of_lt_of_eq hk2 h1)
    simp [hk1, hd] at this
  · simp only [Bool.and_eq_true, decide_eq_true_eq, beq_iff_eq] at h2
    refine ⟨h2.1, Nat.le_of_lt h1, fun _ => h2.2, fun k hk1 hk2 hd => ?_⟩
    have := h3 k hk2
    simp [hk1, hd] at this

/-- the ranges `(snode_start, last)` the main loop goes through (relax_snode.c:70-82, heap_relax_snode.c:92-127) -/
def rounds (n relax : Nat) (et desc : Array Nat) : Nat → Nat → List (Nat × Nat)
  | 0, _ => []
  | fuel + 1, j =>
    if j ≥ n then [] else
      (j, climb n relax et desc n j) ::
        rounds n relax et desc fuel (nextLeaf n desc (climb n relax et desc n j))

theorem relaxLoop_eq (n relax : Nat) (et desc : Array Nat) (fuel j : Nat) (re : Array Int) :
    relaxLoop n relax et desc fuel j re =
      (rounds n relax et desc fuel j).foldl (fun re b => re.setIfInBounds b.1 (Int.ofNat b.2)) re := by
  fun_induction rounds n relax et desc fuel j generalizing re with
  | case1 j => rfl
  | case2 f j hj => rw [relaxLoop, if_pos hj]; rfl
  | case3 f j hj ih => rw [relaxLoop, if_neg hj]; exact ih _

/-- a round `b = (snode_start, last)` of the loop started at `j`, on any heap-ordered forest: a range inside `j..n-1`
that ends, if it has more than one column, at a column with a small `descendants` entry -/
structure Round (n relax : Nat) (desc : Array Nat) (j : Nat) (b : Nat × Nat) : Prop where
  ge : j ≤ b.1
  le : b.1 ≤ b.2
  lt : b.2 < n
  small : b.1 < b.2 → desc.getD b.2 0 < relax

theorem rounds_sorted (h : Heap n et) (fuel j : Nat) :
    (∀ b ∈ rounds n relax et desc fuel j, Round n relax desc j b) ∧
    (rounds n relax et desc fuel j).Pairwise fun b b' => b.2 < b'.1 := by
  fun_induction rounds n relax et desc fuel j with
  | case1 j => exact ⟨fun b hb => absurd hb List.not_mem_nil, List.Pairwise.nil⟩
  | case2 f j hj => exact ⟨fun b hb => absurd hb List.not_mem_nil, List.Pairwise.nil⟩
  | case3 f j hj ih =>
    obtain ⟨c1, c2, c3, _⟩ := climb_spec (relax := relax) (desc := desc) h n j (Nat.lt_of_not_le hj)
    obtain ⟨f1, _⟩ := nextLeaf_spec n desc _ c2
    obtain ⟨i1, i2⟩ := ih
    refine ⟨fun b hb => ?_, List.pairwise_cons.mpr ⟨fun b hb => Nat.lt_of_lt_of_le f1 (i1 b hb).ge, i2⟩⟩
    rcases List.mem_cons.mp hb with rfl | hb
    · exact ⟨Nat.le_refl _, c1, c2, c3⟩
    · exact { i1 b hb with ge := Nat.le_trans c1 (Nat.le_of_lt (Nat.lt_of_lt_of_le f1 (i1 b hb).ge)) }

/-- `desc` holds the number of proper descendants of every vertex of a forest postordered by `lo`
(`PostBy.descendants_add`: the `descendants` array does) -/
def Counts (n : Nat) (desc : Array Nat) (lo : Nat → Nat) : Prop :=
  ∀ v, v < n → desc.getD v 0 + lo v = v

theorem PostBy.desc_mono (hp : PostBy n et lo) (hdesc : Counts n desc lo) {x v : Nat}
    (hv : v < n) (hd : Desc n et x v) : desc.getD x 0 ≤ desc.getD v 0 := by
  have := hp.lo_mono hv hd
  have := hdesc x (desc_lt_n hd hv)
  have := hdesc v hv
  omega

theorem PostBy.desc_eq_zero (hp : PostBy n et lo) (hdesc : Counts n desc lo) {v : Nat}
    (hv : v < n) : desc.getD v 0 = 0 ↔ lo v = v := by
  have := hdesc v hv
  have := hp.lo_le v hv
  omega

/-- if the climb stops at a proper descendant `x` of `v`, the subtree of `v` is big: it contains that of the
parent of `x` -/
theorem PostBy.stops_le (hp : PostBy n et lo) (hdesc : Counts n desc lo) {x v : Nat}
    (hv : v < n) (hd : Desc n et x v) (hne : x ≠ v) (hs : Stops n relax et desc x) : relax ≤ desc.getD v 0 := by
  obtain ⟨_, hq⟩ := desc_parent hd hne
  rcases hs with e | e
  · exact absurd e (Nat.ne_of_lt (desc_lt_n hq hv))
  · exact Nat.le_trans e (hp.desc_mono hdesc hv hq)

/-- every subtree that contains `j` and something before `j` has at least `relax` proper descendants -/
def Blocked (n relax : Nat) (desc : Array Nat) (lo : Nat → Nat) (j : Nat) : Prop :=
  ∀ v, v < n → lo v < j → j ≤ v → relax ≤ desc.getD v 0

/-- started at a vertex whose subtree begins at `j`, the climb stays among such vertices: a parent whose
subtree begins earlier straddles `j` and is big -/
theorem climb_lo (h : Heap n et) (hp : PostBy n et lo) {j : Nat} (hK : Blocked n relax desc lo j)
    (fuel cur : Nat) (hcur : cur < n) (hlo : lo cur = j) : lo (climb n relax et desc fuel cur) = j := by
  refine (climb_inv h (fun c => lo c = j) (fun c hc hc' h1 h2 h3 => ?_) fuel cur hcur hlo).1.2
  have hm := hp.lo_mono h2 (Desc.step hc (Desc.refl _))
  rw [hc'] at hm
  refine Nat.le_antisymm hm.1 (Nat.le_of_not_lt fun hlt => Nat.not_le.mpr h3 (hK _ h2 hlt ?_))
  exact Nat.le_trans (hc' ▸ hp.lo_le c hc) hm.2

theorem leaf_le_last {last k : Nat} (hl : last < n) (hk : desc.getD k 0 = 0) (hkn : k < nextLeaf n desc last) :
    k ≤ last :=
  Nat.le_of_not_lt fun hgt => (nextLeaf_spec n desc last hl).2.2.2 k hgt hkn hk

/-- the state of the loop is re-established at the next leaf -/
theorem round_next (hp : PostBy n et lo) (hdesc : Counts n desc lo) {j last : Nat}
    (hK : Blocked n relax desc lo j) (hlo : lo last = j) (hl : last < n) (hs : Stops n relax et desc last) :
    Blocked n relax desc lo (nextLeaf n desc last) ∧
    (nextLeaf n desc last < n → lo (nextLeaf n desc last) = nextLeaf n desc last) := by
  obtain ⟨f1, _, f3, _⟩ := nextLeaf_spec n desc last hl
  refine ⟨fun v hv hlv hvn => ?_, fun hc => (hp.desc_eq_zero hdesc hc).mp (f3 hc)⟩
  have hlast : last < v := Nat.lt_of_lt_of_le f1 hvn
  by_cases hlj : lo v < j
  · exact hK v hv hlj (Nat.le_trans (hlo ▸ hp.lo_le last hl) (Nat.le_of_lt hlast))
  · have hvn' := Nat.lt_of_le_of_lt (hp.lo_le v hv) hv
    have hle := leaf_le_last hl ((hp.desc_eq_zero hdesc hvn').mpr (hp.lo_leaf v hv)) hlv
    exact hp.stops_le hdesc hv ((hp v hv last hl).mpr ⟨hle, Nat.le_of_lt hlast⟩) (Nat.ne_of_lt hlast) hs

/-- `last` is the only place between `j` and the next leaf where the climb from a leaf can stop -/
theorem round_top (hp : PostBy n et lo) (hdesc : Counts n desc lo) {j last i : Nat}
    (hlo : lo last = j) (hl : last < n) (hsm : j < last → desc.getD last 0 < relax)
    (hs : Stops n relax et desc last) (hi : i < n) (hji : j ≤ i) (hin : i < nextLeaf n desc last)
    (hsmi : desc.getD i 0 = 0 ∨ desc.getD i 0 < relax) (hsi : Stops n relax et desc i) : i = last := by
  by_contra hne
  by_cases hil : i ≤ last
  · have hlt := Nat.lt_of_le_of_ne hil hne
    exact Nat.not_le.mpr (hsm (Nat.lt_of_le_of_lt hji hlt))
      (hp.stops_le hdesc hl ((hp last hl i hi).mpr ⟨hlo ▸ hji, hil⟩) hne hsi)
  · have hsm' := hsmi.resolve_left fun e => hil (leaf_le_last hl e hin)
    have hli := hp.lo_le i hi
    have hle := leaf_le_last hl ((hp.desc_eq_zero hdesc (Nat.lt_of_le_of_lt hli hi)).mpr (hp.lo_leaf i hi))
      (Nat.lt_of_le_of_lt hli hin)
    exact Nat.not_le.mpr hsm' (hp.stops_le hdesc hi ((hp i hi last hl).mpr ⟨hle, Nat.le_of_not_le hil⟩)
      (fun e => hne e.symm) hs)

/-- **The rounds on a postordered forest.**  With `desc` the numbers of proper descendants (`Counts`): every
round `(s, e)` is the whole subtree of `e` and cannot be extended (`e` is a root or its parent has at least
`relax` descendants); every leaf lies in a round; and every vertex at which a climb can stop, with a small
subtree or none, ends a round.  Fuel: a round starts beyond the last column of the round before, so
`n + 1 ≤ fuel + j` is kept from round to round; the routines start with `fuel = n + 1`, `j = 0`. -/
theorem rounds_post (h : Heap n et) (hp : PostBy n et lo) (hdesc : Counts n desc lo)
    (fuel j : Nat) (hK : Blocked n relax desc lo j) (hleaf : j < n → lo j = j) (hfuel : n + 1 ≤ fuel + j) :
    (∀ b ∈ rounds n relax et desc fuel j, lo b.2 = b.1 ∧ Stops n relax et desc b.2) ∧
    (∀ k, j ≤ k → k < n → desc.getD k 0 = 0 → ∃ b ∈ rounds n relax et desc fuel j, b.1 ≤ k ∧ k ≤ b.2) ∧
    (∀ i, j ≤ i → i < n → (desc.getD i 0 = 0 ∨ desc.getD i 0 < relax) → Stops n relax et desc i →
      (lo i, i) ∈ rounds n relax et desc fuel j) := by
  fun_induction rounds n relax et desc fuel j with
  | case1 j =>
    have hj : n ≤ j := Nat.le_of_succ_le (by simpa using hfuel)
    exact ⟨fun b hb => absurd hb List.not_mem_nil, fun k hjk hkn => absurd hkn (Nat.not_lt.mpr (Nat.le_trans hj hjk)),
      fun i hji hin => absurd hin (Nat.not_lt.mpr (Nat.le_trans hj hji))⟩
  | case2 f j hj =>
    exact ⟨fun b hb => absurd hb List.not_mem_nil, fun k hjk hkn => absurd hkn (Nat.not_lt.mpr (Nat.le_trans hj hjk)),
      fun i hji hin => absurd hin (Nat.not_lt.mpr (Nat.le_trans hj hji))⟩
  | case3 f j hj ih =>
    have hjn : j < n := Nat.lt_of_not_le hj
    obtain ⟨c1, c2, c3, c4⟩ := climb_spec (relax := relax) (desc := desc) h n j hjn
    have hlo := climb_lo h hp hK n j hjn (hleaf hjn)
    have hs := c4 (Nat.le_add_right _ _)
    generalize climb n relax et desc n j = last at c1 c2 c3 hlo hs ih ⊢
    obtain ⟨f1, _⟩ := nextLeaf_spec n desc last c2
    obtain ⟨hK', hleaf'⟩ := round_next hp hdesc hK hlo c2 hs
    obtain ⟨i1, i2, i3⟩ := ih hK' hleaf' (by omega)
    refine ⟨fun b hb => ?_, fun k hjk hkn hlk => ?_, fun i hji hin hsm hsi => ?_⟩
    · rcases List.mem_cons.mp hb with rfl | hb
      · exact ⟨hlo, hs⟩
      · exact i1 b hb
    · by_cases hkl : k ≤ last
      · exact ⟨(j, last), List.mem_cons_self, hjk, hkl⟩
      · obtain ⟨b, hb, r⟩ := i2 k (Nat.le_of_not_lt fun c => hkl (leaf_le_last c2 hlk c)) hkn hlk
        exact ⟨b, List.mem_cons_of_mem _ hb, r⟩
    · by_cases hinx : i < nextLeaf n desc last
      · rw [round_top hp hdesc hlo c2 c3 hs hin hji hinx hsm hsi, hlo]
        exact List.mem_cons_self
      · exact List.mem_cons_of_mem _ (i3 i (Nat.le_of_not_lt hinx) hin hsm hsi)

/-- the rounds of the whole run of either routine: from column 0, with the `descendants` of the forest -/
def runRounds (n relax : Nat) (et : Array Nat) : List (Nat × Nat) :=
  rounds n relax et (descendants n et) (n + 1) 0

/-- a round of the whole run on a forest postordered by `lo`: the whole subtree of its last column, and not extendable -/
structure PostRound (n relax : Nat) (et : Array Nat) (lo : Nat → Nat) (b : Nat × Nat) : Prop
    extends Round n relax (descendants n et) 0 b where
  lo_eq : lo b.2 = b.1
  stops : Stops n relax et (descendants n et) b.2

/-- the whole run on a forest postordered by `lo`: every leaf lies in a round, and every vertex at which a climb from a
leaf can stop ends one -/
structure PostRun (n relax : Nat) (et : Array Nat) (lo : Nat → Nat) : Prop where
  round : ∀ b ∈ runRounds n relax et, PostRound n relax et lo b
  sorted : (runRounds n relax et).Pairwise fun b b' => b.2 < b'.1
  leaf : ∀ k, k < n → (descendants n et).getD k 0 = 0 → ∃ b ∈ runRounds n relax et, b.1 ≤ k ∧ k ≤ b.2
  stop : ∀ i, i < n → ((descendants n et).getD i 0 = 0 ∨ (descendants n et).getD i 0 < relax) →
    Stops n relax et (descendants n et) i → (lo i, i) ∈ runRounds n relax et

theorem rounds_run (h : Heap n et) (hp : PostBy n et lo) : PostRun n relax et lo := by
  obtain ⟨s1, s2⟩ := rounds_sorted (relax := relax) (desc := descendants n et) h (n + 1) 0
  obtain ⟨p1, p2, p3⟩ := rounds_post (relax := relax) h hp (hp.descendants_add h) (n + 1) 0
    (fun v _ hl _ => absurd hl (Nat.not_lt_zero _)) (fun h0 => Nat.le_zero.mp (hp.lo_le 0 h0)) (Nat.le_refl _)
  exact ⟨fun b hb => ⟨s1 b hb, (p1 b hb).1, (p1 b hb).2⟩, s2,
    fun k => p2 k (Nat.zero_le _), fun i => p3 i (Nat.zero_le _)⟩

end

end Slu.Order
