import SluProofs.Lemmas.Forest
import SluProofs.Lemmas.EtreeDef
import SluProofs.Lemmas.SymbContain
/-
C03 / C10 — why a relaxed supernode has no entry above itself (`RelaxOk`), from the column elimination tree.

`Slu.Symb.RelaxOk n cols relaxEnd` (Lemmas/SymbContain.lean) is the set-level fact behind rule R1 of
`symbNaive`: no column of a relaxed supernode `[j..k]` of `B = Pr·A·Pc` has an entry in a row that was
already used as a pivot by a column `< j` (rows in PIVOT numbering: row `r` is the row pivotal at step `r`).
This file derives it from the two facts the ordering phase establishes:

  (T) the tree `et` handed to `relax_snode` is heap ordered and is "a column elimination tree" in the only
      sense the argument needs — `ShareDesc n cols et` (Lemmas/EtreeDef.lean; `coletree_shareDesc`, `shareDesc_relabel`):
      two columns `c1 < c2` that share a row have `c2` among the ancestors of `c1`;
  (S) every relaxed supernode `[j..k]` is EXACTLY the subtree of `k` (`relaxSnode_subtrees` / `heapRelaxSnode_subtrees`,
      Lemmas/HeapRelax.lean).

The argument (`relaxOk_of_subtrees`).  In the row-merge model `RowFill` of Gaussian elimination every structural entry
`(r,c)` has `c` among the ancestors of the FIRST column of row `r` of B (`rowFill_desc`, from (T)), provided every pivot row is
structurally nonzero in its pivot column — which an exact factorization gives, `RowFill` being the fill graph `ColReach` of
Lemmas/SymbSound.lean (`rowFill_diag_of_LU`).  The ancestors of a vertex form a chain (`desc_chain`, Lemmas/Forest.lean), so an
entry `(r,c)` of B above the diagonal makes `c` an ancestor of `r` (`EntryDesc`, `entryDesc_of_shareDesc`).  Then with (S) `r`
is a descendant of `c`, hence of `k`, hence `j ≤ r` (`relaxOk_of_entryDesc`).

SymmetricMode.  Nothing above needs a postordered tree: `relaxOk_of_subtrees` asks for heap order, `ShareDesc` and
"every recorded supernode is a whole subtree".  In SymmetricMode `sp_preorder` returns the column elimination
tree without postordering and `heap_relax_snode` records whole subtrees of it (`heapRelaxSnode_subtrees`), so the
same theorem applies (Props/C03.lean, `…_sym`).
A tree that only knows the ENTRIES: the elimination tree of `A + Aᵀ` has `EntryDesc` for `A` in its own row
numbering (`entryDesc_symetree`), so `relaxOk_of_entryDesc` gives `RelaxOk` when the rows are not permuted, and
only then (counterexample in Props/C03.lean).
-/
namespace Slu.Symb
open Slu Slu.Order

/-- **structural row merge**, rows numbered by their pivot step.  `RowFill n cols r c`: row `r` has a
structural entry in column `c` when it becomes the pivot row (columns `c < r`: the multipliers `L(r,c)`;
columns `c ≥ r`: the row `U(r,·)`).  Either `(r,c)` is an entry of B, or row `r` has a structural entry in a
column `t < r` — so it is updated at step `t` by the pivot row `t` — and the pivot row `t` has a structural
entry in column `c > t`, which the update merges into row `r`.  Columns are bounded by `n` (in `ColReach` they are not:
there every column met lies below the one asked about) because `ShareDesc` and the pivot hypothesis of `rowFill_desc`
speak of the columns `< n` only. -/
inductive RowFill (n : Nat) (cols : Nat → List Nat) : Nat → Nat → Prop
  | orig {r c : Nat} : c < n → r ∈ cols c → RowFill n cols r c
  | fill {r t c : Nat} : t < r → t < c → RowFill n cols r t → RowFill n cols t c → RowFill n cols r c

/-- the row-merge model is the fill graph `ColReach` (Lemmas/SymbSound.lean) with rows and columns named the other way round -/
theorem rowFill_iff_colReach {n : Nat} {cols : Nat → List Nat} {r c : Nat} :
    RowFill n cols r c ↔ c < n ∧ ColReach cols c r := by
  constructor
  · intro h
    induction h with
    | orig hc hr => exact ⟨hc, .base hr⟩
    | fill htr htc _ _ ih1 ih2 => exact ⟨ih2.1, .step ih2.2 htc htr ih1.2⟩
  · rintro ⟨hc, h⟩
    induction h with
    | base hr => exact .orig hc hr
    | step _ hkj hkr _ ih1 ih2 => exact .fill hkr hkj (ih2 (by omega)) (ih1 hc)

theorem RowFill.lt_n {n : Nat} {cols : Nat → List Nat} {r c : Nat} (h : RowFill n cols r c) : c < n :=
  (rowFill_iff_colReach.mp h).1

theorem RowFill.row_nonempty {n : Nat} {cols : Nat → List Nat} {r c : Nat} (h : RowFill n cols r c) :
    ∃ c0, c0 < n ∧ r ∈ cols c0 := by
  induction h with
  | orig hc hr => exact ⟨_, hc, hr⟩
  | fill _ _ _ _ ih _ => exact ih

def FirstCol (n : Nat) (cols : Nat → List Nat) (r f : Nat) : Prop :=
  f < n ∧ r ∈ cols f ∧ ∀ c, c < f → r ∉ cols c

theorem exists_firstCol {n : Nat} {cols : Nat → List Nat} {r : Nat} (c0 : Nat) (hc : c0 < n) (hr : r ∈ cols c0) :
    ∃ f, FirstCol n cols r f := by
  rcases firstcol_spec n cols r with ⟨_, h⟩ | h
  · exact absurd hr (h c0 hc)
  · exact ⟨_, h⟩

/-- **row-merge invariant.**  On a heap-ordered forest with `ShareDesc`, if every pivot row `t < n`
is structurally nonzero in its pivot column, every structural entry `(r,c)` has its column `c` among the
ancestors of the first column `f` of row `r`.  Strong induction on the row; inside, induction on the
derivation.  Merge step through `t`: `t ∈ anc(f)` (inner induction); the pivot row `t` has a first column
`f'` with `t, c ∈ anc(f')` (outer induction, `t < r`), so `c ∈ anc(t)` by the chain property as `t < c`. -/
theorem rowFill_desc {n : Nat} {cols : Nat → List Nat} {et : Array Nat} (h : Heap n et)
    (hs : ShareDesc n cols et) (hpiv : ∀ t, t < n → RowFill n cols t t) :
    ∀ r c, RowFill n cols r c → ∀ f, FirstCol n cols r f → Desc n et f c := by
  intro r
  induction r using Nat.strong_induction_on with
  | _ r ihr =>
    have inner : ∀ r' c, RowFill n cols r' c → r' = r → ∀ f, FirstCol n cols r f → Desc n et f c := by
      intro r' c hrc
      induction hrc with
      | @orig r' c hc hr =>
        intro e f ⟨hf, hrf, hmin⟩
        subst e
        rcases Nat.lt_trichotomy f c with hfc | hfc | hfc
        · exact hs f c hfc hc ⟨r', hrf, hr⟩
        · rw [hfc]; exact Desc.refl _
        · exact absurd hr (hmin c hfc)
      | @fill r' t c htr htc h1 h2 ih1 _ =>
        intro e f hf
        subst e
        have hft : Desc n et f t := ih1 rfl f hf
        have hcn : c < n := h2.lt_n
        have htn : t < n := by omega
        obtain ⟨c0, hc0, hr0⟩ := (hpiv t htn).row_nonempty
        obtain ⟨f', hf'⟩ := exists_firstCol c0 hc0 hr0
        have g1 : Desc n et f' t := ihr t htr t (hpiv t htn) f' hf'
        have g2 : Desc n et f' c := ihr t htr c h2 f' hf'
        exact desc_trans hft (desc_chain h g1 g2 (Nat.le_of_lt htc))
    intro c hrc f hf
    exact inner r c hrc rfl f hf

/-- If every entry above the diagonal makes its column an ancestor of its row (`EntryDesc`) and every recorded
supernode is exactly a subtree, no column of a relaxed supernode `[j..k]` has an entry in a row `< j`: an entry
`(r, c)` with `r < c ≤ k` has `r` below `c` below `k`.  With rows NOT permuted (`cols` in its own row numbering,
pivots on the diagonal) no factorization and no `ShareDesc` is needed to get `EntryDesc` (`entryDesc_symetree`). -/
theorem relaxOk_of_entryDesc {n : Nat} {cols : Nat → List Nat} {et : Array Nat} {relaxEnd : Nat → Option Nat}
    (hs : EntryDesc n cols et)
    (hre : ∀ j k, relaxEnd j = some k → j ≤ k ∧ k < n ∧ Subtree n et j k) :
    RelaxOk n cols relaxEnd := by
  intro j k hjk c hjc hck r hr
  obtain ⟨hjk', hkn, hsub⟩ := hre j k hjk
  have hck' : c ≤ k := by omega
  by_cases hrc : c ≤ r
  · omega
  · have g3 : Desc n et r c := hs c (by omega) r hr (by omega)
    have g4 : Desc n et c k := (hsub c (by omega)).mpr ⟨hjc, hck'⟩
    exact ((hsub r (by omega)).mp (desc_trans g3 g4)).1

/-- on a heap-ordered forest with `ShareDesc` whose pivot rows are structurally nonzero, an entry `(r, c)` above
the diagonal makes `c` an ancestor of `r`: both lie on the chain of ancestors of the first column of row `r` -/
theorem entryDesc_of_shareDesc {n : Nat} {cols : Nat → List Nat} {et : Array Nat} (h : Heap n et)
    (hs : ShareDesc n cols et) (hpiv : ∀ t, t < n → RowFill n cols t t) : EntryDesc n cols et := by
  intro c hcn r hr hrc
  obtain ⟨f, hf⟩ := exists_firstCol c hcn hr
  exact desc_chain h (rowFill_desc h hs hpiv r r (hpiv r (by omega)) f hf)
    (rowFill_desc h hs hpiv r c (RowFill.orig hcn hr) f hf) (Nat.le_of_lt hrc)

/-- **`RelaxOk` from the tree**: (T), (S) and the pivot hypothesis, `cols` being the pattern of `B = Pr·A·Pc` in pivot numbering. -/
theorem relaxOk_of_subtrees {n : Nat} {cols : Nat → List Nat} {et : Array Nat} {relaxEnd : Nat → Option Nat}
    (h : Heap n et) (hs : ShareDesc n cols et) (hpiv : ∀ t, t < n → RowFill n cols t t)
    (hre : ∀ j k, relaxEnd j = some k → j ≤ k ∧ k < n ∧ Subtree n et j k) :
    RelaxOk n cols relaxEnd :=
  relaxOk_of_entryDesc (entryDesc_of_shareDesc h hs hpiv) hre

variable {K : Type} [Field K]

/-- the pivot hypothesis of `rowFill_desc` / `relaxOk_of_subtrees` holds for an exact factorization: the
pivot `U(t,t)` is nonzero, hence an entry of the fill graph (`IsLU.fillU`) -/
theorem rowFill_diag_of_LU (n : Nat) (B L U : Nat → Nat → K) (cols : Nat → List Nat)
    (hcols : ∀ i < n, ∀ j < n, B i j ≠ 0 → i ∈ cols j) (h : IsLU n B L U) : ∀ t, t < n → RowFill n cols t t :=
  fun t ht => rowFill_iff_colReach.mpr ⟨ht, h.fillU hcols (Nat.le_refl t) ht (h.piv t ht)⟩

end Slu.Symb
