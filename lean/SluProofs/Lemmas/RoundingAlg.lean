import SluProofs.Lemmas.RoundingLU
/-
An executable rounded LU in ANY arithmetic obeying the standard model, and the proof that its
output satisfies the hypothesis `LUComputed` of the backward-error theorems — for every size, every
matrix, every `FlModel` (so the hypotheses are inhabited well beyond exact arithmetic, and the
bound holds for this algorithm with no hypothesis other than nonzero pivots).

`doolittle M A s` = the factors after `s` stages; stage `k` fills row `k` of `Û`
(`û_kj = fl-left-to-right(a_kj - Σ_{t<k} l̂_kt û_tj)`) and column `k` of `L̂`
(`l̂_ik = fl(fl-left-to-right(a_ik - Σ_{t<k} l̂_it û_tk) * fl(1/û_kk))`, SuperLU's scaling).
-/
namespace Slu.Rounding
open Finset

variable {F : Type} [Field F] [LinearOrder F] [IsStrictOrderedRing F]

/-- row `k` of `Û` from the factors so far -/
def urow (M : FlModel F) (A L U : Nat → Nat → F) (k j : Nat) : F :=
  leftEval M (A k j) ((List.range k).map fun t => (L k t, U t j))

/-- column `k` of `L̂` from the factors so far and the pivot `p = û_kk` -/
def lcol (M : FlModel F) (A L U : Nat → Nat → F) (p : F) (k i : Nat) : F :=
  M.mul (leftEval M (A i k) ((List.range k).map fun t => (L i t, U t k))) (M.div 1 p)

def doolittle (M : FlModel F) (A : Nat → Nat → F) : Nat → (Nat → Nat → F) × (Nat → Nat → F)
  | 0 => (fun i j => if i = j then 1 else 0, fun _ _ => 0)
  | k + 1 =>
    let LU := doolittle M A k
    (fun i j => if j = k ∧ k < i then lcol M A LU.1 LU.2 (urow M A LU.1 LU.2 k k) k i else LU.1 i j,
     fun i j => if i = k ∧ k ≤ j then urow M A LU.1 LU.2 k j else LU.2 i j)

theorem eq_of_succ_eq {α : Type} (f : Nat → α) {s : Nat} (h : ∀ s', s ≤ s' → f (s' + 1) = f s')
    {s' : Nat} (hs : s ≤ s') : f s' = f s := by
  induction s', hs using Nat.le_induction with
  | base => rfl
  | succ s' hs ih => rw [h s' hs, ih]

section stages
variable (M : FlModel F) (A : Nat → Nat → F) {s s' i j : Nat}

theorem dl_L_succ (s i j : Nat) : (doolittle M A (s + 1)).1 i j =
    if j = s ∧ s < i then lcol M A (doolittle M A s).1 (doolittle M A s).2
      (urow M A (doolittle M A s).1 (doolittle M A s).2 s s) s i else (doolittle M A s).1 i j := rfl

theorem dl_U_succ (s i j : Nat) : (doolittle M A (s + 1)).2 i j =
    if i = s ∧ s ≤ j then urow M A (doolittle M A s).1 (doolittle M A s).2 s j
    else (doolittle M A s).2 i j := rfl

theorem dl_L_stable (h : s ≤ s') (hj : j < s) : (doolittle M A s').1 i j = (doolittle M A s).1 i j :=
  eq_of_succ_eq (fun s => (doolittle M A s).1 i j)
    (fun s' _ => (dl_L_succ M A s' i j).trans (if_neg (by omega))) h

theorem dl_U_stable (h : s ≤ s') (hi : i < s) : (doolittle M A s').2 i j = (doolittle M A s).2 i j :=
  eq_of_succ_eq (fun s => (doolittle M A s).2 i j)
    (fun s' _ => (dl_U_succ M A s' i j).trans (if_neg (by omega))) h

theorem dl_L_untouched (s i j : Nat) (hj : s ≤ j) :
    (doolittle M A s).1 i j = if i = j then 1 else 0 := by
  induction s with
  | zero => rfl
  | succ s ih => rw [dl_L_succ, if_neg (by omega)]; exact ih (by omega)

theorem dl_U_untouched (s i j : Nat) (hi : s ≤ i) : (doolittle M A s).2 i j = 0 := by
  induction s with
  | zero => rfl
  | succ s ih => rw [dl_U_succ, if_neg (by omega)]; exact ih (by omega)

/-- only entries strictly below the diagonal of `L̂` are ever written -/
theorem dl_L_of_le (s : Nat) (h : i ≤ j) : (doolittle M A s).1 i j = if i = j then 1 else 0 := by
  induction s with
  | zero => rfl
  | succ s ih => rw [dl_L_succ, if_neg (by omega)]; exact ih

theorem dl_L_diag (s i : Nat) : (doolittle M A s).1 i i = 1 :=
  (dl_L_of_le M A s le_rfl).trans (if_pos rfl)

theorem dl_U_lower (s : Nat) (h : j < i) : (doolittle M A s).2 i j = 0 := by
  induction s with
  | zero => rfl
  | succ s ih => rw [dl_U_succ, if_neg (by omega)]; exact ih

end stages

/-- **the rounded Doolittle factorization satisfies `LUComputed`** in every arithmetic obeying the
model, for every `m`, `n`, `A` with nonzero computed pivots: an entry is final once its stage is
over, and it was computed from entries that were final before that stage -/
theorem doolittle_computed (M : FlModel F) (A : Nat → Nat → F) (m n : Nat)
    (hpiv : ∀ k < n, (doolittle M A n).2 k k ≠ 0) :
    LUComputed M.u m n 2 A (doolittle M A n).1 (doolittle M A n).2 where
  L_diag := fun i _ => dl_L_diag M A n i
  L_upper := fun i t h => (dl_L_of_le M A n h.le).trans (if_neg h.ne)
  U_lower := fun t j h => dl_U_lower M A n h
  U_entry := by
    intro k j hkj hj
    have hk := Nat.lt_of_le_of_lt hkj hj
    rw [dl_U_stable M A (Nat.succ_le_of_lt hk) (Nat.lt_succ_self k), dl_U_succ, if_pos ⟨rfl, hkj⟩, urow]
    exact dot_left_range ⟨rfl, rfl⟩ fun _ ht =>
      Prod.ext (dl_L_stable M A hk.le ht) (dl_U_stable M A hk.le ht)
  L_entry := by
    intro i k hki _ hk
    have hp : (doolittle M A n).2 k k = urow M A (doolittle M A k).1 (doolittle M A k).2 k k := by
      rw [dl_U_stable M A (Nat.succ_le_of_lt hk) (Nat.lt_succ_self k), dl_U_succ, if_pos ⟨rfl, le_rfl⟩]
    have hb := hpiv k hk
    rw [dl_L_stable M A (Nat.succ_le_of_lt hk) (Nat.lt_succ_self k), dl_L_succ, if_pos ⟨rfl, hki⟩, lcol,
      ← hp]
    exact ⟨.recip, le_rfl, dot_left_range ⟨hb, _, M.div_rnd _ _ hb, M.mul_rnd _ _⟩ fun _ ht =>
      Prod.ext (dl_L_stable M A hk.le ht) (dl_U_stable M A hk.le ht)⟩

/-- forward substitution with a unit lower triangular `L`, stage `s` computes `y_s` -/
def fwdSub (M : FlModel F) (L : Nat → Nat → F) (b : Nat → F) : Nat → Nat → F
  | 0 => fun _ => 0
  | s + 1 => fun i =>
    if i = s then leftEval M (b s) ((List.range s).map fun t => (L s t, fwdSub M L b s t))
    else fwdSub M L b s i

theorem fwdSub_stable (M : FlModel F) (L : Nat → Nat → F) (b : Nat → F) {s s' i : Nat} (h : s ≤ s')
    (hi : i < s) : fwdSub M L b s' i = fwdSub M L b s i :=
  eq_of_succ_eq (fun s => fwdSub M L b s i) (fun s' _ => if_neg (by omega)) h

theorem fwdSub_solved (M : FlModel F) (L : Nat → Nat → F) (b : Nat → F) (n : Nat)
    (hL : ∀ i < n, L i i = 1) : LowerSolved M.u n 0 L b (fwdSub M L b n) := by
  intro i hi
  rw [fwdSub_stable M L b (Nat.succ_le_of_lt hi) (Nat.lt_succ_self i), hL i hi]
  show ∃ f : Finish, _ ∧ Dot _ _ _ _ _ (if i = i then _ else _)
  rw [if_pos rfl]
  exact ⟨.none, le_rfl, dot_left_range ⟨rfl, rfl⟩ fun _ ht =>
    Prod.ext rfl (fwdSub_stable M L b hi.le ht)⟩

/-- back substitution with the upper triangular `U` (rounded divisions), stage `s` computes
`x_{n-1-s}` -/
def backSubst (M : FlModel F) (n : Nat) (U : Nat → Nat → F) (y : Nat → F) : Nat → Nat → F
  | 0 => fun _ => 0
  | s + 1 => fun i =>
    if i + (s + 1) = n then
      M.div (leftEval M (y i) ((List.range (n - (i + 1))).map fun r =>
        (U i (i + 1 + r), backSubst M n U y s (i + 1 + r)))) (U i i)
    else backSubst M n U y s i

theorem backSubst_stable (M : FlModel F) (n : Nat) (U : Nat → Nat → F) (y : Nat → F) {s s' i : Nat}
    (h : s ≤ s') (hi : n < i + (s + 1)) : backSubst M n U y s' i = backSubst M n U y s i :=
  eq_of_succ_eq (fun s => backSubst M n U y s i) (fun s' _ => if_neg (by omega)) h

theorem backSubst_solved (M : FlModel F) (n : Nat) (U : Nat → Nat → F) (y : Nat → F)
    (hU : ∀ i < n, U i i ≠ 0) : UpperSolved M.u n 1 U y (backSubst M n U y n) := by
  intro i hi
  -- `x_i` is computed at stage `s + 1 = n - i`
  obtain ⟨s, hs⟩ : ∃ s, i + (s + 1) = n := ⟨n - i - 1, by omega⟩
  rw [backSubst_stable M n U y (s := s + 1) (by omega) (by omega)]
  show ∃ f : Finish, _ ∧ Dot _ _ _ _ _ (if i + (s + 1) = n then _ else _)
  rw [if_pos hs]
  exact ⟨.div, le_rfl, dot_left_range ⟨hU i hi, M.div_rnd _ _ (hU i hi)⟩ fun r _ =>
    Prod.ext rfl (backSubst_stable M n U y (by omega) (by omega))⟩

end Slu.Rounding
