import SluProofs.Lemmas.RoundingLU
/-
The expert driver's extra roundings (C05): equilibration.

`[sdcz]gssvx` with `Equil = YES` solves the SCALED system.  With `s` the scale applied to the rows
of the stored operator and `t` the one applied to its columns (`R`, `C` for NOTRANS; `C`, `R` for
TRANS), the code forms, each with the roundings shown (SRC/dlaqgs.c:126-147, dgssvx.c:613-651):

  `A1(i,j) = fl(a(i,j) * fl(t_j * s_i))`   two roundings per entry   (`A` on exit)
  `b1(i)   = fl(s_i * b(i))`               one rounding              (`B` on exit)
  factor and solve `A1 z = b1`                                       (Thm 9.4: `lu_solve_backward_error`)
  `X(j)    = fl(t_j * z(j))`               one rounding              (returned solution)

The run-time check evaluates two residuals in exact rationals (`g` = `Slu.Drv.Lu.gam`), with
`x_eq(j) = X(j) / t_j`:
  equilibrated:  `|b1 - A1 x_eq|         ≤ g(4n+6)  W |x_eq| + g(n+1) |b1|`
  original:      `s_i |b - A X|_i        ≤ g(4n+10) W |x_eq| + g(n+3) |b1|`
where `W = |L̂||Û|` permuted back.  Both are `solve_of_prow` applied to the identities of the two
substitutions and of the factorization: the unscaling is one more rounding on every entry of the rows
of the back substitution (`PRow.perturb`), the roundings of `A1` are two more on the row of the
factorization (`PRow.scale`), that of `b1` gives the term `γ_1 |b1|`.  The counts come to `3n+2` and
`3n+4`; stated for `K+2`, `K+4` with any `K ≥ 3n+1` (`γ_{3n+3} ≤ g(4n+6)`, `γ_{3n+5} ≤ g(4n+10)`,
`γ_1 ≤ g(n+3)`).
-/
namespace Slu.Rounding
open Finset

variable {F : Type} [Field F] [LinearOrder F] [IsStrictOrderedRing F] {u : F}

section expert
variable {n K : Nat} {A1 L U : Nat → Nat → F} {b1 y z xe : Nat → F}
  (hLU : LUComputed u n n 2 A1 L U) (hy : LowerSolved u n 0 L b1 y) (hz : UpperSolved u n 2 U y z)
  (hx : ∀ j < n, Rnd u (z j) (xe j)) (hK : 3 * n + 1 ≤ K)
include hLU hy hz hx hK

/-- **expert driver, equilibrated system**: factor `A1`, solve, unscale with one rounding
(`x_eq = z (1 + d)`: one more rounding on every entry of the rows of the back substitution);
Thm 9.4 with reciprocals. -/
theorem expert_equilibrated (hS : Small u (K + 2)) (i : Nat) (hi : i < n) :
    |b1 i - ∑ j ∈ range n, A1 i j * xe j| ≤
      gamma u (K + 2) * ∑ j ∈ range n, (∑ t ∈ range n, |L i t| * |U t j|) * |xe j| :=
  have h1 : Small u 1 := hS.mono (by omega)
  solve_of_prow h1 hS (hy.prow h1 hLU.L_upper i hi)
    (fun t ht => (hz.prow h1 hLU.U_lower t ht).perturb h1 fun j hj => ((hx j hj).pert h1).symm h1)
    (hLU.prow h1 i hi) (by omega)

/-- **expert driver, original system** (`A1 = fl(a * fl(t s))`, `b1 = fl(s b)`, `X = t x_eq`):
`s a_ij t_j = A1_ij ρ_j` with `ρ_j` of count 2, two more roundings on the row of the factorization. -/
theorem expert_original {a : Nat → Nat → F} {b X s t : Nat → F}
    (hA1 : ∀ i < n, ∀ j < n, ∃ sc, Rnd u (t j * s i) sc ∧ Rnd u (a i j * sc) (A1 i j))
    (hb1 : ∀ i < n, Rnd u (s i * b i) (b1 i)) (hX : ∀ j < n, X j = t j * xe j)
    (hS : Small u (K + 4)) (i : Nat) (hi : i < n) :
    |s i| * |b i - ∑ j ∈ range n, a i j * X j| ≤
      gamma u (K + 4) * ∑ j ∈ range n, (∑ t ∈ range n, |L i t| * |U t j|) * |xe j| +
        gamma u 1 * |b1 i| := by
  have h1 : Small u 1 := hS.mono (by omega)
  have hm : ∀ j < n, PRow u (n - 1 + 2 + 2) n (L i) (fun t => U t j) (a i j * (t j * s i)) := fun j hj => by
    obtain ⟨sc, e1, e2⟩ := hA1 i hi j hj
    obtain ⟨ρ, hρ, e⟩ := (((e1.pert h1).mul_left (a i j)).trans h1 (e2.pert h1)).symm h1
    exact e ▸ (hLU.prow h1 i hi j hj).scale h1 hρ
  have e : s i * ∑ j ∈ range n, a i j * X j = ∑ j ∈ range n, a i j * (t j * s i) * xe j := by
    rw [Finset.mul_sum]
    exact Finset.sum_congr rfl fun j hj => by rw [hX j (Finset.mem_range.mp hj)]; ring
  rw [← abs_mul, mul_sub, e, ← sub_add_sub_cancel (s i * b i) (b1 i), add_comm]
  exact (abs_add_le _ _).trans (add_le_add
    (solve_of_prow h1 hS (hy.prow h1 hLU.L_upper i hi)
      (fun t ht => (hz.prow h1 hLU.U_lower t ht).perturb h1 fun j hj => ((hx j hj).pert h1).symm h1)
      hm (by omega))
    ((((hb1 i hi).pert h1).symm h1).abs_sub_le h1))

end expert

end Slu.Rounding
