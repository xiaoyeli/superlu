import SluProofs.Lemmas.Rounding
/-
Forward error of `y := alpha*op(A)*x + beta*y` (`sp_[sd]gemv`, C14) in every evaluation order.

SRC/dsp_blas2.c:446-480 forms, per output entry (`k` = stored entries of the row/column of `op(A)`):
  NOTRANS:  `y_i = fl(beta*y_i)`, `temp_j = fl(alpha*x_j)`, `y_i += fl(temp_j * a_ij)` (in column order)
  TRANS:    `temp = Σ fl(a_ij * x_i)` accumulated, then `y_j = fl(fl(beta*y_j) + fl(alpha*temp))`
Both are covered, in any order of accumulation, with or without FMA: in either form `ŷ` is
`alpha Σ a x + beta y` with at most `k + 2` roundings on every term, hence
  `|ŷ - (alpha Σ a x + beta y)| ≤ γ_{k+2} (|alpha| Σ|a||x| + |beta||y|)`
(the run-time check uses `g(k+4)`, `g` = `Slu.Drv.Kernels.gamma`).
-/
namespace Slu.Rounding
open Finset

variable {F : Type} [Field F] [LinearOrder F] [IsStrictOrderedRing F] {u : F}

/-- `y` is a computed value of `Σ_{(a,b) ∈ l} a b` in SOME order (`0` for the empty sum) -/
def SumOf (u : F) (l : List (F × F)) (y : F) : Prop :=
  (l = [] ∧ y = 0) ∨ ∃ s : STree F, s.leaves.Perm l ∧ s.Eval u y

theorem SumOf.psum (h1 : Small u 1) {l : List (F × F)} {y : F} (h : SumOf u l y) :
    PSum u l.length l y := by
  rcases h with ⟨rfl, rfl⟩ | ⟨s, hperm, hs⟩
  · exact .nil
  · rw [← hperm.length_eq]; exact (hs.psum h1.nonneg h1.lt_one).perm hperm

variable {k : Nat} (a x : Nat → F) (alpha beta yi y' : F)

/-- what both forms come to: every term `alpha a_j x_j`, and `beta y_i`, carries at most `K` roundings -/
theorem gemv_of_psum {K : Nat} (hS : Small u K)
    (h : PSum u K ((beta, yi) :: (List.range k).map fun j => (alpha * a j, x j)) y') :
    |y' - (alpha * ∑ j ∈ range k, a j * x j + beta * yi)| ≤
      gamma u K * (|alpha| * ∑ j ∈ range k, |a j| * |x j| + |beta| * |yi|) := by
  have e1 : ∑ j ∈ range k, alpha * a j * x j = alpha * ∑ j ∈ range k, a j * x j := by
    rw [Finset.mul_sum]; exact Finset.sum_congr rfl fun j _ => mul_assoc _ _ _
  have e2 : ∑ j ∈ range k, |alpha * a j| * |x j| = |alpha| * ∑ j ∈ range k, |a j| * |x j| := by
    rw [Finset.mul_sum]; exact Finset.sum_congr rfl fun j _ => by rw [abs_mul, mul_assoc]
  have := h.bound hS
  rwa [dotSum_cons, dotAbs_cons, dotSum_range, dotAbs_range, e1, e2, add_comm,
    add_comm (|beta| * |yi|)] at this

variable (h1 : Small u 1)
include h1

/-- **gemv, NOTRANS form**: `temp_j = fl(alpha x_j)`, then `beta*y_i` and the `temp_j * a_j` summed in
any order: `k + 1` roundings from the sum, one more from `temp_j`. -/
theorem gemv_notrans_psum {temp : Nat → F} (htemp : ∀ j < k, Rnd u (alpha * x j) (temp j))
    (hy' : SumOf u ((beta, yi) :: (List.range k).map fun j => (temp j, a j)) y') :
    PSum u (k + 2) ((beta, yi) :: (List.range k).map fun j => (alpha * a j, x j)) y' := by
  have h := hy'.psum h1
  rw [List.length_cons, List.length_map, List.length_range] at h
  refine h.perturb h1 (j := 1) (.cons (Pert.refl h1 1 _) ?_)
  rw [List.forall₂_map_left_iff, List.forall₂_map_right_iff, List.forall₂_same]
  intro j hj
  have := ((htemp j (List.mem_range.mp hj)).pert h1).mul_right (a j)
  rwa [mul_right_comm] at this

/-- **gemv, TRANS form**: `temp` = the inner product summed in any order, then
`y' = fl(beta*y) + fl(alpha*temp)` summed: `k` roundings from `temp`, two more from the last sum. -/
theorem gemv_trans_psum {temp : F} (htemp : SumOf u ((List.range k).map fun j => (a j, x j)) temp)
    (hy' : SumOf u [(beta, yi), (alpha, temp)] y') :
    PSum u (k + 2) ((beta, yi) :: (List.range k).map fun j => (alpha * a j, x j)) y' := by
  have ht := (htemp.psum h1).smul alpha
  rw [List.length_map, List.length_range, List.map_map] at ht
  cases hy'.psum h1 with
  | cons hr1 h' =>
    cases h' with
    | cons hr2 h'' =>
      cases h''
      rw [add_zero]
      exact .cons (hr1.mono h1 (Nat.le_add_left 2 k)) (ht.scale h1 hr2)

end Slu.Rounding
