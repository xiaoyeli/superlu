import SluProofs.Lemmas.Rounding
import Mathlib.Algebra.BigOperators.Intervals
import Mathlib.Algebra.Order.BigOperators.Ring.Finset
/-
Componentwise backward error of LU factorization and of the triangular solves for EVERY evaluation
order (Higham, Accuracy and Stability of Numerical Algorithms, 2nd ed., Thm 8.5, 9.3, 9.4), from
Lemma 8.4 in its order-independent form, kept as an IDENTITY (`Dot.psum`: the datum is a perturbed sum
of all the products) row by row (`PRow`) until the last step, where two identities over the same
products are compared (`PRow.bound`, `solve_of_prow`).  Matrices are functions `Nat → Nat → F`,
vectors `Nat → F`, sums run over `Finset.range`.

What is assumed about the computed factors (`LUComputed`): each stored entry is the value of SOME
evaluation tree (`Dot`) of its defining formula in terms of A and previously computed entries —
`û_kj` a value of `a_kj - Σ_{t<k} l̂_kt û_tj`, `l̂_ik` a value of `(a_ik - Σ_{t<k} l̂_it û_tk)/û_kk`
finished by a rounded division or by `fl(w * fl(1/û_kk))` (SuperLU's `temp = 1.0/pivot; l *= temp`).
Nothing is assumed about the order in which the entries were produced (left-looking, right-looking,
panels, supernodes, BLAS-2/3 kernels, FMA): Doolittle's formulas hold for all of them.

Constants reached (`q` = largest `Finish.cost` used for L, `0 ≤ q ≤ 2`):
* LU:            `|A - L̂Û| ≤ γ_{n-1+q} |L̂||Û|`      (division: γ_n = Higham's; reciprocal: γ_{n+1})
* lower solve:   `|b - T ŷ| ≤ γ_{n-1+q} |T||ŷ|`
* upper solve:   `|y - T x̂| ≤ γ_{n-1+q} |T||x̂|`
* both + LU:     `|b - A x̂| ≤ γ_{3n-3+q_L+q_U} |L̂||Û||x̂|`  (reciprocal everywhere: γ_{3n+1})
all `≤` the constants the run-time checks use (`g(n+2)` and `g(4n+4)`, `g` = `Slu.Drv.Lu.gam`).
-/
-- the instances of the `variable` line belong to every statement, also where a proof needs less
set_option linter.unusedSectionVars false
namespace Slu.Rounding
open Finset

variable {F : Type} [Field F] [LinearOrder F] [IsStrictOrderedRing F]

/-- `y` was obtained by substitution with the lower triangular `T` (`T y = b`): entry `i` is a value
of some evaluation tree of `(b_i - Σ_{t<i} T_it y_t)/T_ii`, finished with cost at most `q`
(`Finish.none`, cost 0, requires `T_ii = 1`: the unit lower triangular case) -/
def LowerSolved (u : F) (n q : Nat) (T : Nat → Nat → F) (b y : Nat → F) : Prop :=
  ∀ i < n, ∃ f : Finish, f.cost ≤ q ∧
    Dot u (b i) ((List.range i).map fun t => (T i t, y t)) (T i i) f (y i)

/-- `x` was obtained by back substitution with the upper triangular `T` (`T x = y`): entry `i` is a
value of some tree of `(y_i - Σ_{i<t<n} T_it x_t)/T_ii` -/
def UpperSolved (u : F) (n q : Nat) (T : Nat → Nat → F) (y x : Nat → F) : Prop :=
  ∀ i < n, ∃ f : Finish, f.cost ≤ q ∧
    Dot u (y i) ((List.range (n - (i + 1))).map fun s => (T i (i + 1 + s), x (i + 1 + s))) (T i i) f (x i)

/-- `L̂` (m × n, unit lower trapezoidal) and `Û` (n × n, upper triangular) were computed from the
m × n matrix `A` by ANY algorithm that evaluates Doolittle's formulas entry by entry in some order
of operations obeying the standard model; `q` bounds the cost of the final scaling of the L entries
(`1`: rounded division, `2`: rounded reciprocal then rounded product) -/
structure LUComputed (u : F) (m n q : Nat) (A L U : Nat → Nat → F) : Prop where
  L_diag : ∀ i < n, L i i = 1
  L_upper : ∀ i t, i < t → L i t = 0
  U_lower : ∀ t j, j < t → U t j = 0
  U_entry : ∀ k j, k ≤ j → j < n →
    Dot u (A k j) ((List.range k).map fun t => (L k t, U t j)) 1 .none (U k j)
  L_entry : ∀ i k, k < i → i < m → k < n → ∃ f : Finish, f.cost ≤ q ∧
    Dot u (A i k) ((List.range k).map fun t => (L i t, U t k)) (U k k) f (L i k)

/-- `β = Σ_{t<n} a_t x_t r_t`, every `r_t` a perturbation factor of count `k`: the row `a` applied to
`x` gives `β` exactly once each term is allowed `k` roundings (Higham's `(a + Δa) x = β`,
`|Δa| ≤ γ_k |a|`).  Every bound below compares two such identities. -/
def PRow (u : F) (k n : Nat) (a x : Nat → F) (β : F) : Prop :=
  ∃ r : Nat → F, (∀ t < n, Fac u k (r t)) ∧ β = ∑ t ∈ range n, a t * x t * r t

section prow
variable {u : F} {j k n : Nat} {a x x' : Nat → F} {β ρ : F}

theorem PRow.exact (n : Nat) (a x : Nat → F) : PRow u 0 n a x (∑ t ∈ range n, a t * x t) :=
  ⟨fun _ => 1, fun _ _ => Fac.zero_iff.mpr rfl, Finset.sum_congr rfl fun _ _ => (mul_one _).symm⟩

theorem PRow.comm : PRow u k n a x β → PRow u k n x a β :=
  fun ⟨r, hr, e⟩ => ⟨r, hr, e.trans (Finset.sum_congr rfl fun t _ => by rw [mul_comm (a t)])⟩

/-- the rules of `PSum` are read through this -/
theorem PRow.iff_psum : PRow u k n a x β ↔ PSum u k ((List.range n).map fun t => (a t, x t)) β :=
  ⟨fun ⟨r, hr, e⟩ => e ▸ PSum.of_fun n a x r hr, PSum.exists_fun n a x⟩

theorem PRow.bound (hS : Small u k) (h : PRow u k n a x β) :
    |β - ∑ t ∈ range n, a t * x t| ≤ gamma u k * ∑ t ∈ range n, |a t| * |x t| := by
  have := (PRow.iff_psum.mp h).bound hS
  rwa [dotSum_range, dotAbs_range] at this

variable (h1 : Small u 1)
include h1

theorem PRow.mono (hjk : j ≤ k) : PRow u j n a x β → PRow u k n a x β :=
  fun h => PRow.iff_psum.mpr ((PRow.iff_psum.mp h).mono h1 hjk)

theorem PRow.scale (h : PRow u k n a x β) (hρ : Fac u j ρ) : PRow u (k + j) n a x (β * ρ) :=
  PRow.iff_psum.mpr ((PRow.iff_psum.mp h).scale h1 hρ)

theorem PRow.perturb (h : PRow u k n a x β) (hx : ∀ t < n, Pert u j (x' t) (x t)) :
    PRow u (k + j) n a x' β :=
  PRow.iff_psum.mpr ((PRow.iff_psum.mp h).perturb h1 (by
    rw [List.forall₂_map_left_iff, List.forall₂_map_right_iff, List.forall₂_same]
    exact fun t ht => (hx t (List.mem_range.mp ht)).mul_left (a t)))

/-- the indexed Lemma 8.4 as a row of a triangular product: the products are those of the window
`o ≤ t < o + k`, the entry `d` outside it is `b_k y`, everything else in the row vanishes -/
theorem Dot.prow {K o d : Nat} {c bk y : F} (a b : Nat → F) {f : Finish}
    (h : Dot u c ((List.range k).map fun s => (a (s + o), b (s + o))) bk f y)
    (hd : d < n) (hw : o + k ≤ n) (hdw : d < o ∨ o + k ≤ d) (hk : a d * b d = bk * y)
    (h0 : ∀ t < n, t ≠ d → (t < o ∨ o + k ≤ t) → a t * b t = 0) (hK : k + f.cost ≤ K) :
    PRow u K n a b c := by
  obtain ⟨r0, y', hr0, h', rfl⟩ :=
    ((h.psum h1).mono h1 (k := K) (by rwa [List.length_map, List.length_range])).uncons
  obtain ⟨r, hr, rfl⟩ := h'.exists_fun k (fun s => a (s + o)) (fun s => b (s + o))
  refine ⟨fun t => if t = d then r0 else if t < o ∨ o + k ≤ t then 1 else r (t - o), fun t _ => ?_, ?_⟩
  · dsimp only
    split_ifs
    · exact hr0
    · exact Fac.one h1 K
    · exact hr _ (by omega)
  · have hs : insert d (Ico o (o + k)) ⊆ range n := fun t ht => by
      rcases Finset.mem_insert.mp ht with rfl | ht
      · exact Finset.mem_range.mpr hd
      · exact Finset.mem_range.mpr ((Finset.mem_Ico.mp ht).2.trans_le hw)
    rw [← Finset.sum_subset hs fun t ht hnt => by
        rw [h0 t (Finset.mem_range.mp ht) (fun e => hnt (e ▸ Finset.mem_insert_self _ _))
          (by have : ¬(o ≤ t ∧ t < o + k) := fun h => hnt (Finset.mem_insert_of_mem (Finset.mem_Ico.mpr h))
              omega), zero_mul],
      Finset.sum_insert (fun h => by have := Finset.mem_Ico.mp h; omega), Finset.sum_Ico_eq_sum_range,
      Nat.add_sub_cancel_left]
    dsimp only
    rw [if_pos rfl, hk]
    exact congrArg (_ + ·) (Finset.sum_congr rfl fun s hs => by
      have := Finset.mem_range.mp hs
      rw [Nat.add_comm o s, if_neg (by omega), if_neg (by omega), Nat.add_sub_cancel])

/-- **Thm 9.4 from three identities**: `β = (a + Δa) y` (`hb`, factors `r_t`), `y = (Q + ΔQ) x` (`hy`,
factors `s_tj`), `m = a (Q + ΔQ')` (`hm`, factors `ρ_jt`) give
`β - m x = Σ_j Σ_t a_t Q_tj x_j (r_t s_tj - ρ_jt)`, and factors of counts `ka + kb` and `kc` differ by
at most `γ_{ka+kb+kc}` -/
theorem solve_of_prow {ka kb kc K : Nat} (hS : Small u K) {a m x y : Nat → F}
    {Q : Nat → Nat → F} {β : F} (hb : PRow u ka n a y β) (hy : ∀ t < n, PRow u kb n (Q t) x (y t))
    (hm : ∀ j < n, PRow u kc n a (fun t => Q t j) (m j)) (hK : ka + kb + kc ≤ K) :
    |β - ∑ j ∈ range n, m j * x j| ≤
      gamma u K * ∑ j ∈ range n, (∑ t ∈ range n, |a t| * |Q t j|) * |x j| := by
  obtain ⟨r, hr, rfl⟩ := hb
  choose! s hs ey using hy
  choose! ρ hρ em using hm
  have e : ∑ t ∈ range n, a t * y t * r t - ∑ j ∈ range n, m j * x j =
      ∑ j ∈ range n, ∑ t ∈ range n, a t * Q t j * x j * (r t * s t j - ρ j t) := by
    have e1 : ∑ t ∈ range n, a t * y t * r t =
        ∑ j ∈ range n, ∑ t ∈ range n, a t * (Q t j * x j * s t j) * r t := by
      rw [Finset.sum_comm]
      exact Finset.sum_congr rfl fun t ht => by
        rw [ey t (Finset.mem_range.mp ht), Finset.mul_sum, Finset.sum_mul]
    have e2 : ∑ j ∈ range n, m j * x j = ∑ j ∈ range n, ∑ t ∈ range n, a t * Q t j * ρ j t * x j :=
      Finset.sum_congr rfl fun j hj => by rw [em j (Finset.mem_range.mp hj), Finset.sum_mul]
    rw [e1, e2, ← Finset.sum_sub_distrib]
    refine Finset.sum_congr rfl fun j _ => ?_
    rw [← Finset.sum_sub_distrib]
    exact Finset.sum_congr rfl fun t _ => by ring
  rw [e, Finset.mul_sum]
  refine (Finset.abs_sum_le_sum_abs _ _).trans (Finset.sum_le_sum fun j hj => ?_)
  rw [Finset.sum_mul, Finset.mul_sum]
  refine (Finset.abs_sum_le_sum_abs _ _).trans (Finset.sum_le_sum fun t ht => ?_)
  have hj := Finset.mem_range.mp hj
  have ht := Finset.mem_range.mp ht
  rw [abs_mul, abs_mul, abs_mul, mul_comm]
  exact mul_le_mul_of_nonneg_right
    ((((hr t ht).mul h1 (hs t ht j hj)).abs_sub_le (hS.mono hK) (hρ j hj t ht)).trans (gamma_mono hS hK))
    (mul_nonneg (mul_nonneg (abs_nonneg _) (abs_nonneg _)) (abs_nonneg _))

end prow

section rows
variable {u : F} {m n q K : Nat} (h1 : Small u 1) {T A L U P Q : Nat → Nat → F} {b y x : Nat → F}
include h1

theorem LowerSolved.prow (hT : ∀ i t, i < t → T i t = 0) (h : LowerSolved u n q T b y)
    (i : Nat) (hi : i < n) : PRow u (n - 1 + q) n (T i) y (b i) := by
  obtain ⟨f, hf, hd⟩ := h i hi
  exact hd.prow h1 (o := 0) (d := i) (T i) y hi (by omega) (.inr (Nat.zero_add i).le) rfl
    (fun t _ _ ht => by rw [hT i t (by omega), zero_mul]) (by omega)

theorem UpperSolved.prow (hT : ∀ i t, t < i → T i t = 0) (h : UpperSolved u n q T y x)
    (i : Nat) (hi : i < n) : PRow u (n - 1 + q) n (T i) x (y i) := by
  obtain ⟨f, hf, hd⟩ := h i hi
  exact Dot.prow h1 (o := i + 1) (d := i) (T i) x (by simpa only [Nat.add_comm _ (i + 1)] using hd) hi
    (by omega) (.inl (Nat.lt_succ_self i)) rfl
    (fun t _ _ ht => by rw [hT i t (by omega), zero_mul]) (by omega)

theorem LUComputed.prow (h : LUComputed u m n q A L U)
    (i : Nat) (hi : i < m) (j : Nat) (hj : j < n) : PRow u (n - 1 + q) n (L i) (fun t => U t j) (A i j) := by
  rcases Nat.lt_or_ge j i with hji | hij
  · obtain ⟨f, hf, hd⟩ := h.L_entry i j hji hi hj
    exact hd.prow h1 (o := 0) (d := j) (L i) (fun t => U t j) hj (by omega) (.inr (Nat.zero_add j).le)
      (mul_comm _ _)
      (fun t _ _ ht => by rw [h.U_lower t j (by omega), mul_zero]) (by omega)
  · have hin := Nat.lt_of_le_of_lt hij hj
    exact (h.U_entry i j hij hj).prow h1 (o := 0) (d := i) (L i) (fun t => U t j) hin (by omega)
      (.inr (Nat.zero_add i).le)
      (by rw [h.L_diag i hin]) (fun t _ _ ht => by rw [h.L_upper i t (by omega), zero_mul])
      (by show i + 0 ≤ _; omega) -- `Finish.none.cost` is `0` by definition

end rows

/-! the bounds; unlike `Dot.bound_le` they leave out `K = 0` (no rounding at all: `n = 1`), so that `u < 1` -/
section bounds
variable {u : F} {m n q K : Nat} (hS : Small u K) {T A L U P Q : Nat → Nat → F} {b y x : Nat → F}
include hS

/-- **Thm 8.5 (lower), any order.** -/
theorem lower_solve_bound (hT : ∀ i t, i < t → T i t = 0) (h : LowerSolved u n q T b y)
    (hK : n + q ≤ K + 1) (i : Nat) (hi : i < n) (hK0 : 0 < K := by omega) :
    |b i - ∑ t ∈ range n, T i t * y t| ≤ gamma u K * ∑ t ∈ range n, |T i t| * |y t| :=
  have h1 := hS.mono hK0
  ((h.prow h1 hT i hi).mono h1 (by omega)).bound hS

/-- **Thm 8.5 (upper), any order.** -/
theorem upper_solve_bound (hT : ∀ i t, t < i → T i t = 0) (h : UpperSolved u n q T y x)
    (hK : n + q ≤ K + 1) (i : Nat) (hi : i < n) (hK0 : 0 < K := by omega) :
    |y i - ∑ t ∈ range n, T i t * x t| ≤ gamma u K * ∑ t ∈ range n, |T i t| * |x t| :=
  have h1 := hS.mono hK0
  ((h.prow h1 hT i hi).mono h1 (by omega)).bound hS

/-- **Thm 9.3, any evaluation order.** -/
theorem lu_backward_error (h : LUComputed u m n q A L U) (hK : n + q ≤ K + 1)
    (i : Nat) (hi : i < m) (j : Nat) (hj : j < n) (hK0 : 0 < K := by omega) :
    |A i j - ∑ t ∈ range n, L i t * U t j| ≤ gamma u K * ∑ t ∈ range n, |L i t| * |U t j| :=
  have h1 := hS.mono hK0
  ((h.prow h1 i hi j hj).mono h1 (by omega)).bound hS

/-- **Thm 9.4 for given triangular factors** (`[sdcz]gstrs` is checked against `P Q` formed exactly
from the stored factors, C14; NOTRANS: `P = L̂`, `Q = Û`; TRANS: `P = Ûᵀ`, `Q = L̂ᵀ`). -/
theorem factored_solve_bound {qa qb : Nat} (hP : ∀ i t, i < t → P i t = 0)
    (hQ : ∀ i t, t < i → Q i t = 0) (hy : LowerSolved u n qa P b y) (hx : UpperSolved u n qb Q y x)
    (hK : 2 * n + qa + qb ≤ K + 2) (i : Nat) (hi : i < n) (hK0 : 0 < K := by omega) :
    |b i - ∑ j ∈ range n, (∑ t ∈ range n, P i t * Q t j) * x j| ≤
      gamma u K * ∑ j ∈ range n, (∑ t ∈ range n, |P i t| * |Q t j|) * |x j| :=
  have h1 := hS.mono hK0
  solve_of_prow h1 hS (hy.prow h1 hP i hi) (hx.prow h1 hQ)
    (fun j _ => PRow.exact n (P i) fun t => Q t j) (by omega)

/-- **Thm 9.4, any evaluation order** (`A x = b` by `L̂ ŷ = b`, `Û x̂ = ŷ`, square `A`; `qL`, `qU` =
costs of the scalings in the factorization and in the back substitution). -/
theorem lu_solve_backward_error {qL qU : Nat} (hLU : LUComputed u n n qL A L U)
    (hy : LowerSolved u n 0 L b y) (hx : UpperSolved u n qU U y x)
    (hK : 3 * n + qL + qU ≤ K + 3) (i : Nat) (hi : i < n) (hK0 : 0 < K := by omega) :
    |b i - ∑ j ∈ range n, A i j * x j| ≤
      gamma u K * ∑ j ∈ range n, (∑ t ∈ range n, |L i t| * |U t j|) * |x j| :=
  have h1 := hS.mono hK0
  solve_of_prow h1 hS (hy.prow h1 hLU.L_upper i hi) (hx.prow h1 hLU.U_lower) (hLU.prow h1 i hi)
    (by omega)

/-- **Thm 9.4 for the transposed system** (`Aᵀ x = b` by `Ûᵀ ŵ = b`, `L̂ᵀ x̂ = ŵ`). -/
theorem lu_solve_trans_backward_error {qL qU : Nat} {w : Nat → F} (hLU : LUComputed u n n qL A L U)
    (hw : LowerSolved u n qU (fun i t => U t i) b w) (hx : UpperSolved u n 0 (fun i t => L t i) w x)
    (hK : 3 * n + qL + qU ≤ K + 3) (i : Nat) (hi : i < n) (hK0 : 0 < K := by omega) :
    |b i - ∑ j ∈ range n, A j i * x j| ≤
      gamma u K * ∑ j ∈ range n, (∑ t ∈ range n, |U t i| * |L j t|) * |x j| :=
  have h1 := hS.mono hK0
  solve_of_prow h1 hS (Q := fun t j => L j t)
    (hw.prow h1 (fun i t h => hLU.U_lower t i h) i hi) (hx.prow h1 fun i t h => hLU.L_upper t i h)
    (fun j hj => (hLU.prow h1 j hj i hi).comm) (by omega)

end bounds

/-- every exact factorization `A = L U` (unit lower `L`, upper `U` with nonzero diagonal) satisfies
the hypotheses with `u = 0`: the rounding model contains exact arithmetic -/
theorem LUComputed.of_exact {m n : Nat} {A L U : Nat → Nat → F}
    (hLd : ∀ i < n, L i i = 1) (hLu : ∀ i t, i < t → L i t = 0) (hUl : ∀ t j, j < t → U t j = 0)
    (hUd : ∀ k < n, U k k ≠ 0) (hA : ∀ i j, j < n → A i j = ∑ t ∈ range n, L i t * U t j) :
    LUComputed (0 : F) m n 1 A L U where
  L_diag := hLd
  L_upper := hLu
  U_lower := hUl
  U_entry := by
    intro k j hkj hj
    have hk := Nat.lt_of_le_of_lt hkj hj
    have e : A k j - ∑ t ∈ range k, L k t * U t j = U k j := by
      rw [hA k j hj, sum_range_trunc (fun t => L k t * U t j) (Nat.succ_le_of_lt hk)
          (fun t h1 _ => by rw [hLu k t h1, zero_mul]),
        Finset.sum_range_succ, hLd k hk, one_mul, add_sub_cancel_left]
    exact dot_left (FlModel.exact F) _ _ ⟨rfl, by rw [leftEval_exact, dotSum_range, e]⟩
  L_entry := by
    intro i k hki _ hk
    have e : (A i k - ∑ t ∈ range k, L i t * U t k) / U k k = L i k := by
      rw [hA i k hk, sum_range_trunc (fun t => L i t * U t k) (Nat.succ_le_of_lt hk)
          (fun t h1 _ => by rw [hUl t k h1, mul_zero]),
        Finset.sum_range_succ, add_sub_cancel_left, mul_div_cancel_right₀ _ (hUd k hk)]
    exact ⟨.div, le_rfl, dot_left (FlModel.exact F) _ _
      ⟨hUd k hk, Rnd.zero_iff.mpr (by rw [leftEval_exact, dotSum_range, e])⟩⟩

/-- conversely, with `u = 0` the bound collapses to the exact identity (`luFactor_identity` of C02) -/
theorem LUComputed.exact_identity {m n q : Nat} {A L U : Nat → Nat → F}
    (h : LUComputed (0 : F) m n q A L U) (i : Nat) (hi : i < m) (j : Nat) (hj : j < n) :
    A i j = ∑ t ∈ range n, L i t * U t j := by
  have := lu_backward_error (Small.zero _) h (Nat.le_succ (n + q)) i hi j hj
  rw [gamma_u_zero, zero_mul] at this
  exact sub_eq_zero.mp (abs_nonpos_iff.mp this)

theorem LUComputed.mono {u u' : F} (h : u ≤ u') {m n q : Nat} {A L U : Nat → Nat → F}
    (hLU : LUComputed u m n q A L U) : LUComputed u' m n q A L U where
  L_diag := hLU.L_diag
  L_upper := hLU.L_upper
  U_lower := hLU.U_lower
  U_entry := fun k j hkj hj => (hLU.U_entry k j hkj hj).mono h
  L_entry := fun i k hki hi hk => by
    obtain ⟨f, hf, hd⟩ := hLU.L_entry i k hki hi hk
    exact ⟨f, hf, hd.mono h⟩

theorem LowerSolved.mono {u u' : F} (h : u ≤ u') {n q : Nat} {T : Nat → Nat → F} {b y : Nat → F}
    (hs : LowerSolved u n q T b y) : LowerSolved u' n q T b y := fun i hi => by
  obtain ⟨f, hf, hd⟩ := hs i hi
  exact ⟨f, hf, hd.mono h⟩

theorem UpperSolved.mono {u u' : F} (h : u ≤ u') {n q : Nat} {T : Nat → Nat → F} {y x : Nat → F}
    (hs : UpperSolved u n q T y x) : UpperSolved u' n q T y x := fun i hi => by
  obtain ⟨f, hf, hd⟩ := hs i hi
  exact ⟨f, hf, hd.mono h⟩

/-- with `u = 0` the solve bound collapses to `A x = b` (the exact theorem `gstrsN_solves` of C01) -/
theorem lu_solve_exact {n qL qU : Nat} {A L U : Nat → Nat → F} {b y x : Nat → F}
    (hLU : LUComputed (0 : F) n n qL A L U) (hy : LowerSolved (0 : F) n 0 L b y)
    (hx : UpperSolved (0 : F) n qU U y x) (i : Nat) (hi : i < n) :
    ∑ j ∈ range n, A i j * x j = b i := by
  have := lu_solve_backward_error (Small.zero _) hLU hy hx (Nat.le_add_right (3 * n + qL + qU) 3) i hi
  rw [gamma_u_zero, zero_mul] at this
  exact (sub_eq_zero.mp (abs_nonpos_iff.mp this)).symm

end Slu.Rounding
