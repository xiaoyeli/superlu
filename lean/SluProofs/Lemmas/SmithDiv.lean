import SluProofs.Lemmas.CxRat
import SluProofs.Lemmas.RatBasic
import Mathlib.Tactic.FieldSimp
import Mathlib.Tactic.Linarith
/- The division the executable model performs on complex data (Smith's algorithm, mirroring z_div) versus the field division used by the theorems. -/
namespace Slu.Cx
open Slu

theorem smithDiv_unfold (a b : Cx Rat) : smithDiv a b =
    if rabs b.re ≤ rabs b.im then
      ⟨(a.re * (b.re / b.im) + a.im) / (b.im * (1 + (b.re / b.im) * (b.re / b.im))),
       (a.im * (b.re / b.im) - a.re) / (b.im * (1 + (b.re / b.im) * (b.re / b.im)))⟩
    else
      ⟨(a.re + a.im * (b.im / b.re)) / (b.re * (1 + (b.im / b.re) * (b.im / b.re))),
       (a.im - a.re * (b.im / b.re)) / (b.re * (1 + (b.im / b.re) * (b.im / b.re)))⟩ := rfl

/-- one component of Smith's quotient: scaling numerator and denominator by `q` gives the textbook formula -/
theorem smith_scaled (p t s q : Rat) (hq : q ≠ 0) :
    (p * (s / q) + t) / (q * (1 + (s / q) * (s / q))) = (p * s + t * q) / (s * s + q * q) := by
  have hs : s * s + q * q ≠ 0 := by
    have := mul_self_nonneg s; have := mul_self_pos.mpr hq; linarith
  field_simp
  ring

/-- Smith's algorithm (`z_div`: the division executed by the model and by the C code) is the exact
quotient of the Gaussian rationals whenever the divisor is nonzero.  Written without `/`: on `Cx Rat`
that is `smithDiv` under Slu/Model/Cx.lean alone and `a * b⁻¹` (`div_def`) once Slu/Model/CxRat.lean is
imported, as here (the instance declared later is found first). -/
theorem smithDiv_eq (a b : Cx Rat) (hb : b ≠ 0) : smithDiv a b = a * b⁻¹ := by
  rw [smithDiv_unfold]
  by_cases hle : rabs b.re ≤ rabs b.im
  · have him : b.im ≠ 0 := fun h0 => hb (ext' (by rw [h0] at hle; exact (by simpa using hle : b.re = 0)) h0)
    rw [if_pos hle]
    apply ext' <;> simp only [mul_def, inv_def]
    · rw [smith_scaled _ _ _ _ him]; ring
    · rw [sub_eq_add_neg, smith_scaled _ _ _ _ him]; ring
  · have hre : b.re ≠ 0 := fun h0 => hle (by rw [h0]; simp)
    rw [if_neg hle]
    apply ext' <;> simp only [mul_def, inv_def]
    · rw [add_comm a.re, smith_scaled _ _ _ _ hre]; ring
    · rw [sub_eq_add_neg, add_comm a.im, ← neg_mul, smith_scaled _ _ _ _ hre]; ring
end Slu.Cx
