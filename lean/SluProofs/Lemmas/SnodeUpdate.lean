import SluProofs.Lemmas.ElimOrder
/-
The supernodal block update of [sdcz]column_bmod / panel_bmod equals the column-by-column
elimination `Slu.LU.elim`, in exact arithmetic.

For one supernode with columns `(p_1,l_1),…,(p_s,l_s)` the real code
  1. gathers the U-segment `w[p_1..p_s]` and solves the dense unit lower triangular system
     `u_t = w[p_t] − Σ_{r<t} l_r(p_t) · u_r`            ([sdcz]trsv / [sdcz]lsolve)   — `snodeSolve`
  2. updates the rows below by a dense matrix-vector product
     `w'[i] = w[i] − Σ_t l_t(i) · u_t`                  ([sdcz]gemv / [sdcz]matvec)   — `snodeGemv`
  3. stores the `u_t` as the U-segment; the pivot rows `p_t` of the work vector are reset to 0
     when the segment is copied out (copy_to_ucol).
`snodeBlock` is step 1 followed by steps 2 and 3 in ONE pass over the rows (the update where the row is no pivot row of the
supernode, 0 where it is); it gives exactly `elim cols w`, vector and multipliers (`snodeBlock_eq_elim`).  `snodeGemv` is
step 2 alone, on every row; with the multipliers of `elim` it leaves the vector of `elim` (`snodeGemv_eq_elim`).
-/
namespace Slu.LU
open Slu List

variable {K : Type} [Field K]

/-- forward substitution with the dense unit lower triangular block of the supernode:
`done` holds the columns already solved together with their solution component -/
def snodeSolveAux (w : Vec K) : List (Nat × Vec K) → List (Vec K × K) → List K
  | [], _ => []
  | (p, l) :: rest, done =>
    let u := w.get p - (done.map fun d => d.1.get p * d.2).sum
    u :: snodeSolveAux w rest (done ++ [(l, u)])

def snodeSolve (cols : List (Nat × Vec K)) (w : Vec K) : List K := snodeSolveAux w cols []

def snodeGemv (cols : List (Nat × Vec K)) (us : List K) (w : Vec K) : Vec K :=
  w.mapIdx fun i x => x - dotL us cols i

def snodeBlock (cols : List (Nat × Vec K)) (w : Vec K) : Vec K × List K :=
  let us := snodeSolve cols w
  (w.mapIdx fun i x => if cols.any (fun pl => pl.1 == i) then 0 else x - dotL us cols i, us)

theorem snodeSolveAux_eq (w w' : Vec K) (rest : List (Nat × Vec K)) (done : List (Vec K × K))
    (hsz : w'.size = w.size) (hr : ∀ x ∈ rest, x.1 < w.size)
    (hinv : ∀ x ∈ rest, w'.get x.1 = w.get x.1 - (done.map fun d => d.1.get x.1 * d.2).sum) :
    snodeSolveAux w rest done = (elim rest w').2 := by
  induction rest generalizing w' done with
  | nil => simp [snodeSolveAux, elim]
  | cons x rest ih =>
    obtain ⟨p, l⟩ := x
    have hu : w.get p - (done.map fun d => d.1.get p * d.2).sum = w'.get p := (hinv (p, l) mem_cons_self).symm
    simp only [snodeSolveAux, elim]
    rw [hu]
    congr 1
    apply ih _ _ (by simpa using hsz) (fun x hx => hr x (mem_cons_of_mem _ hx))
    intro x hx
    have hx' : x.1 < w'.size := by rw [hsz]; exact hr x (mem_cons_of_mem _ hx)
    rw [axpy_get _ _ _ _ hx', hinv x (mem_cons_of_mem _ hx)]
    simp only [map_append, map_cons, map_nil, sum_append, sum_cons, sum_nil]
    ring

theorem snodeSolve_eq_elim (cols : List (Nat × Vec K)) (w : Vec K) (hr : ∀ x ∈ cols, x.1 < w.size) :
    snodeSolve cols w = (elim cols w).2 :=
  snodeSolveAux_eq w w cols [] rfl hr (by simp)

theorem snodeGemv_get (cols : List (Nat × Vec K)) (us : List K) (w : Vec K) (i : Nat) (hi : i < w.size) :
    (snodeGemv cols us w).get i = w.get i - dotL us cols i :=
  mapIdx_get w _ i hi

theorem snodeGemv_eq_elim (cols : List (Nat × Vec K)) (w : Vec K) :
    snodeGemv cols (elim cols w).2 w = (elim cols w).1 := by
  apply vec_ext_get _ _ (by simp [snodeGemv, elim_size])
  intro i hi
  rw [elim_size] at hi
  rw [snodeGemv_get _ _ _ _ hi, elim_spec cols w i hi]
  ring

theorem snodeBlock_eq_elim (cols : List (Nat × Vec K)) (w : Vec K) (hU : UnitLower cols)
    (hr : ∀ x ∈ cols, x.1 < w.size) : snodeBlock cols w = elim cols w := by
  have hus := snodeSolve_eq_elim cols w hr
  apply Prod.ext
  · simp only [snodeBlock, hus]
    apply vec_ext_get _ _ (by rw [elim_size]; simp)
    intro i hi
    rw [elim_size] at hi
    have hz := elim_at_pivot cols w hU
    by_cases hany : cols.any (fun pl => pl.1 == i) = true
    · obtain ⟨x, hx, hxi⟩ := any_eq_true.mp hany
      have : x.1 = i := by simpa using hxi
      rw [mapIdx_get _ _ _ hi, if_pos hany, ← this, hz x hx]
    · rw [mapIdx_get _ _ _ hi, if_neg hany, elim_spec cols w i hi]
      ring
  · exact hus

def elimBlocks : List (List (Nat × Vec K)) → Vec K → Vec K × List K
  | [], w => (w, [])
  | b :: bs, w =>
    let r := snodeBlock b w
    let s := elimBlocks bs r.1
    (s.1, r.2 ++ s.2)

theorem elimBlocks_eq_elim (bs : List (List (Nat × Vec K))) (w : Vec K)
    (hU : ∀ b ∈ bs, UnitLower b) (hr : ∀ b ∈ bs, ∀ x ∈ b, x.1 < w.size) :
    elimBlocks bs w = elim bs.flatten w := by
  induction bs generalizing w with
  | nil => simp [elimBlocks, elim]
  | cons b bs ih =>
    have hb := snodeBlock_eq_elim b w (hU b mem_cons_self) (hr b mem_cons_self)
    simp only [elimBlocks, flatten_cons, elim_append, hb]
    rw [ih _ (fun c hc => hU c (mem_cons_of_mem _ hc))
      (fun c hc x hx => by rw [elim_size]; exact hr c (mem_cons_of_mem _ hc) x hx)]

/-- `elim_schedule` and `multAt_schedule` for a schedule given as a sequence of supernodes `bs`; the hypothesis on the
order is that it respects the dependencies among the visited columns (a topological order, e.g. the reverse postorder of
the depth-first search). -/
theorem elimBlocks_schedule (keep : Nat × Vec K → Bool) (Ls : List (Nat × Vec K))
    (bs : List (List (Nat × Vec K))) (w : Vec K)
    (hU : UnitLower Ls) (hr : ∀ x ∈ Ls, x.1 < w.size)
    (hp : bs.flatten.Perm (Ls.filter keep)) (hd : DepRespecting (Ls.filter keep) bs.flatten)
    (h : ∀ e ∈ Ls.zip (elim Ls w).2, keep e.1 = false → e.2 = 0) :
    (elimBlocks bs w).1 = (elim Ls w).1 ∧
    ∀ k (hk : k < Ls.length), multAt bs.flatten (elimBlocks bs w).2 (Ls[k]).1 = (elim Ls w).2.getD k 0 := by
  have hUσ := unitLower_of_depRespecting _ _ (hU.sublist filter_sublist) hp hd
  have he : elimBlocks bs w = elim bs.flatten w :=
    elimBlocks_eq_elim bs w (fun b hb => hUσ.sublist (sublist_flatten_of_mem hb))
      (fun b hb x hx => hr x (mem_filter.mp (hp.subset ((sublist_flatten_of_mem hb).subset hx))).1)
  rw [he]
  exact ⟨(elim_schedule keep Ls _ w hU hUσ hp h).1, fun k hk =>
    (multAt_schedule keep Ls _ w hU hUσ hp h _).trans (multAt_elim Ls w hU.nodup_pivots k hk)⟩

end Slu.LU
