import SluProofs.Lemmas.ArrayBasic
import SluProofs.Lemmas.Kernels
import SluProofs.Lemmas.LUInv
import SluProofs.Lemmas.SumBasic
import Mathlib.Algebra.BigOperators.Group.Finset.Sigma
import Mathlib.Algebra.BigOperators.Ring.Finset
import Mathlib.Algebra.BigOperators.Intervals
/-
Triangular systems (`Slu.LU.triBack`, which is the dense back substitution `Slu.Kernels.bwdSub` with the divisor read off
the diagonal, and of which `backSub` is the instance that reads a matrix stored by columns) and the permuted solve `gstrsN`.
-/
namespace Slu.LU
open Slu Finset

theorem sum_triangle {M : Type} [AddCommMonoid M] (n : Nat) (F : Nat → Nat → M) :
    ∑ j ∈ range n, ∑ k ∈ range (j + 1), F j k = ∑ k ∈ range n, ∑ j ∈ Ico k n, F j k := by
  apply Finset.sum_comm'
  intro j k
  simp only [mem_range, mem_Ico]
  omega

variable {K : Type} [Field K]

theorem triBack_eq_bwdSub (M : Nat → Nat → K) (y : Nat → K) (n k : Nat) :
    triBack M y n k = Kernels.bwdSub M (fun i => M i i) y n k := by
  induction k with
  | zero => rfl
  | succ k ih => simp only [triBack, Kernels.bwdSub, ih, foldl_sub_range, Kernels.sumTo_eq_sum]

theorem triBack_length (M : Nat → Nat → K) (y : Nat → K) (n k : Nat) : (triBack M y n k).length = k :=
  triBack_eq_bwdSub M y n k ▸ Kernels.bwdSub_length ..

theorem triBack_solves (M : Nat → Nat → K) (y : Nat → K) (n : Nat) (hd : ∀ j < n, M j j ≠ 0) (j : Nat) (hj : j < n) :
    ∑ j' ∈ Ico j n, M j j' * (triBack M y n n).getD j' 0 = y j := by
  rw [triBack_eq_bwdSub, Finset.sum_eq_sum_Ico_succ_bot hj]
  exact Kernels.bwdSub_row M (fun i => M i i) y n j hj (hd j hj)

/-- a LOWER triangular system `Σ_{k' ≤ k} N k k' t_k' = c k` is solved by `triBack` on reversed indices -/
theorem triBack_rev_solves (N : Nat → Nat → K) (c : Nat → K) (n : Nat) (hd : ∀ k < n, N k k ≠ 0)
    (k : Nat) (hk : k < n) :
    ∑ k' ∈ range (k + 1), N k k' *
      (triBack (fun a a' => N (n - 1 - a) (n - 1 - a')) (fun a => c (n - 1 - a)) n n).getD (n - 1 - k') 0 = c k := by
  have h := triBack_solves (fun a a' => N (n - 1 - a) (n - 1 - a')) (fun a => c (n - 1 - a)) n
    (fun a ha => hd _ (by omega)) (n - 1 - k) (by omega)
  rw [show n - 1 - (n - 1 - k) = k by omega] at h
  rw [← h]
  -- `k' ↦ n - 1 - k'` carries `0..k` onto `n-1-k .. n-1`
  refine Finset.sum_nbij' (fun k' => n - 1 - k') (fun j' => n - 1 - j') ?_ ?_ ?_ ?_ ?_ <;>
    simp only [mem_range, mem_Ico] <;> intro a ha
  · omega
  · omega
  · omega
  · omega
  · rw [show n - 1 - (n - 1 - a) = a by omega]

/-- a system whose matrix is 1 on the diagonal and 0 below it is solved by `triBack` on the matrix with
the diagonal forced to 1 (the form in which `gstrsT` reads the unit lower `L`) -/
theorem triBack_unit_solves (N : Nat → Nat → K) (y : Nat → K) (n : Nat) (k : Nat) (hk : k < n)
    (h1 : N k k = 1) (h0 : ∀ k' < k, N k k' = 0) :
    ∑ k' ∈ range n, N k k' * (triBack (fun a a' => if a = a' then 1 else N a a') y n n).getD k' 0 = y k := by
  rw [← triBack_solves (fun a a' => if a = a' then 1 else N a a') y n (fun j _ => by simp) k hk,
    ← Finset.sum_subset (s₁ := Ico k n) (s₂ := range n)]
  · refine Finset.sum_congr rfl (fun k' _ => ?_)
    by_cases e : k = k'
    · rw [if_pos e, ← e, h1]
    · rw [if_neg e]
  · intro a ha; simp only [mem_range, mem_Ico] at ha ⊢; omega
  · intro k' hk' hnot
    simp only [mem_range, mem_Ico] at hk' hnot
    rw [h0 k' (by omega), zero_mul]

theorem backSub_eq_triBack (U : Array (Array K)) (y : Array K) (n k : Nat) :
    backSub U y n k = triBack (fun j j' => (U.getD j' #[]).getD j 0) (fun j => y.getD j 0) n k := by
  induction k with
  | zero => rfl
  | succ k ih => simp only [backSub, triBack, ih]

theorem gstrsN_get (piv : Array Nat) (L : Array (Vec K)) (U : Array (Array K)) (permC : Array Nat) (b : Vec K)
    (c : Nat) (hc : c < permC.size) :
    (gstrsN piv L U permC b).get c =
      (triBack (fun j j' => (U.getD j' #[]).getD j 0)
        (fun k => (elim ((List.range piv.size).map fun k => (piv.getD k 0, L.getD k #[])) b).2.getD k 0)
        U.size U.size).getD (permC.getD c 0) 0 := by
  simp only [gstrsN, backSolve, Vec.get, getD_map_arrayRange _ _ _ hc, toArray_getD, backSub_eq_triBack]

variable [Mag K Rat]

/-- **The permuted solve is correct (exact arithmetic, square case)**: `x = gstrsN piv L U permC b` satisfies `A x = b`
row by row, where column `c` of A is column `permC[c]` of the factored matrix `A*Pc`. -/
theorem gstrsN_solves (P : Params K Rat) (st : St K) (hsq : P.m = P.n) (inv : Inv P st P.n)
    (hcol : ∀ j, (P.col j).size = P.m)
    (permC : Array Nat) (hpc : permC.size = P.n)
    (hperm : ((List.range P.n).map fun c => permC.getD c 0).Perm (List.range P.n))
    (b : Vec K) (hb : b.size = P.m) (i : Nat) (hi : i < P.m) :
    ∑ c ∈ range P.n, (P.col (permC.getD c 0)).get i * (gstrsN st.piv st.L st.U permC b).get c = b.get i := by
  obtain ⟨hs1, _, hs3⟩ := inv.sizes
  -- `y`: the multipliers of `b`; `z`: the solution of `U z = y`; `x_c = z (permC c)`
  set y : Nat → K := fun k => (elim (prev st P.n) b).2.getD k 0 with hy
  set z : Nat → K := fun j => (triBack (fun j j' => (st.U.getD j' #[]).getD j 0) y P.n P.n).getD j 0 with hz
  have hx : ∀ c < P.n, (gstrsN st.piv st.L st.U permC b).get c = z (permC.getD c 0) := by
    intro c hc
    rw [gstrsN_get _ _ _ _ _ c (hpc ▸ hc), hs1, hs3]
    rfl
  have hbs : ∀ k < P.n, ∑ j ∈ Ico k P.n, (st.U.getD j #[]).getD k 0 * z j = y k :=
    fun k hk => triBack_solves (fun j j' => (st.U.getD j' #[]).getD j 0) y P.n (fun j hj => inv.udiag j hj) k hk
  -- `b = Σ_k y_k L_k`: nothing is left of `b`, every row of a square matrix being a pivot row
  have hfw : b.get i = ∑ k ∈ range P.n, y k * (st.L.getD k #[]).get i := by
    obtain ⟨k, hk, hki⟩ := (hsq ▸ inv.core).piv_perm.surj (hsq ▸ hi)
    rw [elim_spec (prev st P.n) b i (hb ▸ hi), dotL_prev _ _ P.n i (by rw [elim_length, prev_length]), list_sum_range,
      ← hki, inv.core.elim_zero b k hk, add_zero]
  rw [sum_congr rfl (fun c hc => by rw [hx c (mem_range.mp hc)]),
    (PermFn.of_perm hperm).sum (fun j => (P.col j).get i * z j), hfw]
  -- `A z = (L U) z = L (U z) = L y`
  calc ∑ j ∈ range P.n, (P.col j).get i * z j
      = ∑ j ∈ range P.n, ∑ k ∈ range (j + 1), ((st.U.getD j #[]).getD k 0 * (st.L.getD k #[]).get i) * z j := by
        refine sum_congr rfl (fun j hj => ?_)
        rw [← inv.core.identity_sum j (mem_range.mp hj) i hi, Finset.sum_mul]
    _ = ∑ k ∈ range P.n, ∑ j ∈ Ico k P.n, ((st.U.getD j #[]).getD k 0 * (st.L.getD k #[]).get i) * z j :=
        sum_triangle P.n _
    _ = ∑ k ∈ range P.n, y k * (st.L.getD k #[]).get i := by
        refine sum_congr rfl (fun k hk => ?_)
        rw [← hbs k (mem_range.mp hk), Finset.sum_mul]
        exact sum_congr rfl (fun j _ => by ring)

end Slu.LU
