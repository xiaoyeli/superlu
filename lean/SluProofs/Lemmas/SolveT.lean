import SluProofs.Lemmas.Solve
import Mathlib.Algebra.Ring.Hom.Defs
import Mathlib.Algebra.GroupWithZero.Units.Lemmas
/-
The transposed solve `gstrsT`: two triangular systems on reversed / pivot-ordered indices.
-/
namespace Slu.LU
open Slu Finset

theorem gstrsT_size {K : Type} [Field K] (f : K → K) (piv : Array Nat) (L : Array (Vec K)) (U : Array (Array K))
    (permC : Array Nat) (b : Vec K) : (gstrsT f piv L U permC b).size = piv.size := by
  unfold gstrsT
  simp only [Array.size_map, Array.size_range]

variable {K : Type} [Field K] [Mag K Rat]

/-- **The transposed / conjugate-transposed solve is correct (exact arithmetic, square case)**: for a ring homomorphism
`f` (the identity for TRANS, conjugation for CONJ), `x = gstrsT f piv L U permC b` satisfies `op(A)ᵀ x = b` column by
column, where column `c` of A is column `permC[c]` of the factored matrix `A*Pc`. -/
theorem gstrsT_solves (f : K →+* K) (P : Params K Rat) (st : St K) (hsq : P.m = P.n) (inv : Inv P st P.n)
    (permC : Array Nat)
    (hperm : ((List.range P.n).map fun c => permC.getD c 0).Perm (List.range P.n))
    (b : Vec K) (c : Nat) (hc : c < P.n) :
    ∑ i ∈ range P.m, f ((P.col (permC.getD c 0)).get i) * (gstrsT f st.piv st.L st.U permC b).get i = b.get c := by
  obtain ⟨hs1, _, _⟩ := inv.sizes
  rw [hsq]
  set n := P.n with hn
  let piv : Nat → Nat := fun k => st.piv.getD k 0
  let Lf : Nat → Nat → K := fun k i => (st.L.getD k #[]).get i
  let Uf : Nat → Nat → K := fun j k => (st.U.getD j #[]).getD k 0
  let cp : Nat → K := fun j => b.get (((List.range n).find? fun c => permC.getD c 0 = j).getD 0)
  let M1 : Nat → Nat → K := fun a a' => f (Uf (n - 1 - a) (n - 1 - a'))
  let zs := triBack M1 (fun a => cp (n - 1 - a)) n n
  let t : Nat → K := fun k => zs.getD (n - 1 - k) 0
  let M2 : Nat → Nat → K := fun k k' => if k = k' then 1 else f (Lf k (piv k'))
  let xi := triBack M2 t n n
  have hpc : PermFn n fun c => permC.getD c 0 := PermFn.of_perm hperm
  have hpv : PermFn n piv := (hsq ▸ inv.core).piv_perm
  have hjn : permC.getD c 0 < n := hpc.lt c hc
  -- the permuted right-hand side: `c'[perm_c[c]] = b[c]`
  have hcp : cp (permC.getD c 0) = b.get c := by
    show b.get _ = b.get c
    rw [hpc.find_inv hc]
  -- the scatter by pivot rows: `x[piv k] = ξ_k`
  have hxpiv : ∀ k < n, (gstrsT f st.piv st.L st.U permC b).get (piv k) = xi.getD k 0 := by
    intro k hk
    simp only [gstrsT, Vec.get, hs1, getD_map_arrayRange _ _ _ (hpv.lt k hk)]
    exact congrArg (xi.getD · 0) (hpv.find_inv hk)
  -- `op(U)ᵀ t = c'`, a lower triangular system
  have hU : ∀ k < n, ∑ k' ∈ range (k + 1), f (Uf k k') * t k' = cp k := fun k hk =>
    triBack_rev_solves (fun k k' => f (Uf k k')) cp n (fun j hj => (map_ne_zero f).mpr (inv.udiag j hj)) k hk
  -- `op(L)ᵀ ξ = t` in pivot order: `L_k(piv k') = 0` for `k' < k`, `= 1` for `k' = k`
  have hL : ∀ k < n, ∑ k' ∈ range n, f (Lf k (piv k')) * xi.getD k' 0 = t k := fun k hk =>
    triBack_unit_solves (fun k k' => f (Lf k (piv k'))) t n k hk
      (by show f ((st.L.getD k #[]).get (piv k)) = 1; rw [(inv.core.unit_get k hk).1, map_one])
      (fun k' hk' => by show f ((st.L.getD k #[]).get (piv k')) = 0; rw [(inv.core.unit_get k hk).2 k' hk', map_zero])
  -- `op(A)ᵀ x = op(U)ᵀ op(L)ᵀ ξ = op(U)ᵀ t = c'`
  set j := permC.getD c 0 with hj
  rw [← hcp, ← hU j hjn, ← hpv.sum]
  calc ∑ k' ∈ range n, f ((P.col j).get (piv k')) * (gstrsT f st.piv st.L st.U permC b).get (piv k')
      = ∑ k' ∈ range n, ∑ k ∈ range (j + 1), f (Uf j k) * (f (Lf k (piv k')) * xi.getD k' 0) := by
        refine Finset.sum_congr rfl (fun k' hk' => ?_)
        rw [hxpiv k' (mem_range.mp hk'), ← inv.core.identity_sum j hjn (piv k') (inv.prange k' (mem_range.mp hk')),
          map_sum, Finset.sum_mul]
        exact Finset.sum_congr rfl (fun k _ => by rw [map_mul, mul_assoc])
    _ = ∑ k ∈ range (j + 1), ∑ k' ∈ range n, f (Uf j k) * (f (Lf k (piv k')) * xi.getD k' 0) := Finset.sum_comm
    _ = ∑ k ∈ range (j + 1), f (Uf j k) * t k := by
        refine Finset.sum_congr rfl (fun k hk => ?_)
        simp only [mem_range] at hk
        rw [← Finset.mul_sum, hL k (by omega)]
end Slu.LU
