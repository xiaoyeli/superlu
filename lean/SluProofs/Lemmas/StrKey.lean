/-
Strings compared by an injective `Nat` name, for kernel evaluations over tables of strings.  Core Lean only.
-/
namespace Slu

/-- a list of bytes as the digits, lowest first, of a number in base 256 under a leading 1 -/
def digits : List UInt8 → Nat
  | [] => 1
  | b :: l => digits l * 256 + b.toNat

/-- The kernel has no shortcut for `String`: it re-reads a literal through the list of its UTF-8 bytes at every comparison,
while two `Nat` literals are compared in one step.  A table evaluated by the kernel is therefore compared by `key`
(`beq_key`, `contains_key`); the first reading of each distinct literal in a declaration is not saved. -/
def key (s : String) : Nat := digits s.toByteArray.data.toList

theorem digits_pos : ∀ l : List UInt8, 1 ≤ digits l
  | [] => Nat.le_refl 1
  | b :: l => by
    have := digits_pos l
    simp only [digits]
    omega

theorem digits_inj : ∀ l m : List UInt8, digits l = digits m → l = m
  | [], [], _ => rfl
  | [], c :: m, h => by
    have := digits_pos m
    simp only [digits] at h
    omega
  | b :: l, [], h => by
    have := digits_pos l
    simp only [digits] at h
    omega
  | b :: l, c :: m, h => by
    simp only [digits] at h
    have hb := b.toNat_lt
    have hc := c.toNat_lt
    rw [digits_inj l m (by omega), UInt8.toNat_inj.1 (by omega : b.toNat = c.toNat)]

theorem key_inj {s t : String} (h : key s = key t) : s = t :=
  String.toByteArray_inj.1 (ByteArray.ext (Array.ext' (digits_inj _ _ h)))

theorem beq_key (s t : String) : (s == t) = (key s == key t) := by
  by_cases h : s = t
  · rw [h, beq_self_eq_true, beq_self_eq_true]
  · rw [beq_false_of_ne h, beq_false_of_ne fun hk => h (key_inj hk)]

theorem contains_key (xs : List String) (s : String) : xs.contains s = (xs.map key).contains (key s) := by
  induction xs with
  | nil => rfl
  | cons x xs ih => rw [List.map_cons, List.contains_cons, List.contains_cons, ← beq_key, ih]

end Slu
