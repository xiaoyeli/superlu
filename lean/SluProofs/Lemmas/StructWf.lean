import Slu.Model.Struct
import Mathlib.Data.List.Nodup
/-
C03 — the structural checker `Slu.Struct.wfb` clause by clause.  `WF` states the clauses of the property with
quantifiers, `WFsize` the rest of what the checker tests (array sizes, pointer arrays starting at 0, row lists at least as
long as their supernode is wide); `wfb_iff` takes the Boolean conjunction apart for everything that is handed a
checked structure (`toFac_wfb` of Lemmas/SymbPack.lean, which has to establish the conjunction, splits it itself).
-/
namespace Slu.Struct
open Slu

theorem nodup_iff : ∀ l : List Nat, nodup l = true ↔ l.Nodup
  | [] => by simp [nodup]
  | x :: xs => by simp [nodup, nodup_iff xs]

theorem wfb_of_n_zero {K : Type} (F : LUFac K) (ilu : Bool) (h : F.L.n = 0) : wfb F ilu = true := by
  simp only [wfb, h, decide_true, Bool.true_or]

variable {K : Type} [Inhabited K]

structure WF (F : LUFac K) (ilu : Bool) : Prop where
  /-- supernodes partition the columns into consecutive non-empty ranges -/
  first : F.L.xsup[0]! = 0
  last : F.L.xsup[F.L.nsuper + 1]! = F.L.n
  nonempty : ∀ s < F.L.nsuper + 1, F.L.xsup[s]! < F.L.xsup[s+1]!
  col_to_sup : ∀ s < F.L.nsuper + 1, ∀ c < F.L.xsup[s+1]! - F.L.xsup[s]!, F.L.supno[F.L.xsup[s]! + c]! = s
  /-- pointer arrays are monotone -/
  mono : ∀ j < F.L.n, F.L.xlsub[j]! ≤ F.L.xlsub[j+1]! ∧ F.L.xlusup[j]! ≤ F.L.xlusup[j+1]! ∧ F.U.colptr[j]! ≤ F.U.colptr[j+1]!
  /-- the value/index arrays have exactly the implied lengths -/
  lengths : F.L.lsub.size = F.L.xlsub[F.L.n]! ∧ F.L.lusup.size = F.L.xlusup[F.L.n]! ∧
            F.U.rowind.size = F.U.colptr[F.L.n]! ∧ F.U.val.size = F.U.colptr[F.L.n]!
  /-- one row list per supernode: all its columns share it -/
  shared : ∀ s < F.L.nsuper + 1, ∀ k < (F.L.xsup[s+1]! - 1 - F.L.xsup[s]! + 1) - 1,
            F.L.xlsub[F.L.xsup[s]! + 1 + k]! = F.L.xlsub[F.L.xsup[s]! + 1]!
  /-- leading entries are the supernode's own columns in order -/
  leading : ∀ s < F.L.nsuper + 1, ∀ c < F.L.xsup[s+1]! - 1 - F.L.xsup[s]! + 1, (rowsOf F.L s)[c]! = F.L.xsup[s]! + c
  /-- remaining entries are distinct rows below the supernode, in range -/
  trailing : ∀ s < F.L.nsuper + 1, ∀ r ∈ (rowsOf F.L s).drop (F.L.xsup[s+1]! - 1 - F.L.xsup[s]! + 1),
            F.L.xsup[s+1]! - 1 < r ∧ r < F.L.m
  trailing_nodup : ∀ s < F.L.nsuper + 1, ((rowsOf F.L s).drop (F.L.xsup[s+1]! - 1 - F.L.xsup[s]! + 1)).Nodup
  /-- each column of a supernode stores one value per row of the shared list -/
  slices : ∀ s < F.L.nsuper + 1, ∀ c < F.L.xsup[s+1]! - 1 - F.L.xsup[s]! + 1,
            F.L.xlusup[F.L.xsup[s]! + c + 1]! - F.L.xlusup[F.L.xsup[s]! + c]! = (rowsOf F.L s).length
  /-- U holds only rows strictly above each column's supernode, without repeats (unless ILU) -/
  u_above : ∀ j < F.L.n, ∀ r ∈ ucolRows F j, r < F.L.xsup[F.L.supno[j]!]!
  u_nodup : ilu = false → ∀ j < F.L.n, (ucolRows F j).Nodup
  /-- the stored nonzero counts equal the actual counts -/
  counts : F.nnzL = countnzL F.L ∧ F.nnzU = countnzU F

theorem ucolRows_eq (F : LUFac K) (j : Nat) : ucolRows F j = (F.U.col j).map Prod.fst := by
  unfold CSC.col ucolRows; rw [List.map_map]; rfl

structure WFsize (F : LUFac K) : Prop where
  xsup : F.L.nsuper + 1 + 1 ≤ F.L.xsup.size
  supno : F.L.n ≤ F.L.supno.size
  xlsub : F.L.n + 1 ≤ F.L.xlsub.size
  xlusup : F.L.n + 1 ≤ F.L.xlusup.size
  colptr : F.L.n + 1 ≤ F.U.colptr.size
  xlsub0 : F.L.xlsub[0]! = 0
  xlusup0 : F.L.xlusup[0]! = 0
  colptr0 : F.U.colptr[0]! = 0
  rows : ∀ s < F.L.nsuper + 1, F.L.xsup[s+1]! - 1 - F.L.xsup[s]! + 1 ≤ (rowsOf F.L s).length

/-- the width of a supernode as the checker writes it: `l - f + 1` with `l = xsup[s+1] - 1`, `f = xsup[s]` -/
theorem width_eq {f e : Nat} (h : f < e) : e - 1 - f + 1 = e - f := by
  rw [Nat.sub_right_comm, Nat.sub_add_cancel (Nat.sub_pos_of_lt h)]

omit [Inhabited K] in
theorem wfb_iff (F : LUFac K) (ilu : Bool) (hn : F.L.n ≠ 0) : wfb F ilu = true ↔ WFsize F ∧ WF F ilu := by
  unfold wfb
  simp only [hn, decide_false, Bool.false_or, Bool.and_eq_true, decide_eq_true_eq, List.all_eq_true,
    List.mem_range, Bool.or_eq_true, nodup_iff, and_assoc]
  -- the clauses of `wfb` in order: five sizes, h5 xsup[0], h6 xsup[ns], h7 ranges and supno, three pointers start at 0,
  -- h11 monotone, h12-h15 value-array lengths, h16 per supernode, h17 per U column, h18 h19 counts
  constructor
  · rintro ⟨s1, s2, s3, s4, s5, h5, h6, h7, z1, z2, z3, h11, h12, h13, h14, h15, h16, h17, h18, h19⟩
    exact ⟨⟨s1, s2, s3, s4, s5, z1, z2, z3, fun s hs => (h16 s hs).1⟩,
      ⟨h5, h6, fun s hs => (h7 s hs).1, fun s hs => (h7 s hs).2, h11, ⟨h12, h13, h14, h15⟩,
      fun s hs => (h16 s hs).2.1, fun s hs => (h16 s hs).2.2.1, fun s hs => (h16 s hs).2.2.2.1,
      fun s hs => (h16 s hs).2.2.2.2.1, fun s hs => (h16 s hs).2.2.2.2.2, fun j hj => (h17 j hj).1,
      fun hi j hj => (h17 j hj).2.resolve_left (by simp [hi]), ⟨h18, h19⟩⟩⟩
  · rintro ⟨z, w⟩
    exact ⟨z.xsup, z.supno, z.xlsub, z.xlusup, z.colptr, w.first, w.last, fun s hs => ⟨w.nonempty s hs, w.col_to_sup s hs⟩,
      z.xlsub0, z.xlusup0, z.colptr0, w.mono, w.lengths.1, w.lengths.2.1, w.lengths.2.2.1, w.lengths.2.2.2,
      fun s hs => ⟨z.rows s hs, w.shared s hs, w.leading s hs, w.trailing s hs, w.trailing_nodup s hs, w.slices s hs⟩,
      fun j hj => ⟨w.u_above j hj, by cases ilu <;> [exact Or.inr (w.u_nodup rfl j hj); exact Or.inl rfl]⟩, w.counts.1, w.counts.2⟩

end Slu.Struct
