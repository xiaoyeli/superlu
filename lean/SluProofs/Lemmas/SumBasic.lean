import Mathlib.Algebra.BigOperators.Group.Finset.Basic
import Mathlib.Algebra.BigOperators.Group.Finset.Piecewise
/-
The model accumulates with `List.foldl`; the specifications speak of `List.sum` and `Finset.sum`.  These are the
bridges, stated once for every additive structure that has them: a fold is a list sum, a list sum over `range n` is a
`Finset` sum, and "the items with key `i`", which some files write with a filter and others with `if … else 0`, are
one thing (`sum_map_ite_zero`) and can be grouped by key (`sum_keyed`).
-/
namespace Slu
open Finset

theorem foldl_add_eq_sum {α : Type*} {K : Type} [AddCommMonoid K] (l : List α) (g : α → K) (a : K) :
    l.foldl (fun acc e => acc + g e) a = a + (l.map g).sum := by
  induction l generalizing a with
  | nil => simp
  | cons e l ih => simp only [List.foldl_cons, List.map_cons, List.sum_cons]; rw [ih, add_assoc]

theorem foldl_sub_eq_sum {α : Type*} {K : Type} [AddCommGroup K] (l : List α) (g : α → K) (a : K) :
    l.foldl (fun acc e => acc - g e) a = a - (l.map g).sum := by
  induction l generalizing a with
  | nil => simp
  | cons e l ih => simp only [List.foldl_cons, List.map_cons, List.sum_cons]; rw [ih, sub_sub]

section keyed
variable {α M : Type} [AddCommMonoid M]

theorem foldl_ite_add (q : α → Prop) [DecidablePred q] (g : α → M) (L : List α) (v : M) :
    L.foldl (fun v b => if q b then v + g b else v) v = v + ((L.filter fun b => q b).map g).sum := by
  rw [← foldl_add_eq_sum, List.foldl_filter]
  simp only [decide_eq_true_eq]

theorem sum_map_ite_zero (l : List α) (p : α → Prop) [DecidablePred p] (g : α → M) :
    (l.map fun e => if p e then g e else 0).sum = ((l.filter fun e => p e).map g).sum := by
  induction l with
  | nil => rfl
  | cons a l ih =>
    rw [List.map_cons, List.sum_cons, ih, List.filter_cons]
    by_cases h : p a
    · simp [h]
    · simp [h]

end keyed

theorem list_sum_range {K : Type} [AddCommMonoid K] (n : Nat) (g : Nat → K) :
    ((List.range n).map g).sum = ∑ j ∈ range n, g j := by
  induction n with
  | zero => simp
  | succ n ih => rw [List.range_succ, List.map_append, List.sum_append, ih, Finset.sum_range_succ]; simp

theorem foldl_add_range {K : Type} [AddCommMonoid K] (n : Nat) (g : Nat → K) (a : K) :
    (List.range n).foldl (fun acc j => acc + g j) a = a + ∑ j ∈ range n, g j := by
  rw [foldl_add_eq_sum, list_sum_range]

theorem foldl_sub_range {K : Type} [AddCommGroup K] (n : Nat) (g : Nat → K) (a : K) :
    (List.range n).foldl (fun acc j => acc - g j) a = a - ∑ j ∈ range n, g j := by
  rw [foldl_sub_eq_sum, list_sum_range]

section range
variable {α M : Type} [AddCommMonoid M]

theorem sum_filter_range (n : Nat) (p : Nat → Prop) [DecidablePred p] (g : Nat → M) :
    (((List.range n).filter fun i => p i).map g).sum = ∑ i ∈ range n, if p i then g i else 0 := by
  rw [← sum_map_ite_zero, list_sum_range]

theorem list_sum_finset_sum {ι : Type} (l : List α) (s : Finset ι) (h : α → ι → M) :
    (l.map fun a => ∑ c ∈ s, h a c).sum = ∑ c ∈ s, (l.map fun a => h a c).sum := by
  simpa using Multiset.sum_map_sum (m := (l : Multiset α)) (s := s) (f := h)

/-- grouping a list sum by a key in `S`; items with a key outside `S` must contribute nothing -/
theorem sum_keyed {ι : Type} [DecidableEq ι] (l : List α) (key : α → ι) (S : Finset ι) (g : α → M)
    (h : ∀ e ∈ l, key e ∈ S ∨ g e = 0) :
    ∑ j ∈ S, (l.map fun e => if key e = j then g e else 0).sum = (l.map g).sum := by
  rw [← list_sum_finset_sum]
  refine congrArg List.sum (List.map_congr_left fun e he => ?_)
  rw [sum_ite_eq]
  split
  · rfl
  · next hc => exact ((h e he).resolve_left hc).symm

theorem sum_range_trunc (f : Nat → M) {k n : Nat} (hkn : k ≤ n) (h : ∀ t, k ≤ t → t < n → f t = 0) :
    ∑ t ∈ range n, f t = ∑ t ∈ range k, f t :=
  (sum_subset (range_subset_range.mpr hkn) fun t ht hk =>
    h t (Nat.le_of_not_lt fun hlt => hk (mem_range.mpr hlt)) (mem_range.mp ht)).symm

end range

end Slu
