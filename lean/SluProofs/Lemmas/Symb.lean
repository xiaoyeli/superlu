import Slu.Model.Symb
import SluProofs.Lemmas.ArrayBasic
import SluProofs.Lemmas.ListLayout
import Mathlib.Data.List.Nodup
import Mathlib.Data.List.Range
/-
C03 — what `Slu.Symb.symbNaive` predicts satisfies the clauses of the property for EVERY input (any column lists,
any `relax_end` function, any `maxsuper`): `symbNaive_wfOut`, on the lists of an `Out`; `symbNaive_rows_lt` for "rows `< m`".

The column loop is walked once: `Inv P Q` is its invariant for an arbitrary property `P` of supernodes
and `Q` of columns, `run_inv` establishes it from the two kinds of step, `Inv.out` reads it off the
predicted structure.  Lemmas/SymbContain.lean instantiates the same invariant for the containment proof.
-/
namespace Slu.Symb
open Slu Slu.Struct

theorem getElem!_mem_of_lt {α : Type} [Inhabited α] (l : List α) (i : Nat) (h : i < l.length) : l[i]! ∈ l := by
  rw [getElem!_pos l i h]; exact List.getElem_mem h

theorem getElem!_map_of_lt {α β : Type} [Inhabited α] [Inhabited β] (f : α → β) (l : List α) (i : Nat) (h : i < l.length) :
    (l.map f)[i]! = f l[i]! := by
  rw [getElem!_pos _ i (by rwa [List.length_map]), getElem!_pos l i h, List.getElem_map]

theorem getElem!_append_left {α : Type} [Inhabited α] (l₁ l₂ : List α) (i : Nat) (h : i < l₁.length) :
    (l₁ ++ l₂)[i]! = l₁[i]! := by
  rw [getElem!_pos _ i (by rw [List.length_append]; omega), getElem!_pos l₁ i h, List.getElem_append_left h]

theorem getElem!_append_right {α : Type} [Inhabited α] (l₁ l₂ : List α) (i : Nat) (h : l₁.length ≤ i) :
    (l₁ ++ l₂)[i]! = l₂[i - l₁.length]! := by
  rw [List.getElem!_eq_getElem?_getD, List.getElem?_append_right h, ← List.getElem!_eq_getElem?_getD]

theorem getElem!_reverse_append_lt {α : Type} [Inhabited α] (pre us : List α) (c : Nat) (h : c < us.length) :
    (pre ++ us).reverse[c]! = us.reverse[c]! := by
  rw [List.reverse_append, getElem!_append_left _ _ _ (by simpa using h)]

theorem getElem!_reverse_append_mem {α : Type} [Inhabited α] (pre us : List α) (c : Nat) (h1 : us.length ≤ c)
    (h2 : c < pre.length + us.length) : (pre ++ us).reverse[c]! ∈ pre := by
  rw [List.reverse_append, getElem!_append_right _ _ _ (by simpa using h1)]
  exact List.mem_reverse.mp (getElem!_mem_of_lt _ _ (by simp; omega))

theorem getElem!_reverse_cons_lt {α : Type} [Inhabited α] (u : α) (us : List α) (c : Nat) (h : c < us.length) :
    (u :: us).reverse[c]! = us.reverse[c]! :=
  getElem!_reverse_append_lt [u] us c h

theorem getElem!_reverse_cons_length {α : Type} [Inhabited α] (u : α) (us : List α) : (u :: us).reverse[us.length]! = u := by
  rw [List.reverse_cons, getElem!_append_right _ _ _ (by simp)]; simp

/-- a list of bounds starting at 0 brackets everything below its `N`-th entry (no monotonicity needed) -/
theorem exists_bracket (xs : List Nat) (N j : Nat) (h0 : xs[0]! = 0) (hN : j < xs[N]!) :
    ∃ s < N, xs[s]! ≤ j ∧ j < xs[s + 1]! :=
  Slu.exists_bracket (xs[·]!) N j ((Nat.le_of_eq h0).trans j.zero_le) hN

theorem union_nodup (a b : List Nat) (h : a.Nodup) : (union a b).Nodup := by
  unfold union
  fun_induction markerFilter b a with
  | case1 a => exact h
  | case2 r rs a hc ih => exact ih h
  | case3 r rs a hc ih =>
    exact ih (List.nodup_append.mpr ⟨h, List.nodup_singleton r, fun x hx y hy hxy =>
      hc (by rw [List.mem_singleton.mp hy] at hxy; simpa [hxy] using hx)⟩)

theorem mem_union (a b : List Nat) (x : Nat) : x ∈ union a b ↔ x ∈ a ∨ x ∈ b := by
  unfold union
  fun_induction markerFilter b a with
  | case1 a => simp
  | case2 r rs a hc ih =>
    have hr : r ∈ a := by simpa using hc
    rw [ih, List.mem_cons]
    exact ⟨fun h => h.imp_right Or.inr, fun h => h.elim Or.inl fun h => h.elim (fun e => Or.inl (e ▸ hr)) Or.inr⟩
  | case3 r rs a hc ih => rw [ih, List.mem_cons, List.mem_append, List.mem_singleton, or_assoc]

theorem seg_eq_range' (lo hi : Nat) : seg lo hi = List.range' lo (hi + 1 - lo) := by
  rw [seg, List.range'_eq_map_range]
  exact List.map_congr_left fun a _ => Nat.add_comm a lo

theorem mem_seg (lo hi r : Nat) : r ∈ seg lo hi ↔ lo ≤ r ∧ r ≤ hi := by
  rw [seg_eq_range', List.mem_range'_1]; omega

theorem seg_length (lo hi : Nat) : (seg lo hi).length = hi + 1 - lo := by
  rw [seg_eq_range', List.length_range']

theorem seg_get (lo hi c : Nat) (h : c < hi + 1 - lo) : (seg lo hi)[c]! = lo + c := by
  rw [getElem!_pos _ c (by rwa [seg_length])]
  simp only [seg_eq_range', List.getElem_range', Nat.one_mul]

theorem seg_sorted (lo hi : Nat) : (seg lo hi).Pairwise (· < ·) := by
  rw [seg_eq_range']; exact List.pairwise_lt_range'

theorem seg_drop (lo hi k : Nat) : (seg lo hi).drop k = seg (lo + k) hi := by
  rw [seg_eq_range', seg_eq_range', List.drop_range']
  congr 1 <;> omega

theorem mem_hits (t : SN) (R : List Nat) (r : Nat) : r ∈ hits t R ↔ r ∈ R ∧ t.first ≤ r ∧ r ≤ t.last := by
  simp [hits]

/-- R5 as a set: the rows of `t` from its least reached row on — from `first t` on when `t` is relaxed -/
theorem mem_useg (t : SN) (R : List Nat) (r : Nat) :
    r ∈ useg t R ↔ r ≤ t.last ∧ ∃ k ∈ R, t.first ≤ k ∧ k ≤ t.last ∧ if t.relaxed then t.first ≤ r else k ≤ r := by
  have hh : ∀ k, k ∈ hits t R ↔ k ∈ R ∧ t.first ≤ k ∧ k ≤ t.last := mem_hits t R
  unfold useg
  generalize hits t R = H at hh ⊢
  cases H with
  | nil => simpa using fun _ k hk h1 h2 => absurd ((hh k).mpr ⟨hk, h1, h2⟩) (by simp)
  | cons x xs =>
    obtain ⟨hmem, hmin⟩ := List.min?_eq_some_iff.mp (List.min?_cons' (x := x) (xs := xs))
    rw [mem_seg, and_comm]
    refine and_congr_right fun _ => ?_
    split
    · exact ⟨fun h => ⟨x, ((hh x).mp (by simp)).1, ((hh x).mp (by simp)).2.1, ((hh x).mp (by simp)).2.2, h⟩,
        fun ⟨_, _, _, _, h⟩ => h⟩
    · exact ⟨fun h => ⟨_, ((hh _).mp hmem).1, ((hh _).mp hmem).2.1, ((hh _).mp hmem).2.2, h⟩,
        fun ⟨k, hk, h1, h2, h⟩ => Nat.le_trans (hmin k ((hh k).mpr ⟨hk, h1, h2⟩)) h⟩

theorem useg_bounds (t : SN) (R : List Nat) (r : Nat) (h : r ∈ useg t R) : t.first ≤ r ∧ r ≤ t.last := by
  obtain ⟨hl, k, _, hk, _, h⟩ := (mem_useg t R r).mp h
  refine ⟨?_, hl⟩
  split at h <;> omega

theorem useg_sorted (t : SN) (R : List Nat) : (useg t R).Pairwise (· < ·) := by
  unfold useg
  cases hits t R with
  | nil => exact List.Pairwise.nil
  | cons x xs => exact seg_sorted _ _

theorem reach_cons (t : SN) (rest : List SN) (col : List Nat) :
    reach (t :: rest) col = if (hits t (reach rest col)).isEmpty then reach rest col else union (reach rest col) t.expl := rfl

theorem reach_nodup (sns : List SN) (col : List Nat) : (reach sns col).Nodup := by
  induction sns with
  | nil => exact union_nodup [] col List.nodup_nil
  | cons t ts ih =>
    rw [reach_cons]
    split
    · exact ih
    · exact union_nodup _ _ ih

theorem mem_reach_nil (col : List Nat) (r : Nat) : r ∈ reach [] col ↔ r ∈ col := by
  simp [reach, mem_union]

/-- R2, one supernode more: its explored list is added when one of the rows reached so far lies in it -/
theorem mem_reach_cons_iff (t : SN) (rest : List SN) (col : List Nat) (r : Nat) :
    r ∈ reach (t :: rest) col ↔ r ∈ reach rest col ∨ (hits t (reach rest col) ≠ [] ∧ r ∈ t.expl) := by
  rw [reach_cons]
  split
  · next h => rw [List.isEmpty_iff.mp h]; simp
  · next h => rw [mem_union, List.isEmpty_iff] at *; simp [h]

theorem mem_reach (sns : List SN) (col : List Nat) (r : Nat) (h : r ∈ reach sns col) :
    r ∈ col ∨ ∃ t ∈ sns, r ∈ t.expl := by
  induction sns with
  | nil => exact Or.inl ((mem_reach_nil col r).mp h)
  | cons t ts ih =>
    rcases (mem_reach_cons_iff t ts col r).mp h with h | ⟨_, h⟩
    · exact (ih h).imp_right fun ⟨u, hu, hr⟩ => ⟨u, List.mem_cons_of_mem _ hu, hr⟩
    · exact Or.inr ⟨t, List.mem_cons_self, h⟩

theorem mem_reach_cons (t : SN) (rest : List SN) (col : List Nat) (r : Nat) (h : r ∈ reach rest col) :
    r ∈ reach (t :: rest) col :=
  (mem_reach_cons_iff t rest col r).mpr (Or.inl h)

theorem mem_reach_of_col (sns : List SN) (col : List Nat) (r : Nat) (h : r ∈ col) : r ∈ reach sns col := by
  induction sns with
  | nil => exact (mem_reach_nil col r).mpr h
  | cons t rest ih => exact mem_reach_cons t rest col r ih

theorem mem_ucolOf {l : List SN} {R : List Nat} {k : Nat} : k ∈ ucolOf l R ↔ ∃ t ∈ l, k ∈ useg t R := by
  simp only [ucolOf, List.mem_flatMap, List.mem_reverse]

theorem joins_iff (maxsuper j : Nat) (sj : List Nat) (t : SN) : joins maxsuper j sj t = true ↔
    t.relaxed = false ∧ (∀ y ∈ sj, y ∈ t.expl) ∧ sj.length + 1 = t.expl.length ∧ j - t.first < maxsuper := by
  simp [joins, subset, and_assoc]

theorem foldl_union_nodup (cols : Nat → List Nat) (is : List Nat) (acc : List Nat) (h : acc.Nodup) :
    (is.foldl (fun acc i => union acc (cols i)) acc).Nodup :=
  foldl_inv List.Nodup _ is acc h fun _ _ _ hs => union_nodup _ _ hs

theorem mem_foldl_union (cols : Nat → List Nat) (is : List Nat) (acc : List Nat) (x : Nat) :
    x ∈ is.foldl (fun acc i => union acc (cols i)) acc ↔ x ∈ acc ∨ ∃ i ∈ is, x ∈ cols i := by
  induction is generalizing acc with
  | nil => simp
  | cons i is ih => rw [List.foldl_cons, ih, mem_union, or_assoc]; simp

/-- R3: `struct(j)` for a column whose reach is `R` (the `let sj` of `colStep`, under a name) -/
def structOf (j : Nat) (R : List Nat) : List Nat := j :: R.filter (fun r => decide (j < r))

theorem mem_structOf {j : Nat} {R : List Nat} {x : Nat} : x ∈ structOf j R ↔ x = j ∨ (x ∈ R ∧ j < x) := by
  simp [structOf]

theorem le_of_mem_structOf {j : Nat} {R : List Nat} {x : Nat} (h : x ∈ structOf j R) : j ≤ x := by
  rcases mem_structOf.mp h with rfl | ⟨_, h⟩ <;> omega

theorem sj_nodup (j : Nat) (R : List Nat) (h : R.Nodup) : (structOf j R).Nodup :=
  List.nodup_cons.mpr ⟨fun hm => by simpa using (List.mem_filter.mp hm).2, h.filter _⟩

/-- newest-first list of supernodes covering exactly the columns `0 .. b-1` -/
def DChain : List SN → Nat → Prop
  | [], b => b = 0
  | t :: rest, b => b = t.last + 1 ∧ t.first ≤ t.last ∧ DChain rest t.first

theorem dchain_mem {l : List SN} {b : Nat} (h : DChain l b) {t : SN} (ht : t ∈ l) : t.first ≤ t.last ∧ t.last < b := by
  induction l generalizing b with
  | nil => simp at ht
  | cons u rest ih =>
    obtain ⟨h1, h2, h3⟩ := h
    rcases List.mem_cons.mp ht with rfl | ht
    · exact ⟨h2, by omega⟩
    · have := ih h3 ht; exact ⟨this.1, by omega⟩

theorem dchain_cover {l : List SN} {b : Nat} (h : DChain l b) {k : Nat} (hk : k < b) :
    ∃ t ∈ l, t.first ≤ k ∧ k ≤ t.last := by
  induction l generalizing b with
  | nil => simp only [DChain] at h; omega
  | cons u rest ih =>
    obtain ⟨h1, h2, h3⟩ := h
    by_cases hku : u.first ≤ k
    · exact ⟨u, List.mem_cons_self, hku, by omega⟩
    · obtain ⟨t, ht, h4⟩ := ih h3 (by omega)
      exact ⟨t, List.mem_cons_of_mem _ ht, h4⟩

theorem dchain_unique {l : List SN} {b : Nat} (h : DChain l b) {t t' : SN} (ht : t ∈ l) (ht' : t' ∈ l) {k : Nat}
    (hk : t.first ≤ k ∧ k ≤ t.last) (hk' : t'.first ≤ k ∧ k ≤ t'.last) : t = t' := by
  induction l generalizing b with
  | nil => simp at ht
  | cons u rest ih =>
    obtain ⟨h1, h2, h3⟩ := h
    rcases List.mem_cons.mp ht with e1 | m1 <;> rcases List.mem_cons.mp ht' with e2 | m2
    · rw [e1, e2]
    · subst e1; have := dchain_mem h3 m2; omega
    · subst e2; have := dchain_mem h3 m1; omega
    · exact ih h3 m1 m2

theorem ucolOf_spec {l : List SN} {b : Nat} (R : List Nat) (h : DChain l b) :
    (∀ r ∈ ucolOf l R, r < b) ∧ (ucolOf l R).Pairwise (· < ·) := by
  induction l generalizing b with
  | nil => simp [ucolOf]
  | cons t rest ih =>
    obtain ⟨h1, h2, h3⟩ := h
    obtain ⟨ih1, ih2⟩ := ih h3
    have hc : ucolOf (t :: rest) R = ucolOf rest R ++ useg t R := by simp [ucolOf]
    rw [hc]
    refine ⟨fun r hr => ?_, List.pairwise_append.mpr ⟨ih2, useg_sorted t R, fun x hx y hy => ?_⟩⟩
    · rcases List.mem_append.mp hr with hr | hr
      · have := ih1 r hr; omega
      · have := useg_bounds t R r hr; omega
    · have := ih1 x hx; have := useg_bounds t R y hy; omega

/-- The invariant of the column loop after the columns `0 .. b-1`, for a property `P` of supernodes and a
property `Q f c u` of a column `c` whose supernode starts at `f` and whose U rows are `u`.  The U
row sets are stored newest first, so column `c` is read as `ucols.reverse[c]!`. -/
structure Inv (P : SN → Prop) (Q : Nat → Nat → List Nat → Prop) (st : St) (b : Nat) : Prop where
  chain : DChain st.sns b
  len : st.ucols.length = b
  sn : ∀ t ∈ st.sns, P t
  col : ∀ t ∈ st.sns, ∀ c, t.first ≤ c → c ≤ t.last → Q t.first c st.ucols.reverse[c]!

section Inv
variable {P : SN → Prop} {Q : Nat → Nat → List Nat → Prop}

/-- a new supernode `t = [j .. last]` enters with the U row sets `new` of its columns -/
theorem Inv.push {st : St} {j : Nat} (h : Inv P Q st j) (t : SN) (new : List (List Nat)) (hf : t.first = j)
    (hl : j ≤ t.last) (hn : new.length = t.last + 1 - j) (hP : P t)
    (hQ : ∀ u ∈ new, ∀ c, j ≤ c → c ≤ t.last → Q j c u) :
    Inv P Q ⟨t :: st.sns, new ++ st.ucols⟩ (t.last + 1) := by
  have hlen := h.len
  refine ⟨⟨rfl, hf ▸ hl, hf ▸ h.chain⟩, by simp only [List.length_append]; omega, ?_, ?_⟩
  · intro u hu
    rcases List.mem_cons.mp hu with rfl | hu
    exacts [hP, h.sn u hu]
  · intro u hu c hc1 hc2
    rcases List.mem_cons.mp hu with rfl | hu
    · rw [hf] at hc1 ⊢
      exact hQ _ (getElem!_reverse_append_mem _ _ _ (by omega) (by omega)) c hc1 hc2
    · have := dchain_mem h.chain hu
      show Q u.first c (new ++ st.ucols).reverse[c]!
      rw [getElem!_reverse_append_lt _ _ _ (by omega)]
      exact h.col u hu c hc1 hc2

/-- R4: column `j` joins the newest supernode, which becomes `t'`, with U row set `u` -/
theorem Inv.grow {t : SN} {rest : List SN} {us : List (List Nat)} {j : Nat} (h : Inv P Q ⟨t :: rest, us⟩ j) (t' : SN)
    (hf : t'.first = t.first) (hl : t'.last = j) (u : List Nat) (hP : P t') (hQ : Q t.first j u) :
    Inv P Q ⟨t' :: rest, u :: us⟩ (j + 1) := by
  obtain ⟨hb, hle, hrest⟩ := h.chain
  have hlen : us.length = j := h.len
  have hu : (u :: us).reverse[j]! = u := hlen ▸ getElem!_reverse_cons_length u us
  refine ⟨⟨by rw [hl], by rw [hf, hl]; omega, hf ▸ hrest⟩, by simp only [List.length_cons]; omega, ?_, ?_⟩
  · intro v hv
    rcases List.mem_cons.mp hv with rfl | hv
    exacts [hP, h.sn v (List.mem_cons_of_mem _ hv)]
  · intro v hv c hc1 hc2
    show Q v.first c (u :: us).reverse[c]!
    rcases List.mem_cons.mp hv with rfl | hv
    · rw [hf] at hc1 ⊢
      by_cases hcj : c = j
      · rw [hcj, hu]; exact hQ
      · rw [getElem!_reverse_cons_lt _ _ _ (by omega)]
        exact h.col t List.mem_cons_self c hc1 (by omega)
    · have := dchain_mem hrest hv
      rw [getElem!_reverse_cons_lt _ _ _ (by omega)]
      exact h.col v (List.mem_cons_of_mem _ hv) c hc1 hc2

/-- an ordinary column (R2–R5) with reach `R` and structure `sj`: either it joins the newest supernode `t` (then `P` is asked
of the grown supernode and `Q` with the U rows collected from the supernodes before `t`) or it starts a supernode of its own -/
theorem Inv.colStep {st : St} {j : Nat} (h : Inv P Q st j) (maxsuper : Nat) (col : List Nat) :
    let R := reach st.sns col
    let sj := structOf j R
    P ⟨j, j, false, sj, sj⟩ → Q j j (ucolOf st.sns R) →
    (∀ t rest, st.sns = t :: rest → joins maxsuper j sj t = true → P { t with last := j, expl := sj }) →
    (∀ t rest, st.sns = t :: rest → joins maxsuper j sj t = true → Q t.first j (ucolOf rest R)) →
    Inv P Q (Symb.colStep maxsuper col j st) (j + 1) := by
  intro R sj hP hQ hPj hQj
  have hnew := h.push ⟨j, j, false, sj, sj⟩ [ucolOf st.sns R] rfl (Nat.le_refl j)
    (Nat.add_sub_cancel_left j 1).symm hP (fun u hu c h1 h2 => by rw [List.mem_singleton.mp hu, Nat.le_antisymm h2 h1]; exact hQ)
  obtain ⟨sns, us⟩ := st
  unfold Symb.colStep
  cases sns with
  | nil => exact hnew
  | cons t rest =>
    simp only
    split
    · next hj => exact h.grow _ (by rfl) (by rfl) _ (hPj t rest rfl hj) (hQj t rest rfl hj)
    · exact hnew

/-- a relaxed supernode `[j .. k']` with row set `rows` (R1; `relaxStep n cols j k st` is this state for the clamped `k'` and the
union of the columns): its columns have no U rows outside it -/
theorem Inv.relaxStep {st : St} {j : Nat} (h : Inv P Q st j) (k' : Nat) (rows : List Nat) (hk : j ≤ k')
    (hP : P ⟨j, k', true, rows, rows⟩) (hQ : ∀ c, j ≤ c → c ≤ k' → Q j c []) :
    Inv P Q ⟨⟨j, k', true, rows, rows⟩ :: st.sns, List.replicate (k' + 1 - j) [] ++ st.ucols⟩ (k' + 1) :=
  h.push ⟨j, k', true, rows, rows⟩ (List.replicate _ []) rfl hk List.length_replicate hP
    (fun u hu c h1 h2 => by rw [(List.mem_replicate.mp hu).2]; exact hQ c h1 h2)

/-- **the column loop**: an invariant kept by ordinary columns and by relaxed supernodes holds of the
finished run with every column covered.  A column inside a relaxed supernode already opened changes nothing. -/
theorem run_inv (n maxsuper : Nat) (cols : Nat → List Nat) (relaxEnd : Nat → Option Nat)
    (hcol : ∀ j st, j < n → relaxEnd j = none → Inv P Q st j → Inv P Q (Symb.colStep maxsuper (cols j) j st) (j + 1))
    (hrel : ∀ j k st, j < n → relaxEnd j = some k → Inv P Q st j →
      Inv P Q (Symb.relaxStep n cols j k st) (max j (min k (n - 1)) + 1)) :
    Inv P Q (run n maxsuper cols relaxEnd) n := by
  -- the columns covered, `e`, can be ahead of the loop index `j`: a relaxed supernode enters all its columns at once
  have key := foldl_range_inv (fun j st => ∃ e, Inv P Q st e ∧ j ≤ e ∧ e ≤ n) (step n maxsuper cols relaxEnd) n
    ⟨[], []⟩ ⟨0, ⟨rfl, rfl, nofun, nofun⟩, Nat.le_refl 0, Nat.zero_le n⟩ ?_
  · obtain ⟨e, he, h1, h2⟩ := key
    rwa [Nat.le_antisymm h2 h1] at he
  · intro st j hj ⟨e, he, h1, h2⟩
    have hnew : e = j → ∃ e', Inv P Q (match relaxEnd j with
        | some k => Symb.relaxStep n cols j k st
        | none => Symb.colStep maxsuper (cols j) j st) e' ∧ j + 1 ≤ e' ∧ e' ≤ n := by
      rintro rfl
      cases hre : relaxEnd e with
      | some k => exact ⟨_, hrel e k st hj hre he, by omega, by omega⟩
      | none => exact ⟨_, hcol e st hj hre he, Nat.le_refl _, hj⟩
    have hch := he.chain
    unfold step
    cases hs : st.sns with
    | nil => rw [hs] at hch; exact hnew (by rw [hch] at h1 ⊢; omega)
    | cons t rest =>
      rw [hs] at hch
      simp only
      split
      · exact ⟨e, he, by have := hch.1; omega, h2⟩
      · exact hnew (by have := hch.1; omega)

end Inv

/-- ascending list of supernodes covering exactly the columns `a .. b-1` -/
def AChain : Nat → List SN → Nat → Prop
  | a, [], b => a = b
  | a, t :: ts, b => t.first = a ∧ a ≤ t.last ∧ AChain (t.last + 1) ts b

theorem achain_snoc {a : Nat} {l : List SN} {mid : Nat} (h : AChain a l mid) (t : SN)
    (h1 : t.first = mid) (h2 : mid ≤ t.last) : AChain a (l ++ [t]) (t.last + 1) := by
  induction l generalizing a with
  | nil => simp only [AChain] at h; subst h; exact ⟨h1, h2, rfl⟩
  | cons u us ih => exact ⟨h.1, h.2.1, ih h.2.2⟩

theorem dchain_reverse {l : List SN} {b : Nat} (h : DChain l b) : AChain 0 l.reverse b := by
  induction l generalizing b with
  | nil => exact h.symm
  | cons t rest ih =>
    obtain ⟨hb, h2, h3⟩ := h
    rw [List.reverse_cons, hb]
    exact achain_snoc (ih h3) t rfl h2

theorem achain_le {a : Nat} {asc : List SN} {b : Nat} (h : AChain a asc b) : a ≤ b := by
  induction asc generalizing a with
  | nil => exact Nat.le_of_eq h
  | cons t ts ih => have := ih h.2.2; have := h.2.1; omega

/-- `xsup` of an ascending list of supernodes -/
def xsOf (asc : List SN) (n : Nat) : List Nat := asc.map (·.first) ++ [n]

theorem xsOf_cons (t : SN) (ts : List SN) (n : Nat) : xsOf (t :: ts) n = t.first :: xsOf ts n := rfl

theorem achain_head {a : Nat} {asc : List SN} {n : Nat} (h : AChain a asc n) : (xsOf asc n)[0]! = a := by
  cases asc with
  | nil => exact h.symm
  | cons t ts => exact h.1

theorem achain_last (asc : List SN) (n : Nat) : (xsOf asc n)[asc.length]! = n := by
  rw [xsOf, getElem!_append_right _ _ _ (by simp)]; simp

/-- supernode number `s` of an ascending chain: where `xsup` delimits it and which columns `supOf` sends to it -/
theorem achain_get {a : Nat} {asc : List SN} {n : Nat} (h : AChain a asc n) {s : Nat} (hs : s < asc.length) :
    (xsOf asc n)[s]! = asc[s]!.first ∧ (xsOf asc n)[s + 1]! = asc[s]!.last + 1 ∧ a ≤ asc[s]!.first ∧
    asc[s]!.first ≤ asc[s]!.last ∧ asc[s]!.last < n ∧ ∀ v, asc[s]!.first ≤ v → v ≤ asc[s]!.last → supOf asc v = s := by
  induction asc generalizing a s with
  | nil => simp at hs
  | cons t ts ih =>
    obtain ⟨h1, h2, h3⟩ := h
    rw [xsOf_cons]
    cases s with
    | zero =>
      have := achain_le h3
      simp only [List.getElem!_cons_zero, List.getElem!_cons_succ, true_and]
      refine ⟨achain_head h3, by omega, by omega, by omega, fun v _ hv => ?_⟩
      simp [supOf, List.findIdx_cons, hv]
    | succ s =>
      simp only [List.getElem!_cons_succ]
      obtain ⟨e1, e2, e3, e4, e5, e6⟩ := ih h3 (by simpa using hs)
      refine ⟨e1, e2, by omega, e4, e5, fun v hv1 hv2 => ?_⟩
      have hv : ¬ v ≤ t.last := by omega
      have := e6 v hv1 hv2
      simp only [supOf] at this ⊢
      simp [List.findIdx_cons, hv, this]

theorem outOf_rows_length (n : Nat) (st : St) : (outOf n st).rows.length = st.sns.reverse.length := by
  simp [outOf]

section Inv
variable {P : SN → Prop} {Q : Nat → Nat → List Nat → Prop}

/-- supernode number `s` of the structure `o` is the supernode `t` -/
structure IsSnode (P : SN → Prop) (Q : Nat → Nat → List Nat → Prop) (o : Out) (s : Nat) (t : SN) : Prop where
  prop : P t
  xs : o.xsup[s]! = t.first
  xs1 : o.xsup[s + 1]! = t.last + 1
  rows : o.rows[s]! = rowList t
  le : t.first ≤ t.last
  lt : t.last < o.n
  col : ∀ c, t.first ≤ c → c ≤ t.last → o.supno[c]! = s ∧ Q t.first c o.ucols[c]!

theorem Inv.out {st : St} {n : Nat} (h : Inv P Q st n) {s : Nat} (hs : s < (outOf n st).rows.length) :
    ∃ t ∈ st.sns, IsSnode P Q (outOf n st) s t := by
  have hs' : s < st.sns.reverse.length := outOf_rows_length n st ▸ hs
  obtain ⟨e1, e2, _, e4, e5, e6⟩ := achain_get (dchain_reverse h.chain) hs'
  have htm : st.sns.reverse[s]! ∈ st.sns := List.mem_reverse.mp (getElem!_mem_of_lt _ _ hs')
  refine ⟨_, htm, h.sn _ htm, e1, e2, getElem!_map_of_lt _ _ _ hs', e4, e5, fun c h1 h2 => ⟨?_, h.col _ htm c h1 h2⟩⟩
  exact (range_map_get _ _ _ (by omega)).trans (e6 c h1 h2)

theorem Inv.out_col {st : St} {n : Nat} (h : Inv P Q st n) {j : Nat} (hj : j < n) :
    ∃ t ∈ st.sns, t.first ≤ j ∧ j ≤ t.last ∧ IsSnode P Q (outOf n st) (outOf n st).supno[j]! t := by
  have hch := dchain_reverse h.chain
  obtain ⟨s, hs, h1, h2⟩ := exists_bracket (outOf n st).xsup (outOf n st).rows.length j (achain_head hch)
    (by rw [outOf_rows_length]; exact (achain_last _ n).symm ▸ hj)
  obtain ⟨t, ht, o⟩ := h.out hs
  have e1 := o.xs; have e2 := o.xs1
  have hf : t.first ≤ j := by omega
  have hl : j ≤ t.last := by omega
  exact ⟨t, ht, hf, hl, (o.col j hf hl).1.symm ▸ o⟩

end Inv

theorem run_struct (n maxsuper : Nat) (cols : Nat → List Nat) (relaxEnd : Nat → Option Nat) :
    Inv (fun t => t.rows.Nodup) (fun f _ u => (∀ r ∈ u, r < f) ∧ u.Pairwise (· < ·)) (run n maxsuper cols relaxEnd) n := by
  refine run_inv n maxsuper cols relaxEnd (fun j st _ _ h => ?_) (fun j k st _ _ h => ?_)
  · refine h.colStep maxsuper (cols j) (sj_nodup _ _ (reach_nodup _ _)) (ucolOf_spec _ h.chain)
      (fun t rest hs _ => h.sn t (hs ▸ List.mem_cons_self)) (fun t rest hs _ => ?_)
    have := h.chain
    rw [hs] at this
    exact ucolOf_spec _ this.2.2
  · exact h.relaxStep _ _ (Nat.le_max_left ..) (foldl_union_nodup cols _ [] List.nodup_nil)
      (fun _ _ _ => ⟨nofun, List.Pairwise.nil⟩)

/-- the clauses of C03 (`Struct.WF`) read on the lists of an `Out`, before packing into arrays -/
structure WfOut (o : Out) : Prop where
  xlen : o.xsup.length = o.rows.length + 1
  slen : o.supno.length = o.n
  ulen : o.ucols.length = o.n
  x0 : o.xsup[0]! = 0
  xn : o.xsup[o.rows.length]! = o.n
  xlt : ∀ s < o.rows.length, o.xsup[s]! < o.xsup[s + 1]!
  sup : ∀ s < o.rows.length, ∀ j, o.xsup[s]! ≤ j → j < o.xsup[s + 1]! → o.supno[j]! = s
  rlen : ∀ s < o.rows.length, o.xsup[s + 1]! - o.xsup[s]! ≤ (o.rows[s]!).length
  lead : ∀ s < o.rows.length, ∀ c < o.xsup[s + 1]! - o.xsup[s]!, (o.rows[s]!)[c]! = o.xsup[s]! + c
  below : ∀ s < o.rows.length, ∀ r ∈ (o.rows[s]!).drop (o.xsup[s + 1]! - o.xsup[s]!), o.xsup[s + 1]! - 1 < r
  rnodup : ∀ s < o.rows.length, ((o.rows[s]!).drop (o.xsup[s + 1]! - o.xsup[s]!)).Nodup
  uabove : ∀ j < o.n, ∀ r ∈ o.ucols[j]!, r < o.xsup[o.supno[j]!]!
  unodup : ∀ j < o.n, (o.ucols[j]!).Nodup

theorem symbNaive_n (n maxsuper : Nat) (cols : Nat → List Nat) (relaxEnd : Nat → Option Nat) :
    (symbNaive n maxsuper cols relaxEnd).n = n := rfl

theorem symbNaive_xsup (n maxsuper : Nat) (cols : Nat → List Nat) (relaxEnd : Nat → Option Nat) :
    (symbNaive n maxsuper cols relaxEnd).xsup = xsOf (run n maxsuper cols relaxEnd).sns.reverse n := rfl

theorem rowList_length (t : SN) : t.last + 1 - t.first ≤ (rowList t).length := by
  rw [rowList, List.length_append, seg_length]; omega

theorem rowList_lead (t : SN) (c : Nat) (hc : c < t.last + 1 - t.first) : (rowList t)[c]! = t.first + c := by
  rw [rowList, getElem!_append_left _ _ _ (by rwa [seg_length]), seg_get _ _ _ hc]

theorem rowList_drop (t : SN) : (rowList t).drop (t.last + 1 - t.first) = t.rows.filter (fun r => decide (t.last < r)) :=
  List.drop_left' (seg_length _ _)

/-- for EVERY input the predicted lists satisfy the clauses of C03 (only "rows `< m`" needs the input's
rows to be `< m`) -/
theorem symbNaive_wfOut (n maxsuper : Nat) (cols : Nat → List Nat) (relaxEnd : Nat → Option Nat) :
    WfOut (symbNaive n maxsuper cols relaxEnd) := by
  have h := run_struct n maxsuper cols relaxEnd
  have hch := dchain_reverse h.chain
  have out := fun s hs => h.out (s := s) hs
  have col := fun j hj => h.out_col (j := j) hj
  show WfOut (outOf n (run n maxsuper cols relaxEnd))
  generalize run n maxsuper cols relaxEnd = st at h hch out col ⊢
  refine ⟨by simp [outOf], by simp [outOf], by simpa [outOf] using h.len, achain_head hch,
    outOf_rows_length n st ▸ achain_last _ n, fun s hs => ?_, fun s hs j h1 h2 => ?_, fun s hs => ?_, fun s hs c hc => ?_, fun s hs r hr => ?_,
    fun s hs => ?_, fun j hj r hr => ?_, fun j hj => ?_⟩
  · obtain ⟨t, _, o⟩ := out s hs
    rw [o.xs, o.xs1]; have := o.le; omega
  · obtain ⟨t, _, o⟩ := out s hs
    rw [o.xs] at h1; rw [o.xs1] at h2
    exact (o.col j h1 (Nat.le_of_lt_succ h2)).1
  · obtain ⟨t, _, o⟩ := out s hs
    rw [o.xs, o.xs1, o.rows]; exact rowList_length t
  · obtain ⟨t, _, o⟩ := out s hs
    rw [o.xs, o.xs1] at hc; rw [o.xs, o.rows]
    exact rowList_lead t c hc
  · obtain ⟨t, _, o⟩ := out s hs
    rw [o.xs, o.xs1, o.rows, rowList_drop] at hr
    rw [o.xs1]
    simpa using (List.mem_filter.mp hr).2
  · obtain ⟨t, _, o⟩ := out s hs
    rw [o.xs, o.xs1, o.rows, rowList_drop]
    exact o.prop.filter _
  · obtain ⟨t, _, hf, hl, o⟩ := col j hj
    rw [o.xs]; exact (o.col j hf hl).2.1 r hr
  · obtain ⟨t, _, hf, hl, o⟩ := col j hj
    exact (o.col j hf hl).2.2.imp Nat.ne_of_lt

theorem symbNaive_rows_lt (m n maxsuper : Nat) (cols : Nat → List Nat) (relaxEnd : Nat → Option Nat) (hnm : n ≤ m)
    (hcols : ∀ j < n, ∀ r ∈ cols j, r < m) :
    let o := symbNaive n maxsuper cols relaxEnd
    ∀ s < o.rows.length, ∀ r ∈ o.rows[s]!, r < m := by
  have h : Inv (fun t => (∀ r ∈ t.rows, r < m) ∧ ∀ r ∈ t.expl, r < m) (fun _ _ _ => True)
      (run n maxsuper cols relaxEnd) n := by
    refine run_inv n maxsuper cols relaxEnd (fun j st hj _ h => ?_) (fun j k st hj _ h => ?_)
    · have hsj : ∀ r ∈ structOf j (reach st.sns (cols j)), r < m := by
        intro r hr
        rcases mem_structOf.mp hr with rfl | ⟨hr, _⟩
        · omega
        · rcases mem_reach _ _ _ hr with hc | ⟨t, ht, he⟩
          exacts [hcols j hj r hc, (h.sn t ht).2 r he]
      exact h.colStep maxsuper (cols j) ⟨hsj, hsj⟩ trivial
        (fun t rest hs _ => ⟨(h.sn t (hs ▸ List.mem_cons_self)).1, hsj⟩) (fun _ _ _ _ => trivial)
    · have hall : ∀ r ∈ (seg j (max j (min k (n - 1)))).foldl (fun acc i => union acc (cols i)) [], r < m := by
        intro r hr
        obtain ⟨i, hi, hx⟩ := ((mem_foldl_union cols _ [] r).mp hr).resolve_left (by simp)
        have := (mem_seg _ _ _).mp hi
        exact hcols i (by omega) r hx
      exact h.relaxStep _ _ (Nat.le_max_left ..) ⟨hall, hall⟩ (fun _ _ _ => trivial)
  intro o s hs r hr
  obtain ⟨t, _, ot⟩ := h.out hs
  rw [show o.rows[s]! = rowList t from ot.rows, rowList] at hr
  rcases List.mem_append.mp hr with hr | hr
  · have := (mem_seg _ _ _).mp hr; have : t.last < n := ot.lt; omega
  · exact ot.prop.1 r (List.mem_filter.mp hr).1

end Slu.Symb
