import Slu.Model.SymbArrays
import Slu.Model.Struct
import SluProofs.Lemmas.ArrayBasic
import Mathlib.Logic.Equiv.Defs
import Mathlib.Logic.Equiv.Basic
import Mathlib.Tactic.Linarith
import Mathlib.Data.List.Nodup
import Mathlib.Data.List.Range
/-
Lemmas about the array-level mirrors of [sdcz]pruneL / copy_to_ucol / snode_dfs (Slu/Model/SymbArrays.lean).

* dpruneL.c: `SegPerm` is a rearrangement of `[lo, hi)`: the subscripts (and, when `movnum`, the values) permuted by ONE
  `σ : Equiv.Perm ℕ` that is the identity outside `[lo, hi)` and on a leading run of pivoted rows, everything else untouched.
  The quicksort-type partition guarantees `PartOk`: a `SegPerm` cut at its result `p` (`lo ≤ p ≤ hi`, pivoted rows exactly on
  `[lo, p)`).  It is built from `PartOk.refl`, `PartOk.widen` (both `kmin++` and `kmax--`) and `SegPerm.of_swap` by induction
  along the loop (`partLoop_ok`); `partLoop_fuel_add`: the fuel is never what stops the loop.  A turn of the loop over `segrep`
  guarantees `StepOk`: a `SegPerm`, cut at `xprune[irep]` if the turn prunes.  `pruneL_fold_inv` composes the permutations of
  the turns of a whole call.
* dsnode_dfs.c and dcopy_to_ucol.c are loops within loops that store into consecutive positions.  Each is first
  flattened into ONE loop over the list of all rows it visits (`snodeCols_eq`, `copyToUcol_fst`); then one invariant
  (`SnodeInv`: the list stored so far; `UcolInv`: how many of the rows are gathered) is carried along that list, each
  array with its counter as a `Filled`.
-/
namespace Slu.SymbArr

theorem perm_maps_seg {σ : Equiv.Perm ℕ} {lo hi : Nat} (h : ∀ k, k < lo ∨ hi ≤ k → σ k = k) (k : Nat)
    (h1 : lo ≤ k) (h2 : k < hi) : lo ≤ σ k ∧ σ k < hi := by
  by_contra hc
  have := σ.injective (h (σ k) (by omega))
  omega

theorem getD_append_of_lt {α : Type} (l l' : List α) (d : α) {t : Nat} (h : t < l.length) :
    (l ++ l').getD t d = l.getD t d := by
  simp only [List.getD_eq_getElem?_getD, List.getElem?_append_left h]

theorem getD_append_singleton_length {α : Type} (l : List α) (v d : α) : (l ++ [v]).getD l.length d = v := by
  simp [List.getD_eq_getElem?_getD]

/-- `a` is `a0` with the `n` cells from `p` on overwritten by `g 0 … g (n-1)`: what a loop that stores into consecutive
positions knows about ONE array and its counter -/
structure Filled {α : Type} (d : α) (a0 : Array α) (p n : Nat) (g : Nat → α) (a : Array α) : Prop where
  size : a.size = a0.size
  seg : ∀ t, t < n → a.getD (p + t) d = g t
  frame : ∀ k, k < p ∨ p + n ≤ k → a.getD k d = a0.getD k d

theorem Filled.nil {α : Type} (d : α) (a0 : Array α) (p : Nat) (g : Nat → α) : Filled d a0 p 0 g a0 :=
  ⟨rfl, nofun, fun _ _ => rfl⟩

/-- one more cell, written at the end of the segment; `g'` is the new list of contents -/
theorem Filled.push {α : Type} {d : α} {a0 a : Array α} {p n : Nat} {g g' : Nat → α} (h : Filled d a0 p n g a)
    (hp : p + n < a0.size) (hg : ∀ t, t < n → g' t = g t) :
    Filled d a0 p (n + 1) g' (a.setIfInBounds (p + n) (g' n)) := by
  refine ⟨Array.size_setIfInBounds.trans h.size, fun t ht => ?_, fun k hk => ?_⟩ <;> rw [getD_setIfInBounds]
  · by_cases e : t = n
    · rw [if_pos ⟨by rw [e], h.size ▸ hp⟩, e]
    · rw [if_neg (by omega), h.seg t (by omega), hg t (by omega)]
  · rw [if_neg (by omega), h.frame k (by omega)]

/-- a block of cells set to one value: the instance of `foldl_stores` at consecutive positions -/
theorem foldl_setRange {α : Type} (v d : α) (n a : Nat) (x : Array α) :
    ((List.range' a n).foldl (fun x i => x.setIfInBounds i v) x).size = x.size ∧
    (∀ k, a ≤ k → k < a + n → k < x.size → ((List.range' a n).foldl (fun x i => x.setIfInBounds i v) x).getD k d = v) ∧
    ∀ k, k < a ∨ a + n ≤ k → ((List.range' a n).foldl (fun x i => x.setIfInBounds i v) x).getD k d = x.getD k d := by
  obtain ⟨hs, hit, miss⟩ := foldl_stores id (fun _ => v) d (List.range' a n) x
  exact ⟨hs, fun k h1 h2 h3 => hit k (List.mem_range'_1.mpr ⟨h1, h2⟩) h3 fun _ _ _ => rfl,
    fun k hk => miss k fun b hb (e : b = k) => by have := List.mem_range'_1.mp hb; omega⟩

def segList (ls : Array Nat) (first len : Nat) : List Nat := (List.range len).map (fun t => ls.getD (first + t) 0)

theorem segList_length (ls : Array Nat) (first len : Nat) : (segList ls first len).length = len := by simp [segList]

theorem segList_succ (ls : Array Nat) (first n : Nat) :
    segList ls first (n+1) = ls.getD first 0 :: segList ls (first+1) n := by
  simp only [segList, List.range_succ_eq_map, List.map_cons, List.map_map, Nat.add_zero]
  congr 1
  apply List.map_congr_left; intro t _; simp only [Function.comp]; congr 1; omega

theorem segList_eq_of {ls : Array Nat} {first : Nat} {acc : List Nat}
    (h : ∀ t, t < acc.length → ls.getD (first + t) 0 = acc.getD t 0) : segList ls first acc.length = acc := by
  refine List.ext_getElem (segList_length ..) fun t _ h2 => ?_
  simp only [segList, List.getElem_map, List.getElem_range]
  rw [h t h2, ← List.getElem_eq_getD]

theorem mem_segList_map (ls : Array Nat) (lo n : Nat) (f : Nat → Nat) (x : Nat) :
    x ∈ (segList ls lo n).map f ↔ ∃ k, lo ≤ k ∧ k < lo + n ∧ f (ls.getD k 0) = x := by
  simp only [segList, List.mem_map, List.mem_range]
  constructor
  · rintro ⟨r, ⟨t, ht, rfl⟩, rfl⟩; exact ⟨lo + t, by omega, by omega, rfl⟩
  · rintro ⟨k, h1, h2, rfl⟩; exact ⟨_, ⟨k - lo, by omega, rfl⟩, by rw [show lo + (k - lo) = k by omega]⟩

theorem size_swapAt {α : Type} (a : Array α) (i j : Nat) (d : α) : (swapAt a i j d).size = a.size := by
  simp [swapAt]

theorem getD_swapAt {α : Type} (a : Array α) (i j k : Nat) (d : α) (hi : i < a.size) (hj : j < a.size) :
    (swapAt a i j d).getD k d = a.getD (Equiv.swap i j k) d := by
  rw [swapAt, getD_setIfInBounds, getD_setIfInBounds, Array.size_setIfInBounds, Equiv.swap_apply_def]
  by_cases h2 : k = j
  · subst h2
    rw [if_pos ⟨rfl, hj⟩]
    by_cases h1 : k = i
    · rw [if_pos h1, h1]
    · rw [if_neg h1, if_pos rfl]
  · rw [if_neg (fun c => h2 c.1.symm)]
    by_cases h1 : k = i
    · subst h1; rw [if_pos ⟨rfl, hi⟩, if_pos rfl]
    · rw [if_neg (fun c => h1 c.1.symm), if_neg h1, if_neg h2]

/-! ### dpruneL.c: the partition loop -/

section partLoop

/-- `k ↦ xlu + (k - xl)`, the position in `lusup` of the value that goes with `lsub[k]`, is monotone, strictly from `xl` on -/
theorem shift_le {xlu xl a b : Nat} (h : a ≤ b) : xlu + (a - xl) ≤ xlu + (b - xl) :=
  Nat.add_le_add_left (Nat.sub_le_sub_right h xl) xlu

theorem shift_lt {xlu xl a b : Nat} (ha : xl ≤ a) (h : a < b) : xlu + (a - xl) < xlu + (b - xl) :=
  Nat.add_lt_add_left (Nat.sub_lt_sub_right ha h) xlu

theorem swap_shift (xlu xl i j m : Nat) (hi : xl ≤ i) (hj : xl ≤ j) (hm : xl ≤ m) :
    Equiv.swap (xlu + (i - xl)) (xlu + (j - xl)) (xlu + (m - xl)) = xlu + (Equiv.swap i j m - xl) := by
  by_cases h1 : m = i
  · subst h1; rw [Equiv.swap_apply_left, Equiv.swap_apply_left]
  · by_cases h2 : m = j
    · subst h2; rw [Equiv.swap_apply_right, Equiv.swap_apply_right]
    · rw [Equiv.swap_apply_of_ne_of_ne h1 h2, Equiv.swap_apply_of_ne_of_ne (by omega) (by omega)]

variable {K : Type} (z : K) (permR : Array Int) (movnum : Bool) (xlu xl : Nat)

theorem partLoop_done (f : Nat) {lo hi : Nat} (ls : Array Nat) (lu : Array K) (h : ¬ lo < hi) :
    partLoop z permR movnum xlu xl f lo hi ls lu = (lo, ls, lu) := by
  cases f <;> simp [partLoop, h]

structure PartPre {K : Type} (movnum : Bool) (xlu xl f lo hi : Nat) (ls : Array Nat) (lu : Array K) : Prop where
  fuel : hi - lo ≤ f
  xl_le : xl ≤ lo
  le : lo ≤ hi
  sz : hi ≤ ls.size
  lu : movnum = true → xlu + (hi - xl) ≤ lu.size

/-- `(ls', lu')` is `(ls, lu)` rearranged inside `[lo, hi)`: the subscripts are read through ONE `σ : Equiv.Perm ℕ` that is the
identity outside `[lo, hi)` and on a leading run of pivoted rows, the values `lu[xlu + (· - xl)]` through the same `σ` when
`movnum`, and not at all otherwise.  What the partition loop and a turn of the loop over `segrep` have in common. -/
structure SegPerm {K : Type} (z : K) (permR : Array Int) (movnum : Bool) (xlu xl lo hi : Nat)
    (ls : Array Nat) (lu : Array K) (ls' : Array Nat) (lu' : Array K) : Prop where
  size_ls : ls'.size = ls.size
  size_lu : lu'.size = lu.size
  -- taken apart as `⟨σ, s1, s3, s4, s5⟩` wherever it is used; `perm_maps_seg s1`: `σ` maps `[lo, hi)` to itself.  The last
  -- clause keeps a leading run of pivoted rows in place: the diagonal block of the supernode, which `UcolLead` asks for
  perm : ∃ σ : Equiv.Perm ℕ, (∀ k, k < lo ∨ hi ≤ k → σ k = k) ∧ (∀ k, ls'.getD k 0 = ls.getD (σ k) 0) ∧
      (movnum = true → ∀ k, lo ≤ k → k < hi → lu'.getD (xlu + (k - xl)) z = lu.getD (xlu + (σ k - xl)) z) ∧
      ∀ e, (∀ k, lo ≤ k → k < e → pivoted permR (ls.getD k 0) = true) → ∀ k, k < e → σ k = k
  lu_same : movnum = false → lu' = lu
  lu_frame : ∀ q, q < xlu + (lo - xl) ∨ xlu + (hi - xl) ≤ q → lu'.getD q z = lu.getD q z

/-- what the partition loop guarantees on `[lo, hi)`: a rearrangement cut at `r.1` -/
structure PartOk {K : Type} (z : K) (permR : Array Int) (movnum : Bool) (xlu xl lo hi : Nat)
    (ls : Array Nat) (lu : Array K) (r : Nat × Array Nat × Array K) : Prop
    extends SegPerm z permR movnum xlu xl lo hi ls lu r.2.1 r.2.2 where
  lo_le : lo ≤ r.1
  le_hi : r.1 ≤ hi
  front : ∀ k, lo ≤ k → k < r.1 → pivoted permR (r.2.1.getD k 0) = true
  back : ∀ k, r.1 ≤ k → k < hi → pivoted permR (r.2.1.getD k 0) = false

variable {z permR movnum xlu xl} {f lo hi : Nat} {ls : Array Nat} {lu : Array K} {r : Nat × Array Nat × Array K}

theorem PartPre.retreat (h : PartPre movnum xlu xl (f + 1) lo hi ls lu) (hlt : lo < hi) :
    PartPre movnum xlu xl f lo (hi - 1) ls lu :=
  ⟨by have := h.fuel; omega, h.xl_le, Nat.le_sub_one_of_lt hlt, (Nat.sub_le ..).trans h.sz,
    fun hm => (shift_le (Nat.sub_le ..)).trans (h.lu hm)⟩

theorem PartPre.advance (h : PartPre movnum xlu xl (f + 1) lo hi ls lu) (hlt : lo < hi) :
    PartPre movnum xlu xl f (lo + 1) hi ls lu :=
  ⟨by have := h.fuel; omega, h.xl_le.trans (Nat.le_succ _), hlt, h.sz, h.lu⟩

theorem PartPre.swap (z : K) (h : PartPre movnum xlu xl (f + 1) lo hi ls lu) (hlt : lo < hi - 1) :
    PartPre movnum xlu xl f (lo + 1) (hi - 1) (swapAt ls lo (hi - 1) 0)
      (if movnum = true then swapAt lu (xlu + (lo - xl)) (xlu + (hi - 1 - xl)) z else lu) :=
  ⟨by have := h.fuel; omega, h.xl_le.trans (Nat.le_succ _), hlt, by rw [size_swapAt]; exact (Nat.sub_le ..).trans h.sz,
    fun hm => by rw [if_pos hm, size_swapAt]; exact (shift_le (Nat.sub_le ..)).trans (h.lu hm)⟩

theorem SegPerm.refl (lo hi : Nat) (ls : Array Nat) (lu : Array K) : SegPerm z permR movnum xlu xl lo hi ls lu ls lu :=
  ⟨rfl, rfl, ⟨Equiv.refl _, fun _ _ => rfl, fun _ => rfl, fun _ _ _ _ => rfl, fun _ _ _ _ => rfl⟩, fun _ => rfl, fun _ _ => rfl⟩

theorem PartOk.refl (lo : Nat) (ls : Array Nat) (lu : Array K) : PartOk z permR movnum xlu xl lo lo ls lu (lo, ls, lu) :=
  ⟨.refl .., le_refl _, le_refl _, fun _ h1 h2 => absurd h2 (Nat.not_lt.2 h1), fun _ h1 h2 => absurd h2 (Nat.not_lt.2 h1)⟩

/-- a partition of a subrange whose flanks in the original array are pivoted (left) and unpivoted (right) -/
theorem PartOk.widen {lo' hi' : Nat} (h : PartOk z permR movnum xlu xl lo' hi' ls lu r) (hxl : xl ≤ lo) (h1 : lo ≤ lo')
    (h2 : hi' ≤ hi) (hf : ∀ k, lo ≤ k → k < lo' → pivoted permR (ls.getD k 0) = true)
    (hb : ∀ k, hi' ≤ k → k < hi → pivoted permR (ls.getD k 0) = false) :
    PartOk z permR movnum xlu xl lo hi ls lu r := by
  obtain ⟨σ, s1, s3, s4, s5⟩ := h.perm
  have s1' : ∀ k, k < lo ∨ hi ≤ k → σ k = k := fun k hk => s1 k (hk.imp (·.trans_le h1) h2.trans)
  refine ⟨⟨h.size_ls, h.size_lu, ⟨σ, s1', s3, fun hm k k1 k2 => ?_, fun e he k hk => ?_⟩, h.lu_same,
    fun q hq => h.lu_frame q (hq.imp (·.trans_le (shift_le h1)) (shift_le h2).trans)⟩,
    h1.trans h.lo_le, h.le_hi.trans h2, fun k k1 k2 => ?_, fun k k1 k2 => ?_⟩
  · rcases Nat.lt_or_ge k lo' with hk | hk
    · rw [s1 k (Or.inl hk)]; exact h.lu_frame _ (Or.inl (shift_lt (hxl.trans k1) hk))
    · rcases Nat.lt_or_ge k hi' with hk' | hk'
      · exact s4 hm k hk hk'
      · rw [s1 k (Or.inr hk')]; exact h.lu_frame _ (Or.inr (shift_le hk'))
  · rcases Nat.lt_or_ge k lo' with hk' | hk'
    · exact s1 k (Or.inl hk')
    · exact s5 e (fun k' k1 k2 => he k' (h1.trans k1) k2) k hk
  · rcases Nat.lt_or_ge k lo' with hk | hk
    · rw [s3, s1 k (Or.inl hk)]; exact hf k k1 hk
    · exact h.front k hk k2
  · rcases Nat.lt_or_ge k hi' with hk | hk
    · exact h.back k k1 hk
    · rw [s3, s1 k (Or.inr hk)]; exact hb k hk k2

theorem PartOk.advance (h : PartOk z permR movnum xlu xl (lo + 1) hi ls lu r) (hxl : xl ≤ lo)
    (hB : pivoted permR (ls.getD lo 0) = true) : PartOk z permR movnum xlu xl lo hi ls lu r :=
  h.widen hxl (Nat.le_succ _) (le_refl _) (fun _ k1 k2 => Nat.le_antisymm (Nat.le_of_lt_succ k2) k1 ▸ hB)
    (fun _ k1 k2 => absurd k2 (Nat.not_lt.2 k1))

theorem PartOk.retreat (h : PartOk z permR movnum xlu xl lo (hi - 1) ls lu r) (hxl : xl ≤ lo)
    (hA : pivoted permR (ls.getD (hi - 1) 0) = false) : PartOk z permR movnum xlu xl lo hi ls lu r :=
  h.widen hxl (le_refl _) (Nat.sub_le ..) (fun _ k1 k2 => absurd k2 (Nat.not_lt.2 k1))
    (fun _ k1 k2 => Nat.le_antisymm (Nat.le_sub_one_of_lt k2) k1 ▸ hA)

/-- change of base: a rearrangement of the array with its first entry, an unpivoted row, interchanged with another of the range -/
theorem SegPerm.of_swap {j : Nat} {ls' : Array Nat} {lu' : Array K}
    (h : SegPerm z permR movnum xlu xl lo hi (swapAt ls lo j 0)
      (if movnum = true then swapAt lu (xlu + (lo - xl)) (xlu + (j - xl)) z else lu) ls' lu')
    (hxl : xl ≤ lo) (hB : pivoted permR (ls.getD lo 0) = false) (hlt : lo < hi) (hj1 : lo ≤ j) (hj2 : j < hi)
    (hsz : hi ≤ ls.size) (hlu : movnum = true → xlu + (hi - xl) ≤ lu.size) : SegPerm z permR movnum xlu xl lo hi ls lu ls' lu' := by
  obtain ⟨σ, s1, s3, s4, _⟩ := h.perm
  have t1 : ∀ k, k < lo ∨ hi ≤ k → (σ.trans (Equiv.swap lo j)) k = k := fun k hk => by
    rw [Equiv.trans_apply, s1 k hk]
    exact Equiv.swap_apply_of_ne_of_ne (by omega) (by omega)
  have t3 : ∀ k, ls'.getD k 0 = ls.getD ((σ.trans (Equiv.swap lo j)) k) 0 := fun k => by
    rw [s3, getD_swapAt _ _ _ _ _ (hlt.trans_le hsz) (hj2.trans_le hsz)]; rfl
  -- a leading run of pivoted rows is empty: the row at `lo` is not pivoted
  have t5 : ∀ e, (∀ k, lo ≤ k → k < e → pivoted permR (ls.getD k 0) = true) → ∀ k, k < e → (σ.trans (Equiv.swap lo j)) k = k :=
    fun e he k hk => t1 k (Or.inl (hk.trans_le (Nat.le_of_not_lt fun hlo => by rw [he lo (le_refl _) hlo] at hB; cases hB)))
  have hls := h.size_ls
  rw [size_swapAt] at hls
  cases movnum with
  | false => exact ⟨hls, h.size_lu, ⟨_, t1, t3, nofun, t5⟩, h.lu_same, h.lu_frame⟩
  | true =>
    have hq1 : xlu + (lo - xl) < lu.size := (shift_lt hxl hlt).trans_le (hlu rfl)
    have hq2 : xlu + (j - xl) < lu.size := (shift_lt (hxl.trans hj1) hj2).trans_le (hlu rfl)
    have hlus := h.size_lu
    rw [if_pos rfl, size_swapAt] at hlus
    refine ⟨hls, hlus, ⟨_, t1, t3, fun _ k k1 k2 => ?_, t5⟩, nofun, fun q hq => ?_⟩
    · rw [s4 rfl k k1 k2, if_pos rfl, getD_swapAt _ _ _ _ _ hq1 hq2,
        swap_shift _ _ _ _ _ hxl (hxl.trans hj1) (hxl.trans (perm_maps_seg s1 k k1 k2).1)]; rfl
    · have hne : ∀ m, lo ≤ m → m < hi → q ≠ xlu + (m - xl) := fun m m1 m2 e => by
        have := shift_lt (xlu := xlu) (hxl.trans m1) m2
        have := shift_le (xlu := xlu) (xl := xl) m1
        omega
      rw [h.lu_frame q hq, if_pos rfl, getD_swapAt _ _ _ _ _ hq1 hq2,
        Equiv.swap_apply_of_ne_of_ne (hne lo (le_refl _) hlt) (hne j hj1 hj2)]

variable (z permR movnum xlu xl)

theorem partLoop_ok (f lo hi : Nat) (ls : Array Nat) (lu : Array K) (hp : PartPre movnum xlu xl f lo hi ls lu) :
    PartOk z permR movnum xlu xl lo hi ls lu (partLoop z permR movnum xlu xl f lo hi ls lu) := by
  fun_induction partLoop z permR movnum xlu xl f lo hi ls lu with
  | case1 lo hi ls lu =>
    obtain rfl : hi = lo := Nat.le_antisymm (Nat.le_of_sub_eq_zero (Nat.le_zero.1 hp.fuel)) hp.le
    exact .refl ..
  | case2 f lo hi ls lu hlt hA ih => exact (ih (hp.retreat hlt)).retreat hp.xl_le (by simpa using hA)
  | case3 f lo hi ls lu hlt hA hB ih => exact (ih (hp.advance hlt)).advance hp.xl_le hB
  | case4 f lo hi ls lu hlt hA hB ls' lu' ih =>
    have hA : pivoted permR (ls.getD (hi - 1) 0) = true := by simpa using hA
    have hB : pivoted permR (ls.getD lo 0) = false := by simpa using hB
    have hlt' : lo < hi - 1 := Nat.lt_of_le_of_ne (Nat.le_sub_one_of_lt hlt) fun e => by rw [← e, hB] at hA; cases hA
    have hhi : hi - 1 < hi := Nat.sub_one_lt (Nat.ne_of_gt (Nat.zero_lt_of_lt hlt))
    have hl1 : lo < ls.size := hlt.trans_le hp.sz
    have hl2 : hi - 1 < ls.size := hhi.trans_le hp.sz
    -- the swapped array is partitioned on `[lo+1, hi-1)`, hence on `[lo, hi)`; the cut is the same for the array before the swap
    have ok := ((ih (hp.swap z hlt')).advance hp.xl_le (by rw [getD_swapAt _ _ _ _ _ hl1 hl2, Equiv.swap_apply_left]; exact hA)).retreat
      hp.xl_le (by rw [getD_swapAt _ _ _ _ _ hl1 hl2, Equiv.swap_apply_right]; exact hB)
    exact { ok with toSegPerm := ok.toSegPerm.of_swap hp.xl_le hB hlt hlt'.le hhi hp.sz hp.lu }
  | case5 f lo hi ls lu hlt =>
    obtain rfl : hi = lo := Nat.le_antisymm (Nat.le_of_not_lt hlt) hp.le
    exact .refl ..

/-- more fuel changes nothing: with `hi - lo ≤ f` the loop stops through `kmin <= kmax` failing -/
theorem partLoop_fuel_add (f g lo hi : Nat) (ls : Array Nat) (lu : Array K) (h : hi - lo ≤ f) :
    partLoop z permR movnum xlu xl (f+g) lo hi ls lu = partLoop z permR movnum xlu xl f lo hi ls lu := by
  fun_induction partLoop z permR movnum xlu xl f lo hi ls lu with
  | case1 lo hi ls lu => exact partLoop_done _ _ _ _ _ _ _ _ (by omega)
  | case2 f lo hi ls lu hlt hA ih => rw [Nat.succ_add, partLoop, if_pos hlt, if_pos hA]; exact ih (by omega)
  | case3 f lo hi ls lu hlt hA hB ih => rw [Nat.succ_add, partLoop, if_pos hlt, if_neg hA, if_pos hB]; exact ih (by omega)
  | case4 f lo hi ls lu hlt hA hB ls' lu' ih =>
    rw [Nat.succ_add, partLoop, if_pos hlt, if_neg hA, if_neg hB]; exact ih (by omega)
  | case5 f lo hi ls lu hlt => exact partLoop_done _ _ _ _ _ _ _ _ hlt

end partLoop

/-! ### dpruneL.c: one representative -/

/-- `movnum`: the supernode of `irep` has a single column (`irep == xsup[supno[irep]]`, dpruneL.c:117) -/
def movnumOf (a : PruneArgs) (irep : Nat) : Bool := a.xsup.getD (a.supno.getD irep 0).toNat 0 == irep

/-- decidable well-formedness of one representative: its segment lies inside `lsub`, its values inside `lusup` -/
structure PruneWf (a : PruneArgs) (lsubSize lusupSize xpruneSize irep : Nat) : Prop where
  mono : a.xlsub.getD irep 0 ≤ a.xlsub.getD (irep+1) 0
  inb : a.xlsub.getD (irep+1) 0 ≤ lsubSize
  xp : irep < xpruneSize
  lu : movnumOf a irep = true → a.xlusup.getD irep 0 + (a.xlsub.getD (irep+1) 0 - a.xlsub.getD irep 0) ≤ lusupSize

instance (a : PruneArgs) (s1 s2 s3 irep : Nat) : Decidable (PruneWf a s1 s2 s3 irep) :=
  decidable_of_iff (a.xlsub.getD irep 0 ≤ a.xlsub.getD (irep+1) 0 ∧ a.xlsub.getD (irep+1) 0 ≤ s1 ∧ irep < s3 ∧
      (movnumOf a irep = true → a.xlusup.getD irep 0 + (a.xlsub.getD (irep+1) 0 - a.xlsub.getD irep 0) ≤ s2))
    ⟨fun ⟨a, b, c, d⟩ => ⟨a, b, c, d⟩, fun ⟨a, b, c, d⟩ => ⟨a, b, c, d⟩⟩

/-- the tests of dpruneL.c:82-109 for `irep` in the current state: both skip tests pass and `do_prune` is set -/
def prunes {K : Type} (a : PruneArgs) (st : PruneSt K) (irep : Nat) : Bool :=
  eligible a irep && doPrune a st.lsub st.xprune irep

theorem pruneStep_eq {K : Type} (z : K) (a : PruneArgs) (st : PruneSt K) (i : Nat) :
    pruneStep z a st i = if prunes a st (a.segrep.getD i 0) then pruneOne z a st (a.segrep.getD i 0) else st := by
  unfold pruneStep prunes
  dsimp only
  generalize a.segrep.getD i 0 = irep
  cases eligible a irep <;> cases doPrune a st.lsub st.xprune irep <;> rfl

theorem seg_disjoint {xlsub : Array Nat} (hmono : ∀ i j, i ≤ j → j < xlsub.size → xlsub.getD i 0 ≤ xlsub.getD j 0)
    {c d : Nat} (hc : c + 1 < xlsub.size) (hd : d + 1 < xlsub.size) (hcd : c ≠ d) {k : Nat}
    (h1 : xlsub.getD c 0 ≤ k) (h2 : k < xlsub.getD (c+1) 0) : k < xlsub.getD d 0 ∨ xlsub.getD (d+1) 0 ≤ k := by
  rcases Nat.lt_or_gt_of_ne hcd with hlt | hgt
  · have := hmono (c+1) d (by omega) (by omega); left; omega
  · have := hmono (d+1) c (by omega) (by omega); right; omega

/-- the list of column `c` is cut at `xprune[c]`: pivoted rows before, unpivoted rows from there on -/
def CutAt {K : Type} (a : PruneArgs) (st : PruneSt K) (c : Nat) : Prop :=
  a.xlsub.getD c 0 ≤ st.xprune.getD c 0 ∧ st.xprune.getD c 0 ≤ a.xlsub.getD (c+1) 0 ∧
  (∀ k, a.xlsub.getD c 0 ≤ k → k < st.xprune.getD c 0 → pivoted a.permR (st.lsub.getD k 0) = true) ∧
  (∀ k, st.xprune.getD c 0 ≤ k → k < a.xlsub.getD (c+1) 0 → pivoted a.permR (st.lsub.getD k 0) = false)

/-- what ONE turn `st ↦ o` of the loop over `segrep`, on the representative `irep`, guarantees (the statements about a turn
and about the whole call use nothing else): the list of `irep` is rearranged (`SegPerm`; not at all if the turn does not
prune), and if the turn prunes the list is cut at `xprune[irep]` -/
structure StepOk {K : Type} (z : K) (a : PruneArgs) (st o : PruneSt K) (irep : Nat) : Prop where
  perm : SegPerm z a.permR (movnumOf a irep) (a.xlusup.getD irep 0) (a.xlsub.getD irep 0) (a.xlsub.getD irep 0)
    (a.xlsub.getD (irep+1) 0) st.lsub st.lusup o.lsub o.lusup
  szX : o.xprune.size = st.xprune.size
  xprune : ∀ j, j ≠ irep → o.xprune.getD j 0 = st.xprune.getD j 0
  cut : prunes a st irep = true → CutAt a o irep
  same : prunes a st irep = false → o = st

theorem pruneStep_ok {K : Type} (z : K) (a : PruneArgs) (st : PruneSt K) (i : Nat)
    (h : PruneWf a st.lsub.size st.lusup.size st.xprune.size (a.segrep.getD i 0)) :
    StepOk z a st (pruneStep z a st i) (a.segrep.getD i 0) := by
  rw [pruneStep_eq]
  generalize a.segrep.getD i 0 = irep at h ⊢
  cases hp : prunes a st irep
  · exact ⟨.refl .., rfl, fun _ _ => rfl, (fun hf => nomatch hp.symm.trans hf), fun _ => rfl⟩
  · have hok := partLoop_ok z a.permR (movnumOf a irep) (a.xlusup.getD irep 0) (a.xlsub.getD irep 0) _ _ _ st.lsub st.lusup
      ⟨le_refl _, le_refl _, h.mono, h.inb, h.lu⟩
    rw [if_pos rfl]
    -- `movnumOf a irep` is, word for word, the `movnum` that `pruneOne` computes (dpruneL.c:116-118)
    unfold pruneOne movnumOf at *
    dsimp only
    generalize partLoop z a.permR _ _ _ _ _ _ st.lsub st.lusup = r at hok ⊢
    refine ⟨hok.toSegPerm, Array.size_setIfInBounds, fun j hj => getD_setIfInBounds_ne _ _ _ (Ne.symm hj), fun _ => ?_,
      fun hf => nomatch hp.symm.trans hf⟩
    rw [CutAt, getD_setIfInBounds_self _ _ _ h.xp]
    exact ⟨hok.lo_le, hok.le_hi, hok.front, hok.back⟩

namespace StepOk
variable {K : Type} {a : PruneArgs} {st o : PruneSt K} {irep : Nat} {z : K} (ok : StepOk z a st o irep)
include ok

theorem wf {c : Nat} (h : PruneWf a st.lsub.size st.lusup.size st.xprune.size c) :
    PruneWf a o.lsub.size o.lusup.size o.xprune.size c := by
  rw [ok.perm.size_ls, ok.perm.size_lu, ok.szX]; exact h

/-- a cut made earlier survives the turn (the segments of different columns are disjoint) -/
theorem cutAt (hmono : ∀ i j, i ≤ j → j < a.xlsub.size → a.xlsub.getD i 0 ≤ a.xlsub.getD j 0)
    (hi : irep + 1 < a.xlsub.size) {c : Nat} (hc : c + 1 < a.xlsub.size) (hcut : CutAt a st c) : CutAt a o c := by
  by_cases hci : c = irep
  · subst hci
    cases hp : prunes a st c
    · exact ok.same hp ▸ hcut
    · exact ok.cut hp
  · -- another column: its list and its `xprune` entry are untouched
    obtain ⟨σ, s1, s3, _⟩ := ok.perm.perm
    obtain ⟨d1, d2, d3, d4⟩ := hcut
    have hfix : ∀ k, a.xlsub.getD c 0 ≤ k → k < a.xlsub.getD (c+1) 0 → o.lsub.getD k 0 = st.lsub.getD k 0 :=
      fun k k1 k2 => by rw [s3, s1 k (seg_disjoint hmono hc hi hci k1 k2)]
    rw [CutAt, ok.xprune c hci]
    exact ⟨d1, d2, fun k k1 k2 => by rw [hfix k k1 (k2.trans_le d2)]; exact d3 k k1 k2,
      fun k k1 k2 => by rw [hfix k (d1.trans k1) k2]; exact d4 k k1 k2⟩

end StepOk

/-- the fold of `pruneStep` over any list of turns: all sizes are kept and `lsub` afterwards is `lsub` before read
through ONE permutation `σ` of the positions; `σ` stays inside every set of positions `X` that each processed
segment `[xlsub[irep], xlsub[irep+1])` either lies in or misses.  The last clause is stated for all `X` so that one
induction serves both uses: `X := (· = k)` for a position `k` in no processed segment gives `σ k = k` (the frame of
`pruneL_perm`), `X :=` the list of a column gives that `σ` maps every list to itself (`pruneL_segperm`). -/
theorem pruneL_fold_inv {K : Type} (z : K) (a : PruneArgs) : ∀ (is : List Nat) (st : PruneSt K),
    (∀ i ∈ is, PruneWf a st.lsub.size st.lusup.size st.xprune.size (a.segrep.getD i 0)) →
    (is.foldl (pruneStep z a) st).lsub.size = st.lsub.size ∧ (is.foldl (pruneStep z a) st).lusup.size = st.lusup.size ∧
    (is.foldl (pruneStep z a) st).xprune.size = st.xprune.size ∧
    ∃ σ : Equiv.Perm ℕ, (∀ k, (is.foldl (pruneStep z a) st).lsub.getD k 0 = st.lsub.getD (σ k) 0) ∧
      ∀ X : Nat → Prop, (∀ i ∈ is,
          (∀ k, a.xlsub.getD (a.segrep.getD i 0) 0 ≤ k → k < a.xlsub.getD (a.segrep.getD i 0 + 1) 0 → X k) ∨
          (∀ k, a.xlsub.getD (a.segrep.getD i 0) 0 ≤ k → k < a.xlsub.getD (a.segrep.getD i 0 + 1) 0 → ¬ X k)) →
        ∀ k, X k → X (σ k) := by
  intro is
  induction is with
  | nil => intro st _; exact ⟨rfl, rfl, rfl, Equiv.refl _, fun _ => rfl, fun _ _ _ h => h⟩
  | cons i is ih =>
    intro st hwf
    have ok := pruneStep_ok z a st i (hwf i List.mem_cons_self)
    obtain ⟨σ1, s1, s3, _⟩ := ok.perm.perm
    obtain ⟨y1, y2, y3, σ2, t1, t2⟩ := ih (pruneStep z a st i) fun j hj => ok.wf (hwf j (List.mem_cons_of_mem _ hj))
    refine ⟨y1.trans ok.perm.size_ls, y2.trans ok.perm.size_lu, y3.trans ok.szX, σ2.trans σ1, fun k => by rw [List.foldl_cons, t1]; exact s3 _,
      fun X hX k hk => ?_⟩
    have h2 : X (σ2 k) := t2 X (fun j hj => hX j (List.mem_cons_of_mem _ hj)) k hk
    show X (σ1 (σ2 k))
    by_cases hin : a.xlsub.getD (a.segrep.getD i 0) 0 ≤ σ2 k ∧ σ2 k < a.xlsub.getD (a.segrep.getD i 0 + 1) 0
    · rcases hX i List.mem_cons_self with hX | hX
      · exact hX _ (perm_maps_seg s1 _ hin.1 hin.2).1 (perm_maps_seg s1 _ hin.1 hin.2).2
      · exact absurd h2 (hX _ hin.1 hin.2)
    · rwa [s1 _ (by omega)]

/-! ### dsnode_dfs.c -/

section snode
open Slu.Struct

theorem snodeVisit_marked {kcol : Nat} {st : SnodeSt} {r : Nat} (h : st.marker.getD r EMPTY = (kcol : Int)) :
    snodeVisit kcol st r = st := by
  rw [snodeVisit, h, if_neg (by simp)]

theorem snodeVisit_fresh {kcol : Nat} {st : SnodeSt} {r : Nat} (h : st.marker.getD r EMPTY ≠ (kcol : Int)) :
    snodeVisit kcol st r =
      { st with marker := st.marker.setIfInBounds r kcol, lsub := st.lsub.setIfInBounds st.nextl r, nextl := st.nextl + 1 } := by
  rw [snodeVisit, if_pos (by simpa using h)]

theorem markerFilter_length_le (rows acc : List Nat) : acc.length ≤ (markerFilter rows acc).length := by
  fun_induction markerFilter rows acc with
  | case1 acc => exact le_refl _
  | case2 r rs acc hc ih => exact ih
  | case3 r rs acc hc ih => exact (by simp : acc.length ≤ (acc ++ [r]).length).trans ih

theorem markerFilter_append (a b acc : List Nat) : markerFilter (a ++ b) acc = markerFilter b (markerFilter a acc) := by
  induction a generalizing acc with
  | nil => rfl
  | cons r rs ih =>
    rw [List.cons_append, markerFilter, markerFilter]
    split <;> exact ih _

/-- invariant of the marker loop of dsnode_dfs.c:84-96: `acc` = the rows stored so far -/
structure SnodeInv (kcol first : Nat) (ls0 : Array Nat) (mk0 : Array Int) (st : SnodeSt) (acc : List Nat) : Prop where
  nextl : st.nextl = first + acc.length
  lsub : Filled 0 ls0 first acc.length (acc.getD · 0) st.lsub
  mark : ∀ r, r < mk0.size → (st.marker.getD r EMPTY = (kcol : Int) ↔ r ∈ acc)
  mark_else : ∀ r, r ∉ acc → st.marker.getD r EMPTY = mk0.getD r EMPTY
  msize : st.marker.size = mk0.size

variable {kcol first : Nat} {ls0 : Array Nat} {mk0 : Array Int}

theorem SnodeInv.push {st : SnodeSt} {acc : List Nat} (h : SnodeInv kcol first ls0 mk0 st acc) {r : Nat}
    (hr : r < mk0.size) (hcap : first + acc.length < ls0.size) :
    SnodeInv kcol first ls0 mk0
      { st with marker := st.marker.setIfInBounds r kcol, lsub := st.lsub.setIfInBounds st.nextl r, nextl := st.nextl + 1 }
      (acc ++ [r]) := by
  have hl : (acc ++ [r]).length = acc.length + 1 := List.length_append
  refine ⟨by rw [hl, h.nextl]; rfl, ?_, fun r' hr' => ?_, fun r' hr' => ?_, Array.size_setIfInBounds.trans h.msize⟩
  · have := h.lsub.push (g' := ((acc ++ [r]).getD · 0)) hcap fun t ht => getD_append_of_lt _ _ _ ht
    rwa [getD_append_singleton_length, ← h.nextl, ← hl] at this
  · show (st.marker.setIfInBounds r kcol).getD r' EMPTY = _ ↔ _
    rw [getD_setIfInBounds, List.mem_append, List.mem_singleton, ← h.mark r' hr']
    by_cases e : r = r'
    · rw [if_pos ⟨e, by rw [h.msize]; exact hr⟩]; simp [e]
    · rw [if_neg (fun c => e c.1)]; simp [Ne.symm e]
  · rw [List.mem_append, List.mem_singleton, not_or] at hr'
    show (st.marker.setIfInBounds r kcol).getD r' EMPTY = _
    rw [getD_setIfInBounds_ne _ _ _ (Ne.symm hr'.2), h.mark_else r' hr'.1]

theorem SnodeInv.fold (rows : List Nat) {st : SnodeSt} {acc : List Nat} (h : SnodeInv kcol first ls0 mk0 st acc)
    (hr : ∀ r ∈ rows, r < mk0.size) (hcap : first + (markerFilter rows acc).length ≤ ls0.size) :
    SnodeInv kcol first ls0 mk0 (rows.foldl (snodeVisit kcol) st) (markerFilter rows acc) := by
  fun_induction markerFilter rows acc generalizing st with
  | case1 acc => exact h
  | case2 r rs acc hc ih =>
    have hrm := hr r List.mem_cons_self
    rw [List.foldl_cons, snodeVisit_marked ((h.mark r hrm).2 (List.contains_iff_mem.1 hc))]
    exact ih h (fun x hx => hr x (List.mem_cons_of_mem _ hx)) hcap
  | case3 r rs acc hc ih =>
    have hrm := hr r List.mem_cons_self
    rw [List.foldl_cons, snodeVisit_fresh fun c => hc (List.contains_iff_mem.2 ((h.mark r hrm).1 c))]
    have := markerFilter_length_le rs (acc ++ [r])
    rw [List.length_append, List.length_singleton] at this
    exact ih (h.push hrm (by omega)) (fun x hx => hr x (List.mem_cons_of_mem _ hx)) hcap

theorem snodeVisit_with_supno (kcol : Nat) (st : SnodeSt) (s : Array Int) (r : Nat) :
    snodeVisit kcol { st with supno := s } r = { snodeVisit kcol st r with supno := s } := by
  unfold snodeVisit; dsimp only; split <;> rfl

theorem snodeVisit_fold_with_supno (kcol : Nat) (rows : List Nat) (st : SnodeSt) (s : Array Int) :
    rows.foldl (snodeVisit kcol) { st with supno := s } = { rows.foldl (snodeVisit kcol) st with supno := s } := by
  induction rows generalizing st with
  | nil => rfl
  | cons r rs ih => rw [List.foldl_cons, List.foldl_cons, snodeVisit_with_supno, ih]

theorem snodeVisit_fold_supno (kcol : Nat) (rows : List Nat) (st : SnodeSt) :
    (rows.foldl (snodeVisit kcol) st).supno = st.supno :=
  (congrArg SnodeSt.supno (snodeVisit_fold_with_supno kcol rows st st.supno) :)

/-- the loop over the columns, flattened: the marker loop runs over all their rows in turn, and `supno` is set apart -/
theorem snodeCols_eq (kcol : Nat) (nsuper : Int) (asub xaB xaE : Array Nat) (cols : List Nat) (st : SnodeSt) :
    cols.foldl (snodeCol kcol nsuper asub xaB xaE) st =
      { (cols.flatMap (colRows asub xaB xaE)).foldl (snodeVisit kcol) st with
        supno := cols.foldl (fun s i => s.setIfInBounds i nsuper) st.supno } := by
  induction cols generalizing st with
  | nil => rfl
  | cons i is ih =>
    rw [List.foldl_cons, ih, List.flatMap_cons, List.foldl_append, List.foldl_cons]
    show SnodeSt.mk _ _ _ _ = _
    rw [snodeCol, snodeVisit_fold_with_supno, snodeVisit_fold_supno]

theorem copyDup_spec (n ifrom ito : Nat) (ls : Array Nat) (h1 : ifrom + n ≤ ito) (h2 : ito + n ≤ ls.size) :
    Filled 0 ls ito n (fun t => ls.getD (ifrom + t) 0) (copyDup n ifrom ito ls) := by
  fun_induction copyDup n ifrom ito ls with
  | case1 ifrom ito ls => exact .nil ..
  | case2 n ifrom ito ls ih =>
    obtain ⟨c1, c3, c2⟩ := ih (by omega) (by rw [Array.size_setIfInBounds]; omega)
    refine ⟨c1.trans Array.size_setIfInBounds, fun t ht => ?_, fun k hk => ?_⟩
    · cases t with
      | zero => rw [c2 _ (by omega), getD_setIfInBounds, if_pos ⟨rfl, by omega⟩]; rfl
      | succ t => rw [← Nat.add_assoc, Nat.add_right_comm, c3 t (by omega), getD_setIfInBounds_ne _ _ _ (by omega)]; congr 1; omega
    · rw [c2 k (by omega), getD_setIfInBounds_ne _ _ _ (by omega)]

/-- all subscripts of columns `jcol..kcol` of A in the order dsnode_dfs.c visits them -/
def snodeRows (jcol kcol : Nat) (asub xaB xaE : Array Nat) : List Nat :=
  (List.range' jcol (kcol + 1 - jcol)).flatMap (colRows asub xaB xaE)

/-- decidable well-formedness of a call of `snodeDfs`.  `fresh`: the marks are column numbers (`marker[krow] = kcol`,
dsnode_dfs.c:88) and `kcol` exceeds every column marked before, so no entry equals it yet.  `cap`: the capacity the
tests `nextl >= nzlmax` (dsnode_dfs.c:90) and `new_next >= nzlmax` (line 103) would otherwise ask `LUMemXpand` for; the factor 2 is the second copy
of the list kept for pruning when the supernode has more than one column (lines 101-111). -/
structure SnodeWf (jcol kcol : Nat) (asub xaB xaE : Array Nat) (marker : Array Int) (lsub xlsub xprune : Array Nat) : Prop where
  le : jcol ≤ kcol
  rows_lt : ∀ i ∈ List.range' jcol (kcol + 1 - jcol), ∀ r ∈ colRows asub xaB xaE i, r < marker.size
  fresh : ∀ x ∈ marker.toList, x ≠ (kcol : Int)
  cap : xlsub.getD jcol 0 + (if jcol < kcol then 2 else 1) * (markerFilter (snodeRows jcol kcol asub xaB xaE) []).length ≤ lsub.size
  xl : kcol + 1 < xlsub.size
  xp : kcol < xprune.size

instance (jcol kcol : Nat) (asub xaB xaE : Array Nat) (marker : Array Int) (lsub xlsub xprune : Array Nat) :
    Decidable (SnodeWf jcol kcol asub xaB xaE marker lsub xlsub xprune) :=
  decidable_of_iff (jcol ≤ kcol ∧ (∀ i ∈ List.range' jcol (kcol + 1 - jcol), ∀ r ∈ colRows asub xaB xaE i, r < marker.size) ∧
    (∀ x ∈ marker.toList, x ≠ (kcol : Int)) ∧
    xlsub.getD jcol 0 + (if jcol < kcol then 2 else 1) * (markerFilter (snodeRows jcol kcol asub xaB xaE) []).length ≤ lsub.size ∧
    kcol + 1 < xlsub.size ∧ kcol < xprune.size)
    ⟨fun ⟨a, b, c, d, e, f⟩ => ⟨a, b, c, d, e, f⟩, fun ⟨a, b, c, d, e, f⟩ => ⟨a, b, c, d, e, f⟩⟩

/-- the loop dsnode_dfs.c:82-98 of `snodeDfs`, taken out of its `let`s so that statements can name its result -/
def snodeLoop (jcol kcol : Nat) (asub xaB xaE : Array Nat) (marker : Array Int) (supno : Array Int) (lsub xlsub : Array Nat) : SnodeSt :=
  (List.range' jcol (kcol + 1 - jcol)).foldl (snodeCol kcol (supno.getD jcol 0 + 1) asub xaB xaE)
    { marker := marker, lsub := lsub, nextl := xlsub.getD jcol 0, supno := supno.setIfInBounds jcol (supno.getD jcol 0 + 1) }

theorem SnodeInv.with_supno {st : SnodeSt} {acc : List Nat} (h : SnodeInv kcol first ls0 mk0 st acc) (s : Array Int) :
    SnodeInv kcol first ls0 mk0 { st with supno := s } acc :=
  ⟨h.nextl, h.lsub, h.mark, h.mark_else, h.msize⟩

theorem snodeLoop_inv {jcol kcol : Nat} {asub xaB xaE : Array Nat} {marker : Array Int} {lsub xlsub xprune : Array Nat}
    (supno : Array Int) (h : SnodeWf jcol kcol asub xaB xaE marker lsub xlsub xprune) :
    SnodeInv kcol (xlsub.getD jcol 0) lsub marker
      (snodeLoop jcol kcol asub xaB xaE marker supno lsub xlsub) (markerFilter (snodeRows jcol kcol asub xaB xaE) []) := by
  rw [snodeLoop, snodeCols_eq]
  apply SnodeInv.with_supno
  refine SnodeInv.fold _ (acc := []) ⟨rfl, .nil .., fun r hr => ?_, fun _ _ => rfl, rfl⟩ ?_ ?_
  · have : marker.getD r EMPTY ∈ marker.toList := by
      simp only [Array.getD_eq_getD_getElem?, Array.getElem?_eq_getElem hr, Option.getD_some]
      exact Array.getElem_mem_toList hr
    simp only [List.not_mem_nil, iff_false]
    exact h.fresh _ this
  · intro r hr
    obtain ⟨i, hi, hri⟩ := List.mem_flatMap.1 hr
    exact h.rows_lt i hi r hri
  · have := h.cap
    unfold snodeRows at this
    split at this <;> omega

/-- `snodeDfs` field by field.  Both branches of `if jcol < kcol` (dsnode_dfs.c:101-113) are written as one: a supernode of
one column copies `m = 0` subscripts and sets `xlsub` on the empty range -/
theorem snodeDfs_unfold (jcol kcol : Nat) (asub xaB xaE xprune : Array Nat) (marker : Array Int)
    (xsup : Array Nat) (supno : Array Int) (lsub xlsub : Array Nat) :
    let st := snodeLoop jcol kcol asub xaB xaE marker supno lsub xlsub
    let m := if jcol < kcol then st.nextl - xlsub.getD jcol 0 else 0
    let o := snodeDfs jcol kcol asub xaB xaE xprune marker xsup supno lsub xlsub
    o.marker = st.marker ∧
    o.lsub = copyDup m (xlsub.getD jcol 0) st.nextl st.lsub ∧
    o.xlsub = ((List.range' (jcol+1) (kcol - jcol)).foldl (fun x i => x.setIfInBounds i st.nextl) xlsub).setIfInBounds (kcol+1)
        (st.nextl + m) ∧
    o.xprune = xprune.setIfInBounds kcol (st.nextl + m) ∧
    o.supno = st.supno.setIfInBounds (kcol+1) (supno.getD jcol 0 + 1) ∧
    o.xsup = xsup.setIfInBounds (supno.getD jcol 0 + 1 + 1).toNat (kcol+1) := by
  by_cases h : jcol < kcol
  · simp [snodeDfs, snodeLoop, h]
  · simp [snodeDfs, snodeLoop, h, Nat.sub_eq_zero_of_le (Nat.le_of_not_lt h), copyDup]

/-- what `snodeDfs` guarantees about subscripts, pointers and marks: `U` is the stored list, `first` where it
starts, `stop` where the (one or two) copies end (what happens to `supno` / `xsup` is `snodeDfs_supno`, Props/C03.lean) -/
structure SnodeOk (U : List Nat) (first stop jcol kcol : Nat) (marker : Array Int) (lsub xlsub : Array Nat) (o : SnodeOut) :
    Prop where
  seg : segList o.lsub first U.length = U
  dup : jcol < kcol → segList o.lsub (first + U.length) U.length = U
  size : o.lsub.size = lsub.size
  frame : ∀ k, k < first ∨ stop ≤ k → o.lsub.getD k 0 = lsub.getD k 0
  xl_end : o.xlsub.getD (kcol+1) 0 = stop
  xp : o.xprune.getD kcol 0 = stop
  xl_in : ∀ i, jcol < i → i ≤ kcol → o.xlsub.getD i 0 = first + U.length
  xl_frame : ∀ i, i ≤ jcol ∨ kcol + 1 < i → o.xlsub.getD i 0 = xlsub.getD i 0
  mark : ∀ r, r < marker.size → (o.marker.getD r EMPTY = (kcol : Int) ↔ r ∈ U)
  mark_else : ∀ r, r ∉ U → o.marker.getD r EMPTY = marker.getD r EMPTY

theorem snodeDfs_main {jcol kcol : Nat} {asub xaB xaE : Array Nat} {marker : Array Int} {lsub xlsub xprune : Array Nat}
    (xsup : Array Nat) (supno : Array Int) (h : SnodeWf jcol kcol asub xaB xaE marker lsub xlsub xprune) :
    SnodeOk (markerFilter (snodeRows jcol kcol asub xaB xaE) []) (xlsub.getD jcol 0)
      (xlsub.getD jcol 0 + (if jcol < kcol then 2 else 1) * (markerFilter (snodeRows jcol kcol asub xaB xaE) []).length)
      jcol kcol marker lsub xlsub (snodeDfs jcol kcol asub xaB xaE xprune marker xsup supno lsub xlsub) := by
  have inv := snodeLoop_inv supno h
  obtain ⟨e1, e2, e3, e4, _, _⟩ := snodeDfs_unfold jcol kcol asub xaB xaE xprune marker xsup supno lsub xlsub
  have hcap := h.cap
  have hn := inv.nextl
  have hle := h.le
  have hxl := h.xl
  generalize markerFilter (snodeRows jcol kcol asub xaB xaE) [] = U at inv hcap hn ⊢
  generalize snodeLoop jcol kcol asub xaB xaE marker supno lsub xlsub = st at inv e1 e2 e3 e4 hn
  generalize snodeDfs jcol kcol asub xaB xaE xprune marker xsup supno lsub xlsub = o at e1 e2 e3 e4 ⊢
  generalize xlsub.getD jcol 0 = first at inv e2 e3 e4 hcap hn ⊢
  rw [hn, Nat.add_sub_cancel_left] at e2 e3 e4
  have hs : first + U.length + (if jcol < kcol then U.length else 0) = first + (if jcol < kcol then 2 else 1) * U.length ∧
      (if jcol < kcol then U.length else 0) ≤ U.length := by split <;> omega
  generalize hm : (if jcol < kcol then U.length else 0) = m at e2 e3 e4 hs
  generalize first + (if jcol < kcol then 2 else 1) * U.length = stop at hcap hs ⊢
  rw [hs.1] at e3 e4
  obtain ⟨l1, l3, l2⟩ := copyDup_spec m first (first + U.length) st.lsub (by omega) (by rw [inv.lsub.size]; omega)
  obtain ⟨x1, x2, x3⟩ := foldl_setRange (first + U.length) 0 (kcol - jcol) (jcol + 1) xlsub
  refine ⟨?_, fun hjk => ?_, e2 ▸ l1.trans inv.lsub.size, fun k hk => ?_, ?_, ?_, fun i h1 h2 => ?_, fun i hi => ?_, ?_, ?_⟩
  · exact segList_eq_of fun t ht => by rw [e2, l2 _ (Or.inl (Nat.add_lt_add_left ht _))]; exact inv.lsub.seg t ht
  · rw [if_pos hjk] at hm
    exact segList_eq_of fun t ht => by rw [e2, l3 t (hm ▸ ht)]; exact inv.lsub.seg t ht
  · rw [e2, l2 k (hk.imp (·.trans_le (Nat.le_add_right ..)) hs.1.le.trans)]
    exact inv.lsub.frame k (hk.imp id ((Nat.le_add_right ..).trans hs.1.le).trans)
  · rw [e3, getD_setIfInBounds_self _ _ _ (by rw [x1]; exact hxl)]
  · rw [e4, getD_setIfInBounds_self _ _ _ h.xp]
  · rw [e3, getD_setIfInBounds_ne _ _ _ (by omega), x2 i h1 (by omega) (by omega)]
  · rw [e3, getD_setIfInBounds_ne _ _ _ (by omega), x3 i (by omega)]
  · rw [e1]; exact inv.mark
  · rw [e1]; exact inv.mark_else

end snode

/-! ### dcopy_to_ucol.c -/

/-- the body of the gather loop dcopy_to_ucol.c:95-102, one row -/
def ucolPut {K : Type} (z : K) (permR : Array Int) (st : UcolSt K) (irow : Nat) : UcolSt K :=
  { nextu := st.nextu + 1
    usub := st.usub.setIfInBounds st.nextu (permR.getD irow EMPTY)
    ucol := st.ucol.setIfInBounds st.nextu (st.dense.getD irow z)
    dense := st.dense.setIfInBounds irow z }

/-- the rows of the U-segment of `krep` (`lsub[isub .. isub+segsze)`, dcopy_to_ucol.c:80-82), `[]` when it is skipped -/
def ucolRows (a : UcolArgs) (krep : Nat) : List Nat :=
  if ucolKeeps a krep then
    segList a.lsub (a.xlsub.getD (a.xsup.getD (a.supno.getD krep 0).toNat 0) 0 + (a.repfnz.getD krep EMPTY).toNat
        - a.xsup.getD (a.supno.getD krep 0).toNat 0) (krep - (a.repfnz.getD krep EMPTY).toNat + 1)
  else []

/-- all rows gathered by the call, in order: segments in the order `segrep[nseg-1], …, segrep[0]` -/
def ucolAllRows (a : UcolArgs) : List Nat :=
  (List.range a.nseg).flatMap (fun ksub => ucolRows a (a.segrep.getD (a.nseg - 1 - ksub) 0))

section ucol
variable {K : Type} (z : K)

theorem copySeg_eq (permR : Array Int) (lsub : Array Nat) (n isub : Nat) (st : UcolSt K) :
    copySeg z permR lsub n isub st = (segList lsub isub n).foldl (ucolPut z permR) st := by
  induction n generalizing isub st with
  | zero => rfl
  | succ n ih => rw [copySeg, segList_succ, List.foldl_cons, ih]; rfl

theorem ucolStep_eq (a : UcolArgs) (st : UcolSt K) (ksub : Nat) :
    ucolStep z a st ksub = (ucolRows a (a.segrep.getD (a.nseg - 1 - ksub) 0)).foldl (ucolPut z a.permR) st := by
  rw [ucolStep, ucolRows]
  cases ucolKeeps a (a.segrep.getD (a.nseg - 1 - ksub) 0)
  · rfl
  · exact copySeg_eq ..

/-- the two nested loops of dcopy_to_ucol.c, flattened: one gather loop over all rows -/
theorem copyToUcol_fst (a : UcolArgs) (xusub : Array Nat) (usub : Array Int) (ucol dense : Array K) :
    (copyToUcol z a xusub usub ucol dense).1 =
      (ucolAllRows a).foldl (ucolPut z a.permR) { nextu := xusub.getD a.jcol 0, usub := usub, ucol := ucol, dense := dense } := by
  rw [ucolAllRows, List.foldl_flatMap]
  exact congrArg (fun f => List.foldl f _ _) (funext fun st => funext fun ksub => ucolStep_eq z a st ksub)

/-- invariant of the gather loop over the rows `R`: the first `n` of them are gathered -/
structure UcolInv {K : Type} (z : K) (permR : Array Int) (nextu0 : Nat) (usub0 : Array Int) (ucol0 dense0 : Array K)
    (R : List Nat) (st : UcolSt K) (n : Nat) : Prop where
  nextu : st.nextu = nextu0 + n
  usub : Filled 0 usub0 nextu0 n (fun t => permR.getD (R.getD t 0) EMPTY) st.usub
  ucol : Filled z ucol0 nextu0 n (fun t => if R.getD t 0 ∈ R.take t then z else dense0.getD (R.getD t 0) z) st.ucol
  szD : st.dense.size = dense0.size
  dense : ∀ r, st.dense.getD r z = if r ∈ R.take n then z else dense0.getD r z

variable {z} {permR : Array Int} {nextu0 : Nat} {usub0 : Array Int} {ucol0 dense0 : Array K} {R : List Nat}

theorem UcolInv.push {st : UcolSt K} {n : Nat} (h : UcolInv z permR nextu0 usub0 ucol0 dense0 R st n) (hn : n < R.length)
    (hr : R[n] < dense0.size) (hu : nextu0 + n < usub0.size) (hc : nextu0 + n < ucol0.size) :
    UcolInv z permR nextu0 usub0 ucol0 dense0 R (ucolPut z permR st R[n]) (n + 1) := by
  have hg := list_getD_eq_getElem R n hn 0
  refine ⟨by rw [← Nat.add_assoc, ← h.nextu]; rfl, ?_, ?_, Array.size_setIfInBounds.trans h.szD, fun r => ?_⟩
  · have := h.usub.push hu fun _ _ => rfl
    rwa [hg, ← h.nextu] at this
  · have := h.ucol.push hc fun _ _ => rfl
    rwa [← h.dense, hg, ← h.nextu] at this
  · show (st.dense.setIfInBounds R[n] z).getD r z = _
    rw [getD_setIfInBounds, h.dense, List.take_succ_eq_append_getElem hn]
    simp only [List.mem_append, List.mem_singleton]
    by_cases e : R[n] = r
    · rw [if_pos ⟨e, by rw [h.szD]; exact hr⟩, if_pos (Or.inr e.symm)]
    · rw [if_neg (fun c => e c.1)]; simp only [Ne.symm e, or_false]

theorem UcolInv.fold {st : UcolSt K} (h : UcolInv z permR nextu0 usub0 ucol0 dense0 R st 0)
    (hr : ∀ r ∈ R, r < dense0.size) (hu : nextu0 + R.length ≤ usub0.size) (hc : nextu0 + R.length ≤ ucol0.size) (n : Nat)
    (hn : n ≤ R.length) : UcolInv z permR nextu0 usub0 ucol0 dense0 R ((R.take n).foldl (ucolPut z permR) st) n := by
  induction n with
  | zero => exact h
  | succ n ih =>
    rw [List.take_succ_eq_append_getElem hn, List.foldl_append]
    exact (ih (Nat.le_of_succ_le hn)).push hn (hr _ (List.getElem_mem hn)) (by omega) (by omega)
end ucol

/-- decidable well-formedness of a call of `copyToUcol`: the capacity the test `new_next > nzumax` (dcopy_to_ucol.c:85) would ask for, rows inside `dense` -/
structure UcolWf (a : UcolArgs) (xusub : Array Nat) (usubSize ucolSize denseSize : Nat) : Prop where
  capU : xusub.getD a.jcol 0 + (ucolAllRows a).length ≤ usubSize
  capC : xusub.getD a.jcol 0 + (ucolAllRows a).length ≤ ucolSize
  rows : ∀ r ∈ ucolAllRows a, r < denseSize
  xu : a.jcol + 1 < xusub.size

instance (a : UcolArgs) (xusub : Array Nat) (s1 s2 s3 : Nat) : Decidable (UcolWf a xusub s1 s2 s3) :=
  decidable_of_iff (xusub.getD a.jcol 0 + (ucolAllRows a).length ≤ s1 ∧ xusub.getD a.jcol 0 + (ucolAllRows a).length ≤ s2 ∧
      (∀ r ∈ ucolAllRows a, r < s3) ∧ a.jcol + 1 < xusub.size)
    ⟨fun ⟨a, b, c, d⟩ => ⟨a, b, c, d⟩, fun ⟨a, b, c, d⟩ => ⟨a, b, c, d⟩⟩

theorem copyToUcol_inv {K : Type} (z : K) (a : UcolArgs) (xusub : Array Nat) (usub : Array Int) (ucol dense : Array K)
    (h : UcolWf a xusub usub.size ucol.size dense.size) :
    UcolInv z a.permR (xusub.getD a.jcol 0) usub ucol dense (ucolAllRows a) (copyToUcol z a xusub usub ucol dense).1
      (ucolAllRows a).length ∧
    (copyToUcol z a xusub usub ucol dense).2.getD (a.jcol+1) 0 = xusub.getD a.jcol 0 + (ucolAllRows a).length ∧
    (∀ k, k ≠ a.jcol + 1 → (copyToUcol z a xusub usub ucol dense).2.getD k 0 = xusub.getD k 0) := by
  have inv := UcolInv.fold (z := z) (permR := a.permR) (R := ucolAllRows a)
    (st := { nextu := xusub.getD a.jcol 0, usub := usub, ucol := ucol, dense := dense })
    ⟨rfl, .nil .., .nil .., rfl, fun r => (if_neg List.not_mem_nil).symm⟩ h.rows h.capU h.capC _ (le_refl _)
  rw [List.take_length, ← copyToUcol_fst] at inv
  refine ⟨inv, ?_, fun k hk => ?_⟩
  · show (xusub.setIfInBounds _ _).getD _ _ = _
    rw [getD_setIfInBounds_self _ _ _ h.xu]; exact inv.nextu
  · show (xusub.setIfInBounds _ _).getD _ _ = _
    rw [getD_setIfInBounds_ne _ _ _ (Ne.symm hk)]
end Slu.SymbArr
