import SluProofs.Lemmas.Symb
import SluProofs.Lemmas.SymbSound
/-
C03 — soundness of symbolic factorization, supernode level: the structure predicted by `Slu.Symb.symbNaive`
(supernodes, explored lists = structure of the LAST column, U segments `[lo..last]`, relaxed supernodes)
CONTAINS the column-level structure `ColReach` / `ColStruct` of Lemmas/SymbSound.lean.

Proof: the invariant `Inv (SNok cols) (Up cols)` of the column loop (Lemmas/Symb.lean).  Per supernode `t`
(`SNok`): explored rows are `≥ first(t)`; the explored list of a T2 supernode contains `last(t)`; explored rows
below `last(t)` are rows of `t`; and for every column `c`
of `t` the column-level reach of `c` below `c` stays inside `{..last(t)} ∪ expl(t)` (`down`).  Per column
(`Up`): the column-level reach above the column lies in the predicted U rows or inside the column's own
supernode.  The step for an ordinary column `j` (`sem_colStep`) rests on
  * `reach_closed`: the model's reach `R` is closed — a reached row inside `t` brings in `expl(t)`;
  * `colReach_cov`: every row of the column-level reach of `j` is in `R` or in one of the U segments R5 cuts out of
    the supernodes (`ucolOf`: in `t` at or after a row of `R ∩ t`, anywhere in `t` when `t` is relaxed) — induction on
    the derivation of `ColReach`;
  * the T2 test (R4) `struct(j) ⊆ struct(j-1)`, `|struct(j)| = |struct(j-1)| - 1` forces
    `struct(j-1) = {j-1} ∪ struct(j)` (`subset_pigeon`), so `down` survives replacing `expl` by `struct(j)`.
A relaxed supernode (`sem_relaxStep`) needs `RelaxOk`: none of its columns has an entry above it.
-/
namespace Slu.Symb
open Slu Slu.Struct

/-- the model's reach is closed: a reached row inside supernode `t` brings in the whole explored list of `t` -/
theorem reach_closed (sns : List SN) (b : Nat) (col : List Nat) (hd : DChain sns b)
    (hge : ∀ t ∈ sns, ∀ x ∈ t.expl, t.first ≤ x) (t : SN) (ht : t ∈ sns) (k : Nat) (hk : k ∈ reach sns col)
    (hf : t.first ≤ k) (hl : k ≤ t.last) : ∀ x ∈ t.expl, x ∈ reach sns col := by
  induction sns generalizing b with
  | nil => simp at ht
  | cons u rest ih =>
    obtain ⟨h1, h2, h3⟩ := hd
    intro x hx
    rcases List.mem_cons.mp ht with rfl | ht
    · refine (mem_reach_cons_iff t rest col x).mpr (Or.inr ⟨?_, hx⟩)
      rcases (mem_reach_cons_iff t rest col k).mp hk with hk | hk
      · exact List.ne_nil_of_mem ((mem_hits t _ k).mpr ⟨hk, hf, hl⟩)
      · exact hk.1
    · have htl := dchain_mem h3 ht
      -- `u` only adds rows `≥ first u`, beyond every earlier supernode: `k` was reached before
      have hk' : k ∈ reach rest col := ((mem_reach_cons_iff u rest col k).mp hk).resolve_right fun hk => by
        have := hge u List.mem_cons_self k hk.2; omega
      exact mem_reach_cons u rest col x (ih _ h3 (fun t ht => hge t (List.mem_cons_of_mem _ ht)) ht hk' x hx)

/-- a duplicate-free `a ⊆ b` with one element less misses exactly one element of `b` -/
theorem subset_pigeon (a b : List Nat) (x : Nat) (ha : a.Nodup) (hsub : ∀ y ∈ a, y ∈ b) (hx : x ∈ b) (hxa : x ∉ a)
    (hlen : a.length + 1 = b.length) : ∀ y ∈ b, y = x ∨ y ∈ a := by
  intro y hy
  by_contra hc
  have hnd : (y :: x :: a).Nodup := List.nodup_cons.mpr ⟨by simpa [not_or] using hc, List.nodup_cons.mpr ⟨hxa, ha⟩⟩
  have := hnd.length_le_of_subset (List.cons_subset.mpr ⟨hy, List.cons_subset.mpr ⟨hx, fun z hz => hsub z hz⟩⟩)
  simp only [List.length_cons] at this
  omega

/-- what the column-level structure knows about a finished (or growing) supernode -/
structure SNok (cols : Nat → List Nat) (t : SN) : Prop where
  ge_first : ∀ x ∈ t.expl, t.first ≤ x
  last_mem : t.relaxed = false → t.last ∈ t.expl
  rows : ∀ x ∈ t.expl, t.last < x → x ∈ t.rows
  down : ∀ c, t.first ≤ c → c ≤ t.last → ∀ r, ColReach cols c r → c < r → r ≤ t.last ∨ r ∈ t.expl

/-- the column-level reach of column `c` above `c` is in its U rows `u` or inside its supernode, which starts at `f` -/
def Up (cols : Nat → List Nat) (f c : Nat) (u : List Nat) : Prop :=
  ∀ k, ColReach cols c k → k < c → f ≤ k ∨ k ∈ u

/-- every row of the fill graph's column `j` is reached by the model or lies in one of the predicted U segments (R5) -/
theorem colReach_cov (cols : Nat → List Nat) (sns : List SN) (j : Nat) (hd : DChain sns j)
    (hok : ∀ t ∈ sns, SNok cols t) :
    ∀ r, ColReach cols j r → r ∈ reach sns (cols j) ∨ r ∈ ucolOf sns (reach sns (cols j)) := by
  intro r h
  induction h with
  | base hr => exact Or.inl (mem_reach_of_col _ _ _ hr)
  | @step j k r h1 hkj hkr h2 ih1 _ =>
    obtain ⟨t, ht, hf, hl⟩ := dchain_cover hd hkj
    -- the supernode `t` of `k` holds a reached row `k'`, at or before `k` unless `t` is relaxed
    obtain ⟨k', hk'R, hk'f, hk'l, hrel⟩ :
        ∃ k' ∈ reach sns (cols j), t.first ≤ k' ∧ k' ≤ t.last ∧ if t.relaxed then t.first ≤ k else k' ≤ k := by
      rcases ih1 hd with h | h
      · exact ⟨k, h, hf, hl, by split <;> omega⟩
      · obtain ⟨t', ht', hu⟩ := mem_ucolOf.mp h
        obtain rfl := dchain_unique hd ht' ht (useg_bounds t' _ k hu) ⟨hf, hl⟩
        exact ((mem_useg t' _ k).mp hu).2
    rcases (hok t ht).down k hf hl r h2 hkr with hrl | hre
    · refine Or.inr (mem_ucolOf.mpr ⟨t, ht, (mem_useg t _ r).mpr ⟨hrl, k', hk'R, hk'f, hk'l, ?_⟩⟩)
      by_cases hx : t.relaxed = true
      · rw [if_pos hx]; omega
      · rw [if_neg hx] at hrel ⊢; omega
    · exact Or.inl (reach_closed sns j (cols j) hd (fun t ht => (hok t ht).ge_first) t ht k' hk'R hk'f hk'l r hre)

theorem colReach_below (cols : Nat → List Nat) (sns : List SN) (j : Nat) (hd : DChain sns j)
    (hok : ∀ t ∈ sns, SNok cols t) (r : Nat) (h : ColReach cols j r) (hjr : j < r) : r ∈ reach sns (cols j) :=
  (colReach_cov cols sns j hd hok r h).resolve_right fun hu => by have := (ucolOf_spec _ hd).1 r hu; omega

theorem colReach_above (cols : Nat → List Nat) (sns : List SN) (j : Nat) (hd : DChain sns j)
    (hok : ∀ t ∈ sns, SNok cols t) (k : Nat) (h : ColReach cols j k) (hkj : k < j) :
    k ∈ ucolOf sns (reach sns (cols j)) :=
  (colReach_cov cols sns j hd hok k h).elim (fun hR => by
    obtain ⟨t, ht, hf, hl⟩ := dchain_cover hd hkj
    exact mem_ucolOf.mpr ⟨t, ht, (mem_useg t _ k).mpr ⟨hl, k, hR, hf, hl, by split <;> omega⟩⟩) id

theorem sem_colStep (cols : Nat → List Nat) (maxsuper j : Nat) (st : St) (h : Inv (SNok cols) (Up cols) st j) :
    Inv (SNok cols) (Up cols) (colStep maxsuper (cols j) j st) (j + 1) := by
  have habove := colReach_above cols st.sns j h.chain h.sn
  have hsjnd := sj_nodup j _ (reach_nodup st.sns (cols j))
  have hsjmem : ∀ r, ColReach cols j r → j < r → r ∈ structOf j _ := fun r hr hjr =>
    mem_structOf.mpr (Or.inr ⟨colReach_below cols st.sns j h.chain h.sn r hr hjr, hjr⟩)
  refine h.colStep maxsuper (cols j) ?_ (fun k hk hkj => Or.inr (habove k hk hkj)) ?_ ?_
  · -- a fresh single-column supernode
    refine ⟨fun _ => le_of_mem_structOf, fun _ => List.mem_cons_self, fun x hx _ => hx, fun c hc1 hc2 r hr hcr => ?_⟩
    obtain rfl : c = j := Nat.le_antisymm hc2 hc1
    exact Or.inr (hsjmem r hr hcr)
  · -- column `j` joins `t`: the T2 test makes `expl t = {last t} ∪ struct(j)`
    intro t rest hs hj
    obtain ⟨hnr, hsub, hcard, _⟩ := (joins_iff _ _ _ _).mp hj
    have htok := h.sn t (hs ▸ List.mem_cons_self)
    have hd1 : j = t.last + 1 := by have := h.chain; rw [hs] at this; exact this.1
    have hpig := subset_pigeon _ _ t.last hsjnd hsub (htok.last_mem hnr)
      (fun hm => by have := le_of_mem_structOf hm; omega) hcard
    refine ⟨fun x hx => ?_, fun _ => List.mem_cons_self,
      fun x hx hjx => htok.rows x (hsub x hx) (by have : j < x := hjx; omega), fun c hc1 hc2 r hr hcr => ?_⟩
    · have := le_of_mem_structOf hx; have := (dchain_mem h.chain (hs ▸ List.mem_cons_self : t ∈ st.sns)).1
      show t.first ≤ x; omega
    · have hc2' : c ≤ j := hc2
      show r ≤ j ∨ r ∈ structOf j _
      by_cases hcj : c = j
      · subst hcj; exact Or.inr (hsjmem r hr hcr)
      · rcases htok.down c hc1 (by omega) r hr hcr with h1 | h1
        · left; omega
        · exact (hpig r h1).imp (by omega) id
  · -- … and its U rows in `t` itself lie in the supernode's own block
    intro t rest hs _ k hk hkj
    obtain ⟨t', ht', hu⟩ := mem_ucolOf.mp (habove k hk hkj)
    rcases List.mem_cons.mp (hs ▸ ht') with rfl | ht'
    · exact Or.inl (useg_bounds _ _ k hu).1
    · exact Or.inr (mem_ucolOf.mpr ⟨t', ht', hu⟩)

/-- the set-level fact behind R1: no column of a relaxed supernode has an entry in a row above the
supernode (rows in pivot numbering).  The supernode that `relaxEnd j = some k` opens is `[j .. max j (min k (n-1))]`:
the clamp is that of `relaxStep`, which keeps the model total.  It holds when the supernode is a subtree of the
column elimination tree together with all its descendants. -/
def RelaxOk (n : Nat) (cols : Nat → List Nat) (relaxEnd : Nat → Option Nat) : Prop :=
  ∀ j k, relaxEnd j = some k → ∀ c, j ≤ c → c ≤ max j (min k (n - 1)) → ∀ r ∈ cols c, j ≤ r

theorem colReach_relaxed (cols : Nat → List Nat) (j k : Nat) (rows : List Nat)
    (hrel : ∀ c, j ≤ c → c ≤ k → ∀ r ∈ cols c, j ≤ r ∧ r ∈ rows) :
    ∀ c r, ColReach cols c r → j ≤ c → c ≤ k → j ≤ r ∧ (r ≤ k ∨ r ∈ rows) := by
  intro c r h
  induction h with
  | base hr => intro h1 h2; have := hrel _ h1 h2 _ hr; exact ⟨this.1, Or.inr this.2⟩
  | step _ hkj _ _ ih1 ih2 =>
    intro h1 h2
    have := ih1 h1 h2
    exact ih2 this.1 (by omega)

/-- `hrel` is `RelaxOk` for the one supernode opened at `j` -/
theorem sem_relaxStep (n : Nat) (cols : Nat → List Nat) (j k : Nat) (st : St) (h : Inv (SNok cols) (Up cols) st j)
    (hrel : ∀ c, j ≤ c → c ≤ max j (min k (n - 1)) → ∀ r ∈ cols c, j ≤ r) :
    Inv (SNok cols) (Up cols) (relaxStep n cols j k st) (max j (min k (n - 1)) + 1) := by
  have hjk := Nat.le_max_left j (min k (n - 1))
  simp only [relaxStep]
  generalize max j (min k (n - 1)) = k' at hjk hrel ⊢
  have hmem : ∀ x, x ∈ (seg j k').foldl (fun acc i => union acc (cols i)) [] ↔ ∃ i ∈ seg j k', x ∈ cols i :=
    fun x => by rw [mem_foldl_union]; simp
  generalize (seg j k').foldl (fun acc i => union acc (cols i)) [] = rows at hmem ⊢
  have hin := colReach_relaxed cols j k' rows fun c h1 h2 r hr =>
    ⟨hrel c h1 h2 r hr, (hmem r).mpr ⟨c, (mem_seg _ _ _).mpr ⟨h1, h2⟩, hr⟩⟩
  refine h.relaxStep k' rows hjk ⟨fun x hx => ?_, nofun, fun x hx _ => hx, fun c hc1 hc2 r hr _ => (hin c r hr hc1 hc2).2⟩
    (fun c hc1 hc2 r hr _ => Or.inl (hin c r hr hc1 hc2).1)
  obtain ⟨i, hi, hxi⟩ := (hmem x).mp hx
  have := (mem_seg _ _ _).mp hi
  exact hrel i this.1 this.2 x hxi

theorem run_sem (n maxsuper : Nat) (cols : Nat → List Nat) (relaxEnd : Nat → Option Nat)
    (hrelax : RelaxOk n cols relaxEnd) : Inv (SNok cols) (Up cols) (run n maxsuper cols relaxEnd) n :=
  run_inv n maxsuper cols relaxEnd (fun j st _ _ h => sem_colStep cols maxsuper j st h)
    (fun j k st _ hre h => sem_relaxStep n cols j k st h (hrelax j k hre))

/-- a row `r ≥ j` that is a column of `t` or a row of `t` below it is stored by column `j` of `t`: it lies
in the row list (R6) at or after `j`'s own position -/
theorem mem_rowList_drop (t : SN) (j r : Nat) (hf : t.first ≤ j) (hl : j ≤ t.last) (hjr : j ≤ r)
    (hr : r ≤ t.last ∨ r ∈ t.rows) : r ∈ (rowList t).drop (j - t.first) := by
  unfold rowList
  rw [List.drop_append_of_le_length (by rw [seg_length]; omega), seg_drop, show t.first + (j - t.first) = j by omega]
  by_cases h : r ≤ t.last
  · exact List.mem_append_left _ ((mem_seg _ _ _).mpr ⟨hjr, h⟩)
  · exact List.mem_append_right _ (List.mem_filter.mpr ⟨hr.resolve_left h, by simp; omega⟩)

/-- **The structure predicted by `symbNaive` contains the column-level structure.**  For column `j` with supernode `s`:
`struct(j)` lies in the row list of `s` at or after `j`'s own position `j - xsup[s]` (the part of the list column `j`
stores), the U structure of `j` in its predicted U rows or among the rows `xsup[s] .. j` of the supernode's own block. -/
theorem symbNaive_contains_colStruct (n maxsuper : Nat) (cols : Nat → List Nat) (relaxEnd : Nat → Option Nat)
    (hrelax : RelaxOk n cols relaxEnd) :
    let o := symbNaive n maxsuper cols relaxEnd
    ∀ j < n,
      (∀ r, ColStruct cols j r → r ∈ (o.rows[o.supno[j]!]!).drop (j - o.xsup[o.supno[j]!]!)) ∧
      (∀ k, ColUStruct cols j k → k ∈ o.ucols[j]! ∨ (o.xsup[o.supno[j]!]! ≤ k ∧ k ≤ j)) := by
  intro o j hj
  obtain ⟨t, _, hf, hl, ot⟩ := (run_sem n maxsuper cols relaxEnd hrelax).out_col hj
  have hok := ot.prop
  have hup := (ot.col j hf hl).2
  rw [show o.xsup[o.supno[j]!]! = t.first from ot.xs, show o.rows[o.supno[j]!]! = rowList t from ot.rows]
  constructor
  · rintro r (rfl | ⟨hjr, hr⟩)
    · exact mem_rowList_drop t r r hf hl (Nat.le_refl _) (Or.inl hl)
    · refine mem_rowList_drop t j r hf hl (Nat.le_of_lt hjr) ((hok.down j hf hl r hr hjr).elim Or.inl fun h => ?_)
      exact (Nat.lt_or_ge t.last r).elim (fun hlt => Or.inr (hok.rows r h hlt)) Or.inl
  · rintro k (rfl | ⟨hkj, hk⟩)
    · exact Or.inr ⟨hf, Nat.le_refl _⟩
    · exact (hup k hk hkj).symm.imp_right fun h => ⟨h, Nat.le_of_lt hkj⟩

/-! ### the column-level structure as an algorithm -/

/-- the column-level symbolic factorization of columns `0 .. j-1`: `colStep` with `maxsuper = 0` never
merges (R4 asks `j - first(t) < maxsuper`), so every column is its own supernode -/
def colRun (cols : Nat → List Nat) (j : Nat) : St :=
  (List.range j).foldl (fun st k => colStep 0 (cols k) k st) { sns := [], ucols := [] }

def colReachL (cols : Nat → List Nat) (j : Nat) : List Nat := reach (colRun cols j).sns (cols j)

def colStructL (cols : Nat → List Nat) (j : Nat) : List Nat :=
  j :: (colReachL cols j).filter fun r => decide (j < r)

theorem colRun_succ (cols : Nat → List Nat) (j : Nat) : colRun cols (j + 1) = colStep 0 (cols j) j (colRun cols j) :=
  foldl_range_succ _ _ j

/-- a single-column supernode whose explored list is a column-level structure -/
def Single (cols : Nat → List Nat) (t : SN) : Prop :=
  t.first = t.last ∧ t.relaxed = false ∧ ∀ x ∈ t.expl, x = t.first ∨ (t.first < x ∧ ColReach cols t.first x)

theorem reach_sub_colReach (cols : Nat → List Nat) (j : Nat) (sns : List SN) (hlt : ∀ t ∈ sns, t.last < j)
    (h : ∀ t ∈ sns, Single cols t) : ∀ r ∈ reach sns (cols j), ColReach cols j r := by
  induction sns with
  | nil => intro r hr; exact ColReach.base ((mem_reach_nil _ r).mp hr)
  | cons t rest ih =>
    have ih' := ih (fun u hu => hlt u (List.mem_cons_of_mem _ hu)) (fun u hu => h u (List.mem_cons_of_mem _ hu))
    intro r hr
    rcases (mem_reach_cons_iff t rest _ r).mp hr with hr | ⟨hne, hr⟩
    · exact ih' r hr
    · obtain ⟨hfl, _, hex⟩ := h t List.mem_cons_self
      have hlt := hlt t List.mem_cons_self
      obtain ⟨k, hk⟩ := List.exists_mem_of_ne_nil _ hne
      obtain ⟨hkR, hkf, hkl⟩ := (mem_hits t _ k).mp hk
      have hkt : k = t.first := by omega
      rcases hex r hr with h1 | ⟨h1, h2⟩
      · rw [h1, ← hkt]; exact ih' k hkR
      · exact ColReach.step (ih' k hkR) (by omega) (by omega) (hkt ▸ h2)

theorem colRun_inv (cols : Nat → List Nat) (j : Nat) :
    Inv (SNok cols) (Up cols) (colRun cols j) j ∧ Inv (Single cols) (fun _ _ _ => True) (colRun cols j) j := by
  induction j with
  | zero => exact ⟨⟨rfl, rfl, nofun, nofun⟩, ⟨rfl, rfl, nofun, nofun⟩⟩
  | succ j ih =>
    rw [colRun_succ]
    refine ⟨sem_colStep cols 0 j _ ih.1, ih.2.colStep 0 (cols j) ⟨rfl, rfl, fun x hx => ?_⟩ trivial
      (fun t rest _ hj => by simp [joins] at hj) (fun _ _ _ _ => trivial)⟩
    exact (mem_structOf.mp hx).imp_right fun ⟨hxR, hjx⟩ =>
      ⟨hjx, reach_sub_colReach cols j _ (fun t ht => (dchain_mem ih.2.chain ht).2) ih.2.sn x hxR⟩

/-- **the inductive closure is what the one-pass algorithm computes** -/
theorem colReachL_iff (cols : Nat → List Nat) (j r : Nat) : r ∈ colReachL cols j ↔ ColReach cols j r := by
  obtain ⟨h1, h2⟩ := colRun_inv cols j
  refine ⟨reach_sub_colReach cols j _ (fun t ht => (dchain_mem h2.chain ht).2) h2.sn r, fun h => ?_⟩
  -- a U segment of a single-column supernode is the reached row itself
  refine (colReach_cov cols _ j h1.chain h1.sn r h).elim id fun hu => ?_
  obtain ⟨t, ht, hu⟩ := mem_ucolOf.mp hu
  obtain ⟨hfl, hnr, _⟩ := h2.sn t ht
  obtain ⟨hl, k, hk, hkf, hkl, hrel⟩ := (mem_useg t _ r).mp hu
  rw [hnr] at hrel
  rwa [show r = k by simp at hrel; omega]

theorem colStructL_iff (cols : Nat → List Nat) (j r : Nat) : r ∈ colStructL cols j ↔ ColStruct cols j r := by
  simp only [colStructL, ColStruct, List.mem_cons, List.mem_filter, colReachL_iff, decide_eq_true_eq]
  tauto

end Slu.Symb
