import SluProofs.Lemmas.Symb
import SluProofs.Lemmas.StructWf
import SluProofs.Lemmas.ListLayout
/-
C03 — the predicted structure packed into SCformat / NCformat arrays (`Slu.Symb.toFac`) passes the
checker `Slu.Struct.wfb` (`toFac_wfb`): pointer arithmetic of the packing (`offs`, `flatten`: instances of
Lemmas/ListLayout.lean) + the list-level facts of Lemmas/Symb.lean (`WfOut`).
-/
namespace Slu.Symb
open Slu Slu.Struct

theorem offs_get (s : Nat) (cs : List Nat) (i : Nat) (h : i ≤ cs.length) :
    (offs s cs).length = cs.length + 1 ∧ (offs s cs)[i]! = s + (cs.take i).sum := by
  have := offsets_getD offs id (fun _ => rfl) (fun _ _ _ => rfl) s cs i h
  rw [List.getElem!_eq_getElem?_getD]
  rwa [List.map_id, List.getD_eq_getElem?_getD] at this

theorem offs_length (s : Nat) (cs : List Nat) : (offs s cs).length = cs.length + 1 := (offs_get s cs 0 (Nat.zero_le _)).1

theorem offs_zero (s : Nat) (cs : List Nat) : (offs s cs)[0]! = s := (offs_get s cs 0 (Nat.zero_le _)).2

theorem offs_succ (s : Nat) (cs : List Nat) (i : Nat) (h : i < cs.length) :
    (offs s cs)[i + 1]! = (offs s cs)[i]! + cs[i]! := by
  rw [(offs_get s cs (i + 1) h).2, (offs_get s cs i (Nat.le_of_lt h)).2, sum_take_succ cs i h, getElem!_pos cs i h, Nat.add_assoc]

theorem offs_mono (s : Nat) (cs : List Nat) (i : Nat) (h : i < cs.length) : (offs s cs)[i]! ≤ (offs s cs)[i + 1]! := by
  rw [offs_succ s cs i h]; omega

theorem offs_flatten (ls : List (List Nat)) (i : Nat) (h : i ≤ ls.length) :
    (offs 0 (ls.map (·.length)))[i]! = (ls.take i).flatten.length := by
  rw [(offs_get 0 _ i (by rwa [List.length_map])).2, Nat.zero_add, ← List.map_take, List.length_flatten]

theorem flatten_length_offs (ls : List (List Nat)) : ls.flatten.length = (offs 0 (ls.map (·.length)))[ls.length]! := by
  rw [offs_flatten ls _ (Nat.le_refl _), List.take_length]

theorem flatten_slice (ls : List (List Nat)) (i : Nat) (hi : i < ls.length) :
    (List.range (ls[i]!).length).map (fun d => ls.flatten[(offs 0 (ls.map (·.length)))[i]! + d]!) = ls[i]! := by
  have hp : ls[i] <+: ls.flatten.drop (ls.take i).flatten.length := flatten_segment ls i hi ▸ List.take_prefix _ _
  rw [offs_flatten ls i (Nat.le_of_lt hi), getElem!_pos ls i hi]
  refine List.ext_getElem (by simp) fun d h1 h2 => ?_
  rw [List.getElem_map, List.getElem_range, hp.getElem h2, List.getElem_drop, getElem!_pos]

namespace WfOut
variable {o : Out} (h : WfOut o)
include h

theorem ns_pos (hn : o.n ≠ 0) : 0 < o.rows.length := by
  rcases Nat.eq_zero_or_pos o.rows.length with h0 | h0
  · have := h.xn; rw [h0, h.x0] at this; exact absurd this.symm hn
  · exact h0

theorem find (j : Nat) (hj : j < o.n) : ∃ s < o.rows.length, o.xsup[s]! ≤ j ∧ j < o.xsup[s + 1]! :=
  exists_bracket o.xsup o.rows.length j h.x0 (h.xn.symm ▸ hj)

theorem sup_add (s : Nat) (hs : s < o.rows.length) (c : Nat) (hc : c < o.xsup[s + 1]! - o.xsup[s]!) :
    o.supno[o.xsup[s]! + c]! = s :=
  h.sup s hs _ (Nat.le_add_right ..) (Nat.add_lt_of_lt_sub' hc)

theorem xsup_le_n (s : Nat) (hs : s ≤ o.rows.length) : o.xsup[s]! ≤ o.n :=
  h.xn ▸ ptr_mono (o.xsup[·]!) o.rows.length (fun s hs => Nat.le_of_lt (h.xlt s hs)) s _ hs (Nat.le_refl _)

theorem lt_n (s : Nat) (hs : s < o.rows.length) (j : Nat) (hj : j < o.xsup[s + 1]!) : j < o.n :=
  Nat.lt_of_lt_of_le hj (h.xsup_le_n (s + 1) hs)

end WfOut

/-! ### the packed pointer arrays

`loffOf`, `xlsubL`, `widthsL`, `ucpL` are the `let`s `loff`, `xlsub`, `widths`, `ucp` of `toFac` under names (`toFac_xlsub` … are `rfl`). -/

def loffOf (o : Out) : List Nat := offs 0 (o.rows.map (·.length))
def xlsubL (o : Out) : List Nat :=
  (List.range o.n).map (fun j => if o.xsup[o.supno[j]!]! = j then (loffOf o)[o.supno[j]!]! else (loffOf o)[o.supno[j]! + 1]!) ++
    [(loffOf o)[o.rows.length]!]
def widthsL (o : Out) : List Nat := (List.range o.n).map fun j => (o.rows[o.supno[j]!]!).length
def ucpL (o : Out) : List Nat := offs 0 (o.ucols.map (·.length))

theorem toFac_xsup (m : Nat) (o : Out) : (toFac m o).L.xsup = o.xsup.toArray := rfl
theorem toFac_supno (m : Nat) (o : Out) : (toFac m o).L.supno = o.supno.toArray := rfl
theorem toFac_xlsub (m : Nat) (o : Out) : (toFac m o).L.xlsub = (xlsubL o).toArray := rfl
theorem toFac_lsub (m : Nat) (o : Out) : (toFac m o).L.lsub = o.rows.flatten.toArray := rfl
theorem toFac_xlusup (m : Nat) (o : Out) : (toFac m o).L.xlusup = (offs 0 (widthsL o)).toArray := rfl
theorem toFac_lusup_size (m : Nat) (o : Out) : (toFac m o).L.lusup.size = (offs 0 (widthsL o))[o.n]! :=
  Array.size_replicate ..
theorem toFac_colptr (m : Nat) (o : Out) : (toFac m o).U.colptr = (ucpL o).toArray := rfl
theorem toFac_rowind (m : Nat) (o : Out) : (toFac m o).U.rowind = o.ucols.flatten.toArray := rfl
theorem toFac_val_size (m : Nat) (o : Out) : (toFac m o).U.val.size = (ucpL o)[o.n]! :=
  Array.size_replicate ..
theorem toFac_n (m : Nat) (o : Out) : (toFac m o).L.n = o.n := rfl
theorem toFac_m (m : Nat) (o : Out) : (toFac m o).L.m = m := rfl
theorem toFac_nsuper (m : Nat) (o : Out) : (toFac m o).L.nsuper = o.rows.length - 1 := rfl

theorem xl_in (o : Out) (j : Nat) (hj : j < o.n) :
    (xlsubL o)[j]! = if o.xsup[o.supno[j]!]! = j then (loffOf o)[o.supno[j]!]! else (loffOf o)[o.supno[j]! + 1]! := by
  rw [xlsubL, getElem!_append_left _ _ _ (by rw [List.length_map, List.length_range]; exact hj), range_map_get _ _ _ hj]

theorem xl_n (o : Out) : (xlsubL o)[o.n]! = (loffOf o)[o.rows.length]! := by
  rw [xlsubL, getElem!_append_right _ _ _ (by rw [List.length_map, List.length_range]), List.length_map,
    List.length_range, Nat.sub_self]
  rfl

namespace WfOut
variable {o : Out} (h : WfOut o)
include h

omit h in
theorem loff_succ (s : Nat) (hs : s < o.rows.length) : (loffOf o)[s + 1]! = (loffOf o)[s]! + (o.rows[s]!).length := by
  unfold loffOf
  rw [offs_succ 0 _ s (by simpa using hs), getElem!_map_of_lt _ _ _ hs]

/-- `xlsub` of the first column of supernode `s` points at its row list … -/
theorem xl_first (s : Nat) (hs : s < o.rows.length) : (xlsubL o)[o.xsup[s]!]! = (loffOf o)[s]! := by
  have hlt := h.xlt s hs
  rw [xl_in o _ (h.lt_n s hs _ hlt), h.sup s hs _ (Nat.le_refl _) hlt, if_pos rfl]

/-- … that of its other columns, and of the position after it, at the end of the list -/
theorem xl_after (s j : Nat) (hs : s < o.rows.length) (h1 : o.xsup[s]! < j) (h2 : j ≤ o.xsup[s + 1]!) :
    (xlsubL o)[j]! = (loffOf o)[s + 1]! := by
  by_cases hin : j < o.xsup[s + 1]!
  · rw [xl_in o j (h.lt_n s hs j hin), h.sup s hs j (Nat.le_of_lt h1) hin, if_neg (Nat.ne_of_lt h1)]
  · obtain rfl : j = o.xsup[s + 1]! := Nat.le_antisymm h2 (Nat.le_of_not_lt hin)
    by_cases hlast : s + 1 < o.rows.length
    · exact h.xl_first (s + 1) hlast
    · rw [show s + 1 = o.rows.length by omega, h.xn, xl_n]

theorem rowsOf_toFac (m s : Nat) (hs : s < o.rows.length) : rowsOf (toFac m o).L s = o.rows[s]! := by
  unfold rowsOf
  simp only [toFac_xsup, toFac_xlsub, toFac_lsub, List.getElem!_toArray]
  rw [h.xl_first s hs, h.xl_after s _ hs (Nat.lt_succ_self _) (h.xlt s hs), WfOut.loff_succ s hs, Nat.add_sub_cancel_left]
  exact flatten_slice o.rows s hs

theorem ucolRows_toFac (m j : Nat) (hj : j < o.n) : ucolRows (toFac m o) j = o.ucols[j]! := by
  have hj' : j < o.ucols.length := by rw [h.ulen]; exact hj
  unfold ucolRows
  simp only [toFac_colptr, toFac_rowind, List.getElem!_toArray]
  unfold ucpL
  rw [offs_succ 0 _ j (by simpa using hj'), getElem!_map_of_lt _ _ _ hj', Nat.add_sub_cancel_left]
  exact flatten_slice o.ucols j hj'

end WfOut

theorem WfOut.nsuper_succ {o : Out} (h : WfOut o) (m : Nat) (hn : o.n ≠ 0) : (toFac m o).L.nsuper + 1 = o.rows.length := by
  have := h.ns_pos hn
  rw [toFac_nsuper]; omega

theorem widths_get (o : Out) (j : Nat) (hj : j < o.n) : (widthsL o)[j]! = (o.rows[o.supno[j]!]!).length :=
  range_map_get _ _ _ hj

theorem toFac_wfb (m : Nat) (o : Out) (hn : o.n ≠ 0) (h : WfOut o) (hm : ∀ s < o.rows.length, ∀ r ∈ o.rows[s]!, r < m) :
    wfb (toFac m o) = true := by
  have hpos := h.ns_pos hn
  simp only [wfb, Bool.or_eq_true, Bool.and_eq_true, decide_eq_true_eq, List.all_eq_true, List.mem_range, and_assoc]
  right -- `wfb` is `n = 0 || …`
  simp only [h.nsuper_succ m hn, toFac_xsup, toFac_supno, toFac_xlsub, toFac_lsub, toFac_xlusup, toFac_colptr, toFac_rowind,
    toFac_n, toFac_m, List.getElem!_toArray, List.size_toArray, toFac_lusup_size, toFac_val_size]
  have hwl : (widthsL o).length = o.n := by rw [widthsL, List.length_map, List.length_range]
  -- the clauses of `wfb` in order: five sizes; xsup[0] = 0; xsup[ns] = n; ranges nonempty with supno; xlsub[0], xlusup[0],
  -- colptr[0] = 0; the three pointer arrays monotone; the four value-array lengths; per supernode (row list long enough,
  -- shared, leading, trailing in range, trailing distinct, slices); per U column (above, distinct); the two counts
  refine ⟨by rw [h.xlen], by rw [h.slen], by rw [xlsubL, List.length_append, List.length_map, List.length_range]; exact Nat.le_refl _,
    by rw [offs_length, hwl],
    by unfold ucpL; rw [offs_length, List.length_map, h.ulen], h.x0, h.xn, fun s hs => ⟨h.xlt s hs, h.sup_add s hs⟩, ?_,
    offs_zero _ _, offs_zero _ _, fun j hj => ⟨?_, offs_mono 0 _ j (by rw [hwl]; exact hj),
      offs_mono 0 _ j (by rw [List.length_map, h.ulen]; exact hj)⟩,
    by rw [xl_n]; exact flatten_length_offs o.rows, trivial, by have := flatten_length_offs o.ucols; rwa [h.ulen] at this,
    trivial, fun s hs => ?_, fun j hj => ?_, rfl, rfl⟩
  · have := h.xl_first 0 hpos
    rw [h.x0] at this
    rw [this]; exact offs_zero _ _
  · -- `xlsub` is monotone: inside supernode `s` it steps from the start to the end of the row list once
    obtain ⟨s, hs, h1, h2⟩ := h.find j hj
    have hmono : (loffOf o)[s]! ≤ (loffOf o)[s + 1]! := by rw [WfOut.loff_succ s hs]; omega
    rw [h.xl_after s (j + 1) hs (by omega) (by omega)]
    by_cases e : o.xsup[s]! = j
    · rw [← e, h.xl_first s hs]; exact hmono
    · rw [h.xl_after s j hs (by omega) (by omega)]
  · have hlt := h.xlt s hs
    rw [width_eq hlt, h.rowsOf_toFac m s hs]
    refine ⟨h.rlen s hs, fun k hk => ?_, h.lead s hs, fun r hrm => ⟨h.below s hs r hrm, hm s hs r (List.mem_of_mem_drop hrm)⟩,
      (nodup_iff _).mpr (h.rnodup s hs), fun c hc => ?_⟩
    · rw [h.xl_after s _ hs (by omega) (by omega), h.xl_after s _ hs (Nat.lt_succ_self _) hlt]
    · have hcn := h.lt_n s hs _ (Nat.add_lt_of_lt_sub' hc)
      rw [offs_succ 0 _ (o.xsup[s]! + c) (by rw [hwl]; exact hcn), Nat.add_sub_cancel_left, widths_get o _ hcn, h.sup_add s hs c hc]
  · rw [h.ucolRows_toFac m j hj]
    exact ⟨h.uabove j hj, Or.inr ((nodup_iff _).mpr (h.unodup j hj))⟩

end Slu.Symb
