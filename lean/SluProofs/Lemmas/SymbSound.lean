import Slu.Model.Symb
import SluProofs.Lemmas.LUInv
import SluProofs.Lemmas.SumBasic
import Mathlib.Algebra.Field.Basic
/-
C03 — soundness of symbolic factorization, column level (no supernodes).

Rows are in PIVOT numbering (`B = Pr·A·Pc`, the pivot of column `j` is row `j`), as in
lean/Slu/Model/Symb.lean.  `ColReach cols j r` is the classical column-level symbolic factorization, which is the fill
graph of the elimination game: for ANY exact factorization `B = L·U` over a field (`IsLU` — hence for THE factorization,
which is unique) every nonzero of `L\U` lies in it (`IsLU.fill`).  The factors held by the numeric model
`Slu.LU.luFactor` are such a factorization (`inv_isLU`).

Modelling choice for (L, U): L, U are arbitrary functions constrained only by the matrix identity and the
triangular shapes (no recurrences: they are consequences, `IsLU.entry`), which is the weakest hypothesis;
the numeric model is then an instance through `Core.identity_sum`, `Core.unit_get`, `Inv.usize`, `Inv.udiag`.
-/
namespace Slu.Symb

/-- **column-level reach**: `ColReach cols j r` — row `r` is reached by column `j`.  The least relation with
`rows(B(:,j)) ⊆ reach(j)` and "`k ∈ reach(j)`, `k < j`, `r ∈ struct(k)`, `r > k` ⟹ `r ∈ reach(j)`" (the
rows of `struct(k)` below `k` are the rows `r > k` of `reach(k)`).  `colReachL_iff` (Lemmas/SymbContain.lean)
shows that it is exactly what the one-pass algorithm `Symb.reach` computes when every column is its own
supernode. -/
inductive ColReach (cols : Nat → List Nat) : Nat → Nat → Prop
  | base {j r : Nat} : r ∈ cols j → ColReach cols j r
  | step {j k r : Nat} : ColReach cols j k → k < j → k < r → ColReach cols k r → ColReach cols j r

/-- **column-level structure** of column `j` of L: `struct(j) = {j} ∪ {r > j reached}` (R3) -/
def ColStruct (cols : Nat → List Nat) (j r : Nat) : Prop := r = j ∨ (j < r ∧ ColReach cols j r)

/-- **column-level structure** of column `j` of U, diagonal included: `{j} ∪ {k < j reached}` -/
def ColUStruct (cols : Nat → List Nat) (j k : Nat) : Prop := k = j ∨ (k < j ∧ ColReach cols j k)

variable {K : Type} [Field K]

/-- `B = L·U` exactly on `0..n-1`, L unit lower triangular, U upper triangular with nonzero diagonal -/
structure IsLU (n : Nat) (B L U : Nat → Nat → K) : Prop where
  prod : ∀ i < n, ∀ j < n, B i j = ∑ t ∈ Finset.range n, L i t * U t j
  diag : ∀ i < n, L i i = 1
  lower : ∀ i < n, ∀ t < n, i < t → L i t = 0
  upper : ∀ t < n, ∀ j < n, j < t → U t j = 0
  piv : ∀ j < n, U j j ≠ 0

/-- **the recurrences.**  `U(i,j) = B(i,j) − Σ_{t<i} L(i,t) U(t,j)` and `L(i,j) U(j,j) = B(i,j) − Σ_{t<j} L(i,t) U(t,j)`,
read structurally: an entry of `L\U` that is nonzero where `B` is zero comes from a nonzero product
`L(i,t) U(t,j)` with `t` before both `i` and `j`. -/
theorem IsLU.entry {n : Nat} {B L U : Nat → Nat → K} (h : IsLU n B L U) {i j : Nat} (hi : i < n) (hj : j < n)
    (hb : B i j = 0) (hne : if i ≤ j then U i j ≠ 0 else L i j ≠ 0) :
    ∃ t, t < i ∧ t < j ∧ L i t ≠ 0 ∧ U t j ≠ 0 := by
  by_contra hno
  have hz : ∀ t, t < i → t < j → L i t * U t j = 0 := fun t h1 h2 => by
    by_contra hprod
    exact hno ⟨t, h1, h2, left_ne_zero_of_mul hprod, right_ne_zero_of_mul hprod⟩
  -- only the term `t = min i j` of the sum is left
  have hs := h.prod i hi j hj
  rw [hb, Finset.sum_eq_single (min i j)] at hs
  · split at hne
    · next hij => rw [Nat.min_eq_left hij, h.diag i hi, one_mul] at hs; exact hne hs.symm
    · next hij =>
      rw [Nat.min_eq_right (by omega)] at hs
      exact hne ((mul_eq_zero.mp hs.symm).resolve_right (h.piv j hj))
  · intro t htn htm
    have htn' : t < n := Finset.mem_range.mp htn
    by_cases ht : t < i ∧ t < j
    · exact hz t ht.1 ht.2
    · by_cases hit : i < t
      · rw [h.lower i hi t htn' hit, zero_mul]
      · rw [h.upper t htn' j hj (by omega), mul_zero]
  · intro hm; exact absurd (Finset.mem_range.mpr (by omega)) hm

/-- **the factors live in the fill graph.**  `ColReach cols j i` is the fill graph of the elimination game (`(i, j)` is an entry
of the pattern, or `(i, t)` and `(t, j)` are in the graph for some `t < min i j`), and every nonzero of `L\U` is in it: an entry
that is not in `B` comes from a product `L(i,t) U(t,j) ≠ 0` with `t` before both (`IsLU.entry`), and both factors are entries
with a smaller `i + j`. -/
theorem IsLU.fill {n : Nat} {B L U : Nat → Nat → K} {cols : Nat → List Nat} (h : IsLU n B L U)
    (hcols : ∀ i < n, ∀ j < n, B i j ≠ 0 → i ∈ cols j) {i j : Nat} (hi : i < n) (hj : j < n)
    (hne : if i ≤ j then U i j ≠ 0 else L i j ≠ 0) : ColReach cols j i := by
  induction hd : i + j using Nat.strong_induction_on generalizing i j with
  | _ d ih =>
    by_cases hb : B i j = 0
    · obtain ⟨t, hti, htj, h1, h2⟩ := h.entry hi hj hb hne
      exact .step (ih (t + j) (by omega) (Nat.lt_trans htj hj) hj (by rwa [if_pos (Nat.le_of_lt htj)]) rfl) htj hti
        (ih (i + t) (by omega) hi (Nat.lt_trans hti hi) (by rwa [if_neg (Nat.not_le_of_lt hti)]) rfl)
    · exact .base (hcols i hi j hj hb)

section
variable {n : Nat} {B L U : Nat → Nat → K} {cols : Nat → List Nat} (h : IsLU n B L U)
  (hcols : ∀ i < n, ∀ j < n, B i j ≠ 0 → i ∈ cols j)
include h hcols

theorem IsLU.fillU {k j : Nat} (hkj : k ≤ j) (hj : j < n) (hne : U k j ≠ 0) : ColReach cols j k :=
  h.fill hcols (Nat.lt_of_le_of_lt hkj hj) hj (by rwa [if_pos hkj])

theorem IsLU.fillL {i j : Nat} (hi : i < n) (hji : j < i) (hne : L i j ≠ 0) : ColReach cols j i :=
  h.fill hcols hi (Nat.lt_trans hji hi) (by rwa [if_neg (Nat.not_le_of_lt hji)])

end

theorem colStruct_contains_LU (n : Nat) (B L U : Nat → Nat → K) (cols : Nat → List Nat)
    (hcols : ∀ i < n, ∀ j < n, B i j ≠ 0 → i ∈ cols j) (h : IsLU n B L U) :
    ∀ j < n, (∀ i < n, L i j ≠ 0 → ColStruct cols j i) ∧ (∀ k < n, U k j ≠ 0 → ColUStruct cols j k) := by
  intro j hj
  constructor
  · intro i hi hne
    rcases Nat.lt_trichotomy i j with hij | hij | hij
    exacts [absurd (h.lower i hi j hj hij) hne, Or.inl hij, Or.inr ⟨hij, h.fillL hcols hi hij hne⟩]
  · intro k hk hne
    rcases Nat.lt_trichotomy k j with hkj | hkj | hkj
    exacts [Or.inr ⟨hkj, h.fillU hcols (Nat.le_of_lt hkj) hj hne⟩, Or.inl hkj, absurd (h.upper k hk j hj hkj) hne]

end Slu.Symb

namespace Slu.LU
open Slu
variable {K : Type} [Field K] [Mag K Rat]

/-- entries of the factors held by a state: `L(i,t)` (row `i` in ORIGINAL numbering, which is the pivot
numbering when `piv k = k`) and `U(t,j)` -/
def entL (st : St K) (i t : Nat) : K := (st.L.getD t #[]).get i
def entU (st : St K) (t j : Nat) : K := (st.U.getD j #[]).getD t 0

/-- **the numeric model is an exact factorization** of the rows taken in pivot order.  `q` names the pivot rows: `id`
when the diagonal pivots were chosen (rows already in pivot numbering, what C03 asks), the pivot sequence itself in
Lemmas/Transversal. -/
theorem inv_isLU (P : Params K Rat) (st : St K) (n : Nat) (hm : P.m = n) (inv : Inv P st n)
    (q : Nat → Nat) (hpiv : ∀ k < n, st.piv.getD k 0 = q k) :
    Symb.IsLU n (fun i j => (P.col j).get (q i)) (fun i => entL st (q i)) (entU st) ∧
    ∀ j < n, ∀ i, n ≤ i → entL st i j = 0 ∧ entU st i j = 0 := by
  -- a U column has exactly `j + 1` entries: nothing below the diagonal
  have hU0 : ∀ j < n, ∀ t, j < t → entU st t j = 0 := fun j hj t h => by
    have hsz := inv.usize j hj
    unfold entU
    generalize st.U.getD j #[] = a at hsz
    simp [Array.getD]
    omega
  refine ⟨⟨fun i hi j hj => ?_, fun i hi => ?_, fun i hi t ht hit => ?_, fun t _ j hj => hU0 j hj t, inv.udiag⟩,
    fun j hj i hi => ⟨get_of_size_le _ i (by rw [inv.lsize j hj]; omega), hU0 j hj i (by omega)⟩⟩
  · rw [← inv.core.identity_sum j hj (q i) (hpiv i hi ▸ inv.prange i hi),
      sum_range_trunc _ (by omega : j + 1 ≤ n) fun t ht _ => by rw [hU0 j hj t ht, mul_zero]]
    exact Finset.sum_congr rfl fun t _ => mul_comm _ _
  · have := (inv.core.unit_get i hi).1; rwa [hpiv i hi] at this
  · have := (inv.core.unit_get t ht).2 i hit; rwa [hpiv i hi] at this

theorem luFactor_isLU (laws : MagLaws K) (P : Params K Rat) (hu0 : 0 ≤ P.u) (hu1 : P.u ≤ 1)
    (hcol : ∀ j, (P.col j).size = P.m) (hsq : P.m = P.n) (b : Bool) (hinfo : (luFactor P b).info = 0)
    (hpiv : ∀ k < P.n, (luFactor P b).piv.getD k 0 = k) :
    Symb.IsLU P.n (fun i j => (P.col j).get i) (entL (luFactor P b)) (entU (luFactor P b)) ∧
    ∀ j < P.n, ∀ i, P.n ≤ i → entL (luFactor P b) i j = 0 ∧ entU (luFactor P b) i j = 0 :=
  inv_isLU P _ P.n hsq (run_inv laws P hu0 hu1 hcol b P.n hinfo) id hpiv

end Slu.LU
