import SluProofs.Lemmas.SymbSound
import Mathlib.LinearAlgebra.Matrix.Block
/-
Transversals (C04, structural singularity).  A square matrix with nonzero determinant has a transversal (a
nonzero term of the Leibniz expansion); so does every `B = L U` with unit lower `L` and nonzero diagonal of `U`
(`IsLU.transversal`) — in particular the rows, taken in pivot order, of the matrix of a state satisfying `Inv`
(`inv_isLU`), hence that matrix (`inv_transversal`).  Conversely `k` columns whose admissible rows lie in fewer than `k`
rows have none (`no_transversal_of_hall`, pigeonhole).
-/
namespace Slu.Symb
open Finset
variable {K : Type} [Field K] {n : Nat}

theorem exists_perm_of_det_ne_zero (A : Matrix (Fin n) (Fin n) K) (h : A.det ≠ 0) :
    ∃ σ : Equiv.Perm (Fin n), ∀ j, A (σ j) j ≠ 0 := by
  rw [Matrix.det_apply] at h
  obtain ⟨σ, _, hσ⟩ := Finset.exists_ne_zero_of_sum_ne_zero h
  exact ⟨σ, fun j => Finset.prod_ne_zero_iff.mp (right_ne_zero_of_smul hσ) j (Finset.mem_univ j)⟩

/-- `det B = det L · det U = ∏ U_kk ≠ 0` -/
theorem IsLU.transversal {B L U : Nat → Nat → K} (h : IsLU n B L U) :
    ∃ σ : Equiv.Perm (Fin n), ∀ j, B (σ j) j ≠ 0 := by
  let L' : Matrix (Fin n) (Fin n) K := fun i t => L i t
  let U' : Matrix (Fin n) (Fin n) K := fun t j => U t j
  have hLU : (L' * U').det ≠ 0 := by
    rw [Matrix.det_mul, Matrix.det_of_isLowerTriangular L' fun i t hit => h.lower i i.2 t t.2 hit,
      Matrix.det_of_isUpperTriangular (M := U') fun t j hjt => h.upper t t.2 j j.2 hjt,
      Finset.prod_eq_one fun (i : Fin n) _ => h.diag i i.2, one_mul]
    exact Finset.prod_ne_zero_iff.mpr fun k _ => h.piv k k.2
  obtain ⟨σ, hσ⟩ := exists_perm_of_det_ne_zero _ hLU
  refine ⟨σ, fun j => ?_⟩
  rw [h.prod _ (σ j).2 j j.2, ← Fin.sum_univ_eq_sum_range fun t => L (σ j) t * U t j]
  exact hσ j

end Slu.Symb

namespace Slu.LU
open Slu Finset
variable {K : Type} [Field K] [Mag K Rat]

/-- The pivot rows themselves need not be a transversal (fill-in: an entry of the ELIMINATED column is the pivot); the
transversal `τ` of the rows in pivot order is carried back along the pivot sequence. -/
theorem inv_transversal (P : Params K Rat) (st : St K) (hsq : P.m = P.n) (inv : Inv P st P.n) :
    ∃ σ : Equiv.Perm (Fin P.n), ∀ j : Fin P.n, (P.col j).get (σ j) ≠ 0 := by
  obtain ⟨τ, hτ⟩ := (inv_isLU P st P.n hsq inv _ fun _ _ => rfl).1.transversal
  have hπ := (hsq ▸ inv.core).piv_perm.bijective
  exact ⟨τ.trans (Equiv.ofBijective _ hπ), hτ⟩

/-- `S`: a set of columns `< n`; `T`: a set of rows containing every admissible row (`adm j i`) of every
column in `S`.  If `|T| < |S|` no permutation of `0..n-1` picks an admissible row in every column. -/
theorem no_transversal_of_hall (n : Nat) (adm : Nat → Nat → Prop) (S T : Finset Nat)
    (hS : ∀ j ∈ S, j < n) (hT : ∀ j ∈ S, ∀ i, adm j i → i ∈ T) (hcard : T.card < S.card) :
    ¬ ∃ σ : Equiv.Perm (Fin n), ∀ j : Fin n, adm j (σ j) := by
  rintro ⟨σ, hσ⟩
  -- `σ` maps the columns of `S` injectively into `T`
  have := Finset.card_le_card_of_injOn (s := S.attachFin hS) (t := T) (fun j => (σ j : Nat))
    (fun j hj => hT j ((Finset.mem_attachFin hS).mp hj) _ (hσ j))
    (fun a _ b _ hab => σ.injective (Fin.ext hab))
  rw [Finset.card_attachFin] at this
  omega

end Slu.LU
