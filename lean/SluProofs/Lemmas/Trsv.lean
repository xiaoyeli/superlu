import SluProofs.Lemmas.Gemv
import SluProofs.Lemmas.ListLayout
/-
Lemmas for `sp_trsv_model` (C14): the supernodal forward / back substitution `spTrsv` (the model
that follows the loops of `sp_[sdcz]trsv`) equals the dense reference `trsvRef` on well-formed
SCformat storage.

All four routines (`trsvLN`, `trsvUN`, `trsvLT`, `trsvUT`) are sweeps over the supernodes that finish the unknowns
of one supernode per step: loops through the states `Sweep (fun i => i) A y n b S x` of Lemmas/Kernels.lean
(`SCLayout.sweep_up`, `SCLayout.sweep_down`).  Column-oriented sweeps (`trsvLN`, `trsvUN`) have subtracted the finished columns from the open rows
(`A = M`), row-oriented ones (`trsvLT`, `trsvUT`) have not touched them (`A = 0`).  `Sweep.block` says what a step has to
do to a block, and one lemma per routine (`stepLN_inv`, ...) shows that its supernode step does it when `y` is the solution
of the reference system (`Solved`): a dense solve with
the diagonal block (`lsolveTo`, `utsolveTo`: instances of `rowSweep_spec`; `usolveTo`, `ltsolveTo`: downward loops,
`Sweep.run_down` with `Sweep.step1`) and the gather / scatter through the row subscripts, whose entries are identified with `decodeL` /
`decodeU` by the `SnOK.decodeL_*`, `SnOK.decodeU_*` lemmas.  The two row-oriented steps are the same proof, `Sweep.lazy_block`
(gather from the finished unknowns, then a dense solve given by its local recurrence); an instance supplies row `fsupc + c` of
`op(L)` resp. `op(U)` against the solution, its part outside the block read entry by entry as the gather reads it
(`dot_by_key` of Lemmas/Gemv.lean).  The two column-oriented steps apply `Sweep.block` themselves: their updates are
different loops (row by row through a dot product for L, column by column through U's storage).
-/
-- the instances `[Field K] [Conj K] [Inhabited K]` of a section enter every statement about `K` in it, used or not
set_option linter.unusedSectionVars false
namespace Slu.Kernels
open Finset

section folds
variable {K : Type} [Field K] [Inhabited K]

theorem foldl_sub_list {α : Type} (l : List α) (g : α → K) (a : K) :
    l.foldl (fun acc e => acc - g e) a = a - (l.map g).sum :=
  foldl_sub_eq_sum l g a

theorem foldl_sub_at {α : Type} (l : List α) (pos : α → Nat) (g : α → Array K → K) (x : Array K)
    (hg : ∀ a ∈ l, ∀ x' : Array K, (∀ p, (∀ b ∈ l, pos b ≠ p) → x'[p]! = x[p]!) → g a x' = g a x) :
    (l.foldl (fun (x : Array K) a => x.setIfInBounds (pos a) (x[pos a]! - g a x)) x).size = x.size ∧
    ∀ p, p < x.size → (l.foldl (fun (x : Array K) a => x.setIfInBounds (pos a) (x[pos a]! - g a x)) x)[p]! =
      x[p]! - ((l.filter fun a => pos a = p).map fun a => g a x).sum := by
  -- the cells the subtrahends read are never written, so they are those of the start; then cell by cell
  rw [foldl_congr_inv (fun x' : Array K => ∀ p, (∀ b ∈ l, pos b ≠ p) → x'[p]! = x[p]!) _
    (fun x' a => x'.setIfInBounds (pos a) (x'[pos a]! - g a x)) l x (fun _ _ => rfl)
    (fun s a ha hs p hp => by rw [getElem!_setIfInBounds_ne _ _ (hp a ha), hs p hp])
    fun s a ha hs => by rw [hg a ha s hs]]
  obtain ⟨h1, h2⟩ := foldl_set_cells default pos (fun a v => v - g a x) l x
  refine ⟨h1, fun p hp => (h2 p).trans ?_⟩
  simp only [hp, and_true]
  rw [← foldl_sub_eq_sum, List.foldl_filter]
  simp only [decide_eq_true_eq]; rfl

theorem foldl_scatter_const {α : Type} (l : List α) (pos : α → Nat) (v : α → K) (x : Array K) :
    (l.foldl (fun (x : Array K) a => x.setIfInBounds (pos a) (x[pos a]! - v a)) x).size = x.size ∧
    ∀ p, p < x.size → (l.foldl (fun (x : Array K) a => x.setIfInBounds (pos a) (x[pos a]! - v a)) x)[p]! =
        x[p]! - ((l.filter fun a => pos a = p).map v).sum :=
  foldl_sub_at l pos (fun a _ => v a) x fun _ _ _ _ => rfl

theorem foldl_gather (q : Nat) {α : Type} (l : List α) (rd : α → Nat) (cf : α → K) (x : Array K)
    (hq : q < x.size) (hne : ∀ a ∈ l, rd a ≠ q) :
    (l.foldl (fun (x : Array K) a => x.setIfInBounds q (x[q]! - x[rd a]! * cf a)) x).size = x.size ∧
    (l.foldl (fun (x : Array K) a => x.setIfInBounds q (x[q]! - x[rd a]! * cf a)) x)[q]! =
        x[q]! - (l.map fun a => x[rd a]! * cf a).sum ∧
    ∀ p, p ≠ q → (l.foldl (fun (x : Array K) a => x.setIfInBounds q (x[q]! - x[rd a]! * cf a)) x)[p]! = x[p]! := by
  obtain ⟨h1, h2⟩ := foldl_sub_at l (fun _ => q) (fun a x' => x'[rd a]! * cf a) x fun a ha x' hx' => by
    rw [hx' (rd a) fun _ _ h => hne a ha h.symm]
  refine ⟨h1, ?_, fun p hp => ?_⟩
  · rw [h2 q hq, List.filter_eq_self.mpr fun _ _ => by simp]
  · by_cases hps : p < x.size
    · rw [h2 p hps, List.filter_eq_nil_iff.mpr fun _ _ => by simpa using hp.symm]; simp
    · exact getElem!_of_size_le _ x h1 p (by omega)

end folds

section geom
variable {K : Type} [Field K] [Conj K] [Inhabited K]

def rowAt (L : SNode K) (s : SN) (p : Nat) : Nat := L.lsub[s.istart + p]!

/-- what the proofs need to know about supernode `k` with record `s` (all consequences of `Slu.Struct.wfb`, see
Lemmas/TrsvLayout.lean); distinctness of the trailing rows is not among them: `decodeL` adds repeated rows up and
so do the loops.  The record is a variable `s` tied to the storage by `eq` only, so that the step lemmas speak of
`s.fsupc`, `s.nsupr`, ... and not of the five array reads behind them. -/
structure SnOK (F : LUFac K) (k : Nat) (s : SN) : Prop where
  eq : snode F.L k = s
  wpos : 0 < s.nsupc
  hi : s.fsupc + s.nsupc = F.L.xsup[k+1]!
  le_n : F.L.xsup[k+1]! ≤ F.L.n
  supno : ∀ c, c < s.nsupc → F.L.supno[s.fsupc + c]! = k
  wle : s.nsupc ≤ s.nsupr
  lead : ∀ c, c < s.nsupc → rowAt F.L s c = s.fsupc + c
  trail : ∀ p, s.nsupc ≤ p → p < s.nsupr →
    s.fsupc + s.nsupc ≤ rowAt F.L s p ∧ rowAt F.L s p < F.L.n
  xlu : ∀ c, c < s.nsupc → F.L.xlusup[s.fsupc + c]! = s.luptr + c * s.nsupr
  uabove : ∀ c, c < s.nsupc → ∀ e ∈ F.U.col (s.fsupc + c), e.1 < s.fsupc

structure SCLayout (F : LUFac K) : Prop where
  first : F.L.xsup[0]! = 0
  last : F.L.xsup[F.L.nsuper + 1]! = F.L.n
  sn : ∀ k, k < F.L.nsuper + 1 → SnOK F k (snode F.L k)

variable {F : LUFac K} {k : Nat} {s : SN}

theorem SnOK.rowAt_bounds (G : SnOK F k s) (c p : Nat) (hc : c < s.nsupc) (hcp : c < p)
    (hp : p < s.nsupr) :
    s.fsupc + c < rowAt F.L s p ∧ rowAt F.L s p < F.L.n := by
  by_cases h1 : p < s.nsupc
  · rw [G.lead p h1]; have := G.hi; have := G.le_n; omega
  · have := G.trail p (by omega) hp; omega

theorem SnOK.fsupc_col (G : SnOK F k s) (c : Nat) (hc : c < s.nsupc) :
    F.L.fsupc (s.fsupc + c) = s.fsupc := by
  unfold SNode.fsupc
  rw [G.supno c hc, ← G.eq]; rfl

theorem SnOK.decodeL_eq (G : SnOK F k s) (c : Nat) (hc : c < s.nsupc) (i : Nat)
    (hne : i ≠ s.fsupc + c) :
    F.decodeL i (s.fsupc + c) =
      ∑ p ∈ Ico (c + 1) s.nsupr, if rowAt F.L s p = i then blk F.L s p c else 0 := by
  unfold LUFac.decodeL
  rw [if_neg hne]
  have hf := G.fsupc_col c hc
  have hrows : F.L.rows (s.fsupc + c) =
      (List.range s.nsupr).map (fun d => rowAt F.L s d) := by
    obtain rfl := G.eq
    unfold SNode.rows SNode.nsupr
    simp only [hf]
    rfl
  have hval : ∀ p, F.L.valAt (s.fsupc + c) p = blk F.L s p c := by
    intro p
    unfold SNode.valAt blk
    rw [G.xlu c hc]
  simp only [hrows, hf, hval, List.length_map, List.length_range, Nat.add_sub_cancel_left]
  rw [foldl_add_eq_sum, zero_add, List.filter_congr (q := fun p => c < p ∧ rowAt F.L s p = i)
    fun p hp => by simp [List.mem_range.mp hp], sum_filter_range, Finset.range_eq_Ico,
    ← Finset.sum_Ico_consecutive _ (Nat.zero_le (c + 1)) (by have := G.wle; omega),
    Finset.sum_eq_zero fun p hp => if_neg fun h => by have := (mem_Ico.mp hp).2; omega, zero_add]
  exact Finset.sum_congr rfl fun p hp => by simp [show c < p from (mem_Ico.mp hp).1]

theorem SnOK.decodeL_blk (G : SnOK F k s) (i c : Nat) (hci : c < i) (hi : i < s.nsupc) :
    F.decodeL (s.fsupc + i) (s.fsupc + c) = blk F.L s i c := by
  have hw := G.wle
  rw [G.decodeL_eq c (by omega) _ (by omega), Finset.sum_eq_single_of_mem i (mem_Ico.mpr ⟨by omega, by omega⟩),
    if_pos (G.lead i hi)]
  intro p hp hpi
  refine if_neg fun h => ?_
  by_cases h1 : p < s.nsupc
  · rw [G.lead p h1] at h; omega
  · have := G.trail p (by omega) (mem_Ico.mp hp).2; omega

theorem SnOK.lsub_trail (G : SnOK F k s) (q : Nat) (hq : q < s.nsupr - s.nsupc) :
    s.fsupc + s.nsupc ≤ F.L.lsub[s.istart + s.nsupc + q]! ∧ F.L.lsub[s.istart + s.nsupc + q]! < F.L.n := by
  have := G.trail (s.nsupc + q) (by omega) (by omega)
  rwa [rowAt, ← Nat.add_assoc] at this

theorem SnOK.decodeL_trail (G : SnOK F k s) (i c : Nat) (hc : c < s.nsupc)
    (hi : s.fsupc + s.nsupc ≤ i) :
    F.decodeL i (s.fsupc + c) = (((List.range (s.nsupr - s.nsupc)).filter fun q =>
      F.L.lsub[s.istart + s.nsupc + q]! = i).map fun q => blk F.L s (s.nsupc + q) c).sum := by
  rw [G.decodeL_eq c hc _ (by omega), ← Finset.sum_Ico_consecutive _ (show c + 1 ≤ s.nsupc by omega) G.wle,
    Finset.sum_eq_zero fun p hp => if_neg fun h => by rw [G.lead p (mem_Ico.mp hp).2] at h; have := (mem_Ico.mp hp).2; omega,
    zero_add, Finset.sum_Ico_eq_sum_range, sum_filter_range]
  exact Finset.sum_congr rfl fun q _ => by rw [rowAt, Nat.add_assoc]

theorem SnOK.decodeL_upper (G : SnOK F k s) (i c : Nat) (hc : c < s.nsupc)
    (hi : i < s.fsupc + c) : F.decodeL i (s.fsupc + c) = 0 := by
  rw [G.decodeL_eq c hc _ (by omega)]
  exact Finset.sum_eq_zero fun p hp => if_neg fun h => by
    have := G.rowAt_bounds c p hc (mem_Ico.mp hp).1 (mem_Ico.mp hp).2; omega

theorem SnOK.decodeU_blk (G : SnOK F k s) (r c : Nat) (hc : c < s.nsupc) (hrc : r ≤ c) :
    F.decodeU (s.fsupc + r) (s.fsupc + c) = blk F.L s r c := by
  unfold LUFac.decodeU
  simp only [G.fsupc_col c hc]
  rw [if_neg (by omega), if_pos (by omega)]
  unfold SNode.valAt blk
  rw [G.xlu c hc, Nat.add_sub_cancel_left]

theorem SnOK.decodeU_above (G : SnOK F k s) (i c : Nat) (hc : c < s.nsupc) (hi : i < s.fsupc) :
    F.decodeU i (s.fsupc + c) = F.U.get i (s.fsupc + c) := by
  unfold LUFac.decodeU
  simp only [G.fsupc_col c hc]
  rw [if_pos hi]

theorem SnOK.decodeU_below (G : SnOK F k s) (i c : Nat) (hc : c < s.nsupc) (hi : s.fsupc + c < i) :
    F.decodeU i (s.fsupc + c) = 0 := by
  unfold LUFac.decodeU
  simp only [G.fsupc_col c hc]
  rw [if_neg (by omega), if_neg (by omega)]

end geom

section conj
variable {K : Type} [Field K] [Conj K] [Inhabited K]

/-- what `trans = C` assumes of the conjugation (true for `Rat` and `Cx Rat`, see the examples of Props/C14.lean); no law
for products: the solves conjugate stored entries (and `decodeL` / `decodeU` sums of them) only, never a product -/
structure ConjOK (K : Type) [Field K] [Conj K] : Prop where
  zero : Conj.conj (0 : K) = 0
  one : Conj.conj (1 : K) = 1
  add : ∀ a b : K, Conj.conj (a + b) = Conj.conj a + Conj.conj b

theorem cj_N (v : K) : cj Tr.N v = v := rfl
theorem cj_T (v : K) : cj Tr.T v = v := rfl
theorem cj_C (v : K) : cj Tr.C v = Conj.conj v := rfl

theorem cj_one (tr : Tr) (h : tr = Tr.C → ConjOK K) : cj tr (1 : K) = 1 := by
  cases tr
  · rfl
  · rfl
  · exact (h rfl).one

def cjHom (tr : Tr) (h : tr = Tr.C → ConjOK K) : K →+ K :=
  AddMonoidHom.mk' (cj tr) fun a b => by
    cases tr
    · rfl
    · rfl
    · exact (h rfl).add a b

theorem cj_zero (tr : Tr) (h : tr = Tr.C → ConjOK K) : cj tr (0 : K) = 0 := (cjHom tr h).map_zero

theorem cj_list_sum (tr : Tr) (h : tr = Tr.C → ConjOK K) (l : List K) : cj tr l.sum = (l.map (cj tr)).sum :=
  map_list_sum (cjHom tr h) l

theorem opM_tr (tr : Tr) (htr : tr ≠ Tr.N) (T : Nat → Nat → K) (i j : Nat) : opM tr T i j = cj tr (T j i) := by
  cases tr
  · exact absurd rfl htr
  · rfl
  · rfl

end conj

section sweep
variable {K : Type} [Field K] [Inhabited K]

/-- `Sweep.step` for the unknowns `f, ..., f + w - 1` of a vector held at its own indices; with `x0.size = n` the frame
clause costs nothing: every position that is not an unknown is out of bounds -/
theorem Sweep.block {A : Nat → Nat → K} {y : Nat → K} {n : Nat} {S : Finset Nat} {f w : Nat} {x0 x x' : Array K}
    (hx : Sweep (fun i => i) A y n x0 S x) (hn : x0.size = n) (hd : ∀ i, i ∈ S → i < f ∨ f + w ≤ i) (hs : x'.size = x.size)
    (hB : ∀ j, j < w → x'[f + j]! = y (f + j)) (hS : ∀ i, i ∈ S → x'[i]! = x[i]!)
    (hO : ∀ i, i ∉ S → i < f ∨ f + w ≤ i → i < n → x'[i]! = x[i]! - ∑ j ∈ range w, A i (f + j) * y (f + j)) :
    Sweep (fun i => i) A y n x0 (S ∪ Ico f (f + w)) x' := by
  refine hx.step (Finset.disjoint_left.mpr fun j hj hc => by have := hd j hj; have := mem_Ico.mp hc; omega) hs
    (fun j hj => ?_) hS (fun i hi hiT hin => ?_) fun p hp => ?_
  · have := mem_Ico.mp hj
    rw [show j = f + (j - f) by omega, hB _ (by omega)]
  · rw [hO i hi (by rw [mem_Ico] at hiT; omega) hin, Finset.sum_Ico_eq_sum_range, Nat.add_sub_cancel_left]
  · exact getElem!_of_size_le _ _ hs p (by have := hx.size; by_contra hc; exact hp p (by omega) rfl)

theorem range_union_block (f w : Nat) : range f ∪ Ico f (f + w) = range (f + w) :=
  Finset.ext fun i => by simp only [mem_union, mem_range, mem_Ico]; omega

theorem insert_Ico_succ (j n : Nat) (h : j < n) : insert j (Ico (j + 1) n) = Ico j n :=
  Finset.ext fun i => by simp only [mem_insert, mem_Ico]; omega

theorem Ico_union_block (f w n : Nat) (h : f + w ≤ n) : Ico (f + w) n ∪ Ico f (f + w) = Ico f n :=
  Finset.ext fun i => by simp only [mem_union, mem_Ico]; omega

theorem sum_Ico_shift (f a b : Nat) (g : Nat → K) : ∑ i ∈ Ico (f + a) (f + b), g i = ∑ i ∈ Ico a b, g (f + i) := by
  rw [Nat.add_comm f a, Nat.add_comm f b, ← Finset.sum_Ico_add]

end sweep

section solves
variable {K : Type} [Field K] [Conj K] [Inhabited K]

/-- `dlsolve`: the first `t` rows of the unit lower solve with a dense block `B` placed at offset `f` -/
def lsolveTo (B : Nat → Nat → K) (f : Nat) (x : Array K) (t : Nat) : Array K :=
  (List.range t).foldl (fun (x : Array K) i =>
    x.setIfInBounds (f + i) ((List.range i).foldl (fun (acc : K) j => acc - x[f + j]! * B i j) x[f + i]!)) x

theorem lsolveTo_spec (B : Nat → Nat → K) (f : Nat) (x : Array K) (w : Nat) (hb : f + w ≤ x.size) (z : Nat → K)
    (hz : ∀ i, i < w → z i = x[f + i]! - ∑ j ∈ range i, z j * B i j) (t : Nat) (ht : t ≤ w) :
    (lsolveTo B f x t).size = x.size ∧ (∀ i, i < t → (lsolveTo B f x t)[f + i]! = z i) ∧
    (∀ p, (p < f ∨ f + t ≤ p) → (lsolveTo B f x t)[p]! = x[p]!) := by
  have h := rowSweep_spec w (f + ·)
    (fun i x => (List.range i).foldl (fun (acc : K) j => acc - x[f + j]! * B i j) x[f + i]!) z x
    (fun _ _ _ _ h => Nat.add_left_cancel h) (fun i hi => by omega)
    (fun i hi x' _ g1 g2 => by
      rw [foldl_sub_range, hz i hi, g2 _ fun j hj h => by omega]
      exact congrArg _ (Finset.sum_congr rfl fun j hj => by rw [g1 j (mem_range.mp hj)])) t ht
  exact ⟨h.size, fun i hi => h.done i (mem_range.mpr hi), fun p hp => h.lazy p fun i hi => by have := mem_range.mp hi; omega⟩

/-- `dusolve`: the first `t` columns (from the last one) of the column-oriented upper solve -/
def usolveTo (B : Nat → Nat → K) (dv : Nat → K → K) (f w : Nat) (x : Array K) (t : Nat) : Array K :=
  (List.range t).foldl (fun (x : Array K) t =>
    let jc := w - 1 - t
    let xj := dv jc x[f + jc]!
    let x := x.setIfInBounds (f + jc) xj
    (List.range jc).foldl (fun (x : Array K) ir => x.setIfInBounds (f + ir) (x[f + ir]! - xj * B ir jc)) x) x

theorem usolveTo_spec (B : Nat → Nat → K) (dv : Nat → K → K) (f w : Nat) (x : Array K) (hb : f + w ≤ x.size) (z : Nat → K)
    (hz : ∀ jc, jc < w → z jc = dv jc (x[f + jc]! - ∑ j ∈ Ico (jc + 1) w, z j * B jc j)) (t : Nat) (ht : t ≤ w) :
    (usolveTo B dv f w x t).size = x.size ∧
    (∀ i, i < w → (usolveTo B dv f w x t)[f + i]! =
      if w - t ≤ i then z i else x[f + i]! - ∑ j ∈ Ico (w - t) w, z j * B i j) ∧
    (∀ p, (p < f ∨ f + w ≤ p) → (usolveTo B dv f w x t)[p]! = x[p]!) := by
  cases w with
  | zero =>
    obtain rfl : t = 0 := by omega
    exact ⟨rfl, fun i hi => absurd hi (Nat.not_lt_zero _), fun _ _ => rfl⟩
  | succ m =>
    -- column `jc` finishes unknown `jc`; the finished ones are `jc + 1, ..., m`
    have h := Sweep.run_down (P := (f + ·)) (A := B) (y := z) (n := m + 1) (x0 := x) (fun k => Ico k (m + 1))
      (fun jc X => (List.range jc).foldl (fun (x : Array K) ir =>
          x.setIfInBounds (f + ir) (x[f + ir]! - dv jc X[f + jc]! * B ir jc)) (X.setIfInBounds (f + jc) (dv jc X[f + jc]!)))
      m t ht (Finset.Ico_self _) fun jc hjc X h => by
        obtain ⟨u1, u2, u3⟩ := foldl_upd_spec jc (f + ·) (fun ir v => v - dv jc X[f + jc]! * B ir jc)
          (X.setIfInBounds (f + jc) (dv jc X[f + jc]!)) (fun _ _ _ _ h => Nat.add_left_cancel h)
        have hzt : dv jc X[f + jc]! = z jc := by
          rw [h.todo jc (fun hc => by have := mem_Ico.mp hc; omega) hjc, hz jc hjc]
          exact congrArg _ (congrArg _ (Finset.sum_congr rfl fun j _ => mul_comm _ _))
        rw [← insert_Ico_succ jc (m + 1) hjc]
        refine h.step1 (fun hc => by have := mem_Ico.mp hc; omega) (by rw [u1, Array.size_setIfInBounds]) ?_
          (fun i hi => ?_) (fun i hi hij hin => ?_) fun p hp => ?_
        · rw [u3 _ fun i hi => by omega, getElem!_setIfInBounds_self _ _ (by rw [h.size]; omega), hzt]
        · have := mem_Ico.mp hi
          rw [u3 _ fun j hj => by omega, getElem!_setIfInBounds_ne _ _ (by omega)]
        · have : i < jc := by rw [mem_Ico] at hi; omega
          rw [u2 i this (by rw [Array.size_setIfInBounds, h.size]; omega), getElem!_setIfInBounds_ne _ _ (by omega), hzt, mul_comm]
        · rw [u3 _ fun j hj => hp j (by omega), getElem!_setIfInBounds_ne _ _ (hp _ hjc)]
    refine ⟨h.size, fun i hi => ?_, fun p hp => h.frame p fun i hi => by omega⟩
    by_cases hc : m + 1 - t ≤ i
    · rw [if_pos hc]; exact h.done i (mem_Ico.mpr ⟨hc, hi⟩)
    · rw [if_neg hc]
      exact (h.todo i (fun h => hc (mem_Ico.mp h).1) hi).trans (congrArg _ (Finset.sum_congr rfl fun j _ => mul_comm _ _))

/-- `dtrsv("L", trans, "U")`: unit lower transposed solve with the block, rows from the last one -/
def ltsolveTo (C : Nat → Nat → K) (f w : Nat) (x : Array K) (t : Nat) : Array K :=
  (List.range t).foldl (fun (x : Array K) t =>
    let j := w - 1 - t
    x.setIfInBounds (f + j)
      ((List.range (w - 1 - j)).foldl (fun (acc : K) d =>
        let i := j + 1 + d
        acc - C i j * x[f + i]!) x[f + j]!)) x

theorem ltsolveTo_spec (C : Nat → Nat → K) (f w : Nat) (x : Array K) (hb : f + w ≤ x.size) (z : Nat → K)
    (hz : ∀ j, j < w → z j = x[f + j]! - ∑ i ∈ Ico (j + 1) w, C i j * z i) :
    (ltsolveTo C f w x w).size = x.size ∧ (∀ i, i < w → (ltsolveTo C f w x w)[f + i]! = z i) ∧
    (∀ p, (p < f ∨ f + w ≤ p) → (ltsolveTo C f w x w)[p]! = x[p]!) := by
  cases w with
  | zero => exact ⟨rfl, fun i hi => absurd hi (Nat.not_lt_zero _), fun _ _ => rfl⟩
  | succ m =>
    -- row `j` finishes unknown `j`; the finished ones are `j + 1, ..., m`
    have h := Sweep.run_down (P := (f + ·)) (A := fun _ _ => 0) (y := z) (n := m + 1) (x0 := x) (fun k => Ico k (m + 1))
      (fun j (x : Array K) => x.setIfInBounds (f + j)
        ((List.range (m - j)).foldl (fun (acc : K) d => acc - C (j + 1 + d) j * x[f + (j + 1 + d)]!) x[f + j]!))
      m (m + 1) (le_refl _) (Finset.Ico_self _) fun j hj X h => by
        have hv : (List.range (m - j)).foldl (fun (acc : K) d => acc - C (j + 1 + d) j * X[f + (j + 1 + d)]!) X[f + j]! = z j := by
          rw [foldl_sub_range, hz j hj, h.lazy (f + j) (fun i hi => by have := mem_Ico.mp hi; omega),
            Finset.sum_Ico_eq_sum_range, show m + 1 - (j + 1) = m - j by omega]
          exact congrArg _ (Finset.sum_congr rfl fun d hd => by
            rw [h.done (j + 1 + d) (mem_Ico.mpr ⟨by omega, by have := mem_range.mp hd; omega⟩)])
        rw [← insert_Ico_succ j (m + 1) hj, hv]
        exact h.step1 (fun hc => by have := mem_Ico.mp hc; omega) Array.size_setIfInBounds
          (getElem!_setIfInBounds_self _ _ (by rw [h.size]; omega))
          (fun i hi => getElem!_setIfInBounds_ne _ _ (by have := mem_Ico.mp hi; omega))
          (fun i hi hij hin => by rw [getElem!_setIfInBounds_ne _ _ (by omega)]; simp)
          (fun p hp => getElem!_setIfInBounds_ne _ _ (hp j hj))
    exact ⟨h.size, fun i hi => h.done i (mem_Ico.mpr ⟨by omega, hi⟩), fun p hp => h.frame p fun i hi => by omega⟩

/-- `dtrsv("U", trans, diag)`: upper transposed solve with the block, rows from the first one -/
def utsolveTo (C : Nat → Nat → K) (dv : Nat → K → K) (f : Nat) (x : Array K) (t : Nat) : Array K :=
  (List.range t).foldl (fun (x : Array K) j =>
    let acc := (List.range j).foldl (fun (acc : K) i => acc - C i j * x[f + i]!) x[f + j]!
    x.setIfInBounds (f + j) (dv j acc)) x

theorem utsolveTo_spec (C : Nat → Nat → K) (dv : Nat → K → K) (f : Nat) (x : Array K) (w : Nat) (hb : f + w ≤ x.size)
    (z : Nat → K) (hz : ∀ j, j < w → z j = dv j (x[f + j]! - ∑ i ∈ range j, C i j * z i)) :
    (utsolveTo C dv f x w).size = x.size ∧ (∀ i, i < w → (utsolveTo C dv f x w)[f + i]! = z i) ∧
    (∀ p, (p < f ∨ f + w ≤ p) → (utsolveTo C dv f x w)[p]! = x[p]!) := by
  have h := rowSweep_spec w (f + ·)
    (fun j x => dv j ((List.range j).foldl (fun (acc : K) i => acc - C i j * x[f + i]!) x[f + j]!)) z x
    (fun _ _ _ _ h => Nat.add_left_cancel h) (fun i hi => by omega)
    (fun j hj x' _ g1 g2 => by
      rw [foldl_sub_range, hz j hj, g2 _ fun i hi h => by omega]
      exact congrArg _ (congrArg _ (Finset.sum_congr rfl fun i hi => by rw [g1 i (mem_range.mp hi)]))) w (le_refl _)
  exact ⟨h.size, fun i hi => h.done i (mem_range.mpr hi), fun p hp => h.lazy p fun i hi => by have := mem_range.mp hi; omega⟩

/-- the first `t` columns of the update of the rows above a supernode from U's column storage -/
def uscatTo (U : CSC K) (f : Nat) (x : Array K) (t : Nat) : Array K :=
  (List.range t).foldl (fun (x : Array K) jj =>
    let jcol := f + jj
    (U.col jcol).foldl (fun (x : Array K) (e : Nat × K) => x.setIfInBounds e.1 (x[e.1]! - x[jcol]! * e.2)) x) x

theorem uscatTo_spec (U : CSC K) (f w : Nat) (x : Array K) (hab : ∀ c, c < w → ∀ e ∈ U.col (f + c), e.1 < f) :
    (uscatTo U f x w).size = x.size ∧ (∀ p, f ≤ p → (uscatTo U f x w)[p]! = x[p]!) ∧
    (∀ p, p < f → p < x.size → (uscatTo U f x w)[p]! = x[p]! - ∑ jj ∈ range w, x[f + jj]! * U.get p (f + jj)) := by
  refine foldl_range_inv (fun t (r : Array K) => r.size = x.size ∧ (∀ p, f ≤ p → r[p]! = x[p]!) ∧
    ∀ p, p < f → p < x.size → r[p]! = x[p]! - ∑ jj ∈ range t, x[f + jj]! * U.get p (f + jj)) _ w x
    ⟨rfl, fun _ _ => rfl, fun p _ _ => by simp⟩ ?_
  rintro xt t ht ⟨h1, h2, h3⟩
  -- the factor `x[f + t]` is read from a position this column never writes
  obtain ⟨q1, q2⟩ := foldl_sub_at (U.col (f + t)) (fun e => e.1) (fun e x' => x'[f + t]! * e.2) xt
    fun e _ x' hx' => by rw [hx' _ fun e he => by have := hab t ht e he; omega]
  refine ⟨by rw [q1, h1], fun p hp => ?_, fun p hp hps => ?_⟩
  · by_cases hps : p < x.size
    · rw [q2 p (by omega), h2 p hp, List.filter_eq_nil_iff.mpr fun e he => by have := hab t ht e he; simp; omega]
      simp
    · exact getElem!_of_size_le _ x (by rw [q1, h1]) p (by omega)
  · rw [q2 p (by omega), List.sum_map_mul_left, h3 p hp hps, h2 (f + t) (by omega), Finset.sum_range_succ, Uget_eq,
      sub_sub]

/-- gather phase: column `jj` of the block receives `- sum_a x[rd jj a] * cf jj a` -/
def gatherTo {α : Type} (ls : Nat → List α) (rd : Nat → α → Nat) (cf : Nat → α → K) (f : Nat) (x : Array K) (t : Nat) : Array K :=
  (List.range t).foldl (fun (x : Array K) jj =>
    (ls jj).foldl (fun (x : Array K) a => x.setIfInBounds (f + jj) (x[f + jj]! - x[rd jj a]! * cf jj a)) x) x

theorem gatherTo_spec {α : Type} (ls : Nat → List α) (rd : Nat → α → Nat) (cf : Nat → α → K) (f w : Nat) (x : Array K)
    (hb : f + w ≤ x.size) (hrd : ∀ jj, jj < w → ∀ a ∈ ls jj, rd jj a < f ∨ f + w ≤ rd jj a) :
    (gatherTo ls rd cf f x w).size = x.size ∧
    (∀ jj, jj < w → (gatherTo ls rd cf f x w)[f + jj]! = x[f + jj]! - ((ls jj).map fun a => x[rd jj a]! * cf jj a).sum) ∧
    (∀ p, (p < f ∨ f + w ≤ p) → (gatherTo ls rd cf f x w)[p]! = x[p]!) := by
  unfold gatherTo
  have key := foldl_range_inv (fun t (r : Array K) => r.size = x.size ∧
    (∀ jj, jj < w → r[f + jj]! =
      if jj < t then x[f + jj]! - ((ls jj).map fun a => x[rd jj a]! * cf jj a).sum else x[f + jj]!) ∧
    ∀ p, (p < f ∨ f + w ≤ p) → r[p]! = x[p]!)
    (fun (x : Array K) jj =>
      (ls jj).foldl (fun (x : Array K) a => x.setIfInBounds (f + jj) (x[f + jj]! - x[rd jj a]! * cf jj a)) x) w x
    ⟨rfl, fun jj _ => by rw [if_neg (Nat.not_lt_zero _)], fun _ _ => rfl⟩ ?_
  · exact ⟨key.1, fun jj hjj => (key.2.1 jj hjj).trans (if_pos hjj), key.2.2⟩
  rintro xt t ht ⟨h1, h2, h3⟩
  obtain ⟨q1, q2, q3⟩ := foldl_gather (f + t) (ls t) (rd t) (cf t) xt (by omega)
    fun a ha => by have := hrd t ht a ha; omega
  refine ⟨by rw [q1, h1], fun jj hjj => ?_, fun p hp => by rw [q3 p (by omega), h3 p hp]⟩
  by_cases he : jj = t
  · subst he
    rw [q2, h2 jj hjj, if_neg (Nat.lt_irrefl _), if_pos (Nat.lt_succ_self _),
      List.map_congr_left fun a ha => by rw [h3 _ (hrd jj hjj a ha)]]
  · rw [q3 _ (by omega), h2 jj hjj]
    by_cases hlt : jj < t
    · rw [if_pos hlt, if_pos (by omega)]
    · rw [if_neg hlt, if_neg (by omega)]

/-- A block step of a row-oriented sweep (`stepLT`, `stepUT`): gather from the finished unknowns, then a dense solve with the
block, given by what it does to any solution `z` of its local recurrence `rec`.  What is left to an instance is `hrow`, which
mentions no array: row `f + c` of the triangular system, its finished part read through the storage as the gather does. -/
theorem Sweep.lazy_block {α : Type} {y : Nat → K} {n f w : Nat} {S : Finset Nat} {x0 x : Array K}
    (hx : Sweep (fun i => i) (fun _ _ => 0) y n x0 S x) (hn : x0.size = n) (hd : ∀ i, i ∈ S → i < f ∨ f + w ≤ i)
    (hfw : f + w ≤ n) (ls : Nat → List α) (rd : Nat → α → Nat) (cf : Nat → α → K)
    (hrd : ∀ c, c < w → ∀ a ∈ ls c, rd c a ∈ S)
    (rec : Nat → K → (Nat → K) → K) (solve : Array K → Array K)
    (hsolve : ∀ (x1 : Array K) (z : Nat → K), f + w ≤ x1.size → (∀ c, c < w → z c = rec c x1[f + c]! z) →
      (solve x1).size = x1.size ∧ (∀ c, c < w → (solve x1)[f + c]! = z c) ∧
      ∀ p, p < f ∨ f + w ≤ p → (solve x1)[p]! = x1[p]!)
    (hrow : ∀ c, c < w →
      y (f + c) = rec c (x0[f + c]! - ((ls c).map fun a => cf c a * y (rd c a)).sum) fun i => y (f + i)) :
    Sweep (fun i => i) (fun _ _ => 0) y n x0 (S ∪ Ico f (f + w)) (solve (gatherTo ls rd cf f x w)) := by
  have hs := hx.size
  obtain ⟨p1, p2, p3⟩ := gatherTo_spec ls rd cf f w x (by omega) fun c hc a ha => hd _ (hrd c hc a ha)
  obtain ⟨q1, q2, q3⟩ := hsolve _ (fun i => y (f + i)) (by rw [p1]; omega) fun c hc => by
    rw [p2 c hc, hx.lazy _ fun j hj (hc : j = f + c) => by have := hd j hj; omega,
      List.map_congr_left fun a ha => by rw [hx.done _ (hrd c hc a ha), mul_comm]]
    exact hrow c hc
  exact hx.block hn hd (q1.trans p1) q2 (fun i hi => (q3 i (hd i hi)).trans (p3 i (hd i hi)))
    fun i _ hio _ => by rw [q3 i hio, p3 i hio]; simp

end solves

section steps
variable {K : Type} [Field K] [Conj K] [Inhabited K] {F : LUFac K} {k : Nat} {s : SN}

/-- `y` solves the triangular system `M y = x0` of order `n`, row `i` summed over `R i` (`range i`, or `Ico (i + 1) n` for an
effectively upper triangle); `M` is `T` off the diagonal and `d` on it.  What a step lemma knows about the dense reference. -/
structure Solved (T : Nat → Nat → K) (d : Nat → K) (R : Nat → Finset Nat) (M : Nat → Nat → K) (y : Nat → K) (x0 : Array K)
    (n : Nat) : Prop where
  size : x0.size = n
  off : ∀ i j, i ≠ j → M i j = T i j
  diag : ∀ i, M i i = d i
  sol : ∀ i, i < n → y i = (x0[i]! - ∑ j ∈ R i, M i j * y j) / M i i

variable {M : Nat → Nat → K} {y : Nat → K} {x0 : Array K}

def stepLN (F : LUFac K) (s : SN) (x : Array K) : Array K :=
  let x1 := lsolveTo (blk F.L s) s.fsupc x s.nsupc
  (List.range (s.nsupr - s.nsupc)).foldl (fun (x : Array K) i =>
    let w := sumTo s.nsupc (fun j => blk F.L s (s.nsupc + i) j * x1[s.fsupc + j]!)
    let r := F.L.lsub[s.istart + s.nsupc + i]!
    x.setIfInBounds r (x[r]! - w)) x1

omit [Conj K] in
theorem stepLN_size (F : LUFac K) (s : SN) (x : Array K) : (stepLN F s x).size = x.size := by
  have keep : ∀ (a : Array K) (i : Nat) (v : K), a.size = x.size → (a.setIfInBounds i v).size = x.size :=
    fun a i v h => (Array.size_setIfInBounds ..).trans h
  unfold stepLN lsolveTo
  exact foldl_inv (fun a : Array K => a.size = x.size) _ _ _
    (foldl_inv (fun a : Array K => a.size = x.size) _ _ _ rfl (fun a _ _ h => keep a _ _ h)) (fun a _ _ h => keep a _ _ h)

theorem trsvLN_eq (F : LUFac K) (x : Array K) :
    trsvLN F x = (List.range (F.L.nsuper + 1)).foldl (fun x k => stepLN F (snode F.L k) x) x := rfl

theorem stepLN_inv (G : SnOK F k s) (S : Solved F.decodeL (fun _ => 1) range M y x0 F.L.n) (x : Array K) (hinv : Sweep (fun i => i) M y F.L.n x0 (range s.fsupc) x) :
    Sweep (fun i => i) M y F.L.n x0 (range (s.fsupc + s.nsupc)) (stepLN F s x) := by
  rw [← range_union_block]
  have g_hi := G.hi; have g_le := G.le_n; have hwr := G.wle
  have hs := hinv.size; have hn := S.size
  have htodo : ∀ i, i ∉ range s.fsupc → i < F.L.n → x[i]! = x0[i]! - ∑ j ∈ range s.fsupc, M i j * y j := hinv.todo
  -- the dense solve leaves `y` in the block
  have hz : ∀ i, i < s.nsupc → y (s.fsupc + i) = x[s.fsupc + i]! - ∑ j ∈ range i, y (s.fsupc + j) * blk F.L s i j :=
    fun i hi => by
      rw [S.sol _ (by omega), S.diag, div_one, htodo _ (fun h => by have := mem_range.mp h; omega) (by omega),
        Finset.sum_range_add, sub_sub]
      refine congrArg _ (congrArg _ (Finset.sum_congr rfl fun j hj => ?_))
      rw [S.off _ _ (by have := mem_range.mp hj; omega), G.decodeL_blk i j (mem_range.mp hj) hi, mul_comm]
  obtain ⟨p1, p2, p3⟩ := lsolveTo_spec (blk F.L s) s.fsupc x s.nsupc (by omega) (fun i => y (s.fsupc + i)) hz
    s.nsupc (le_refl _)
  unfold stepLN
  dsimp only
  generalize lsolveTo (blk F.L s) s.fsupc x s.nsupc = x1 at *
  -- the scatter, row by row; the rows it writes lie below the supernode
  obtain ⟨q1, q2⟩ := foldl_scatter_const (List.range (s.nsupr - s.nsupc))
    (fun i => F.L.lsub[s.istart + s.nsupc + i]!)
    (fun i => sumTo s.nsupc (fun j => blk F.L s (s.nsupc + i) j * x1[s.fsupc + j]!)) x1
  have hnil : ∀ p, p < s.fsupc + s.nsupc →
      (List.range (s.nsupr - s.nsupc)).filter (fun q => F.L.lsub[s.istart + s.nsupc + q]! = p) = [] := fun p hp =>
    List.filter_eq_nil_iff.mpr fun q hq => by
      have := (G.lsub_trail q (List.mem_range.mp hq)).1
      simp only [decide_eq_true_eq]; omega
  refine hinv.block hn (fun i hi => Or.inl (mem_range.mp hi)) (by rw [q1, p1])
    (fun j hj => by rw [q2 _ (by omega), hnil _ (by omega), p2 j hj]; simp)
    (fun i hi => by
      have := mem_range.mp hi
      rw [q2 i (by omega), hnil i (by omega), p3 i (Or.inl this)]; simp)
    (fun i hi hio hin => ?_)
  have hi' : s.fsupc + s.nsupc ≤ i := by rw [mem_range] at hi; omega
  rw [q2 i (by omega), p3 i (Or.inr hi'), Finset.sum_congr rfl fun c hc => by
    rw [S.off i (s.fsupc + c) (by have := mem_range.mp hc; omega), G.decodeL_trail i c (mem_range.mp hc) hi',
      ← List.sum_map_mul_right], ← list_sum_finset_sum]
  refine congrArg _ (congrArg List.sum (List.map_congr_left fun q _ => ?_))
  rw [sumTo_eq_sum]
  exact Finset.sum_congr rfl fun j hj => by rw [p2 j (mem_range.mp hj)]

def stepUN (F : LUFac K) (unit : Bool) (s : SN) (x : Array K) : Array K :=
  uscatTo F.U s.fsupc
    (usolveTo (blk F.L s) (fun jc v => if unit then v else v / blk F.L s jc jc) s.fsupc s.nsupc x s.nsupc) s.nsupc

theorem trsvUN_eq (F : LUFac K) (unit : Bool) (x : Array K) :
    trsvUN F unit x = (List.range (F.L.nsuper + 1)).foldl (fun x kk => stepUN F unit (snode F.L (F.L.nsuper - kk)) x) x := rfl

theorem stepUN_inv (unit : Bool) (G : SnOK F k s)
    (S : Solved F.decodeU (fun i => if unit then 1 else F.decodeU i i) (fun i => Ico (i + 1) F.L.n) M y x0 F.L.n) (x : Array K) (hinv : Sweep (fun i => i) M y F.L.n x0 (Ico (s.fsupc + s.nsupc) F.L.n) x) :
    Sweep (fun i => i) M y F.L.n x0 (Ico s.fsupc F.L.n) (stepUN F unit s x) := by
  have g_hi := G.hi; have g_le := G.le_n
  have hwn : s.fsupc + s.nsupc ≤ F.L.n := by omega
  rw [← Ico_union_block _ _ _ hwn]
  have hs := hinv.size; have hn := S.size
  have htodo : ∀ i, i ∉ Ico (s.fsupc + s.nsupc) F.L.n → i < F.L.n →
      x[i]! = x0[i]! - ∑ j ∈ Ico (s.fsupc + s.nsupc) F.L.n, M i j * y j := hinv.todo
  have hz : ∀ jc, jc < s.nsupc → y (s.fsupc + jc) =
      (fun jc v => if unit then v else v / blk F.L s jc jc) jc
        (x[s.fsupc + jc]! - ∑ j ∈ Ico (jc + 1) s.nsupc, y (s.fsupc + j) * blk F.L s jc j) := fun jc hjc => by
    have hsum : ∑ j ∈ Ico (s.fsupc + jc + 1) F.L.n, M (s.fsupc + jc) j * y j =
        ∑ j ∈ Ico (jc + 1) s.nsupc, y (s.fsupc + j) * blk F.L s jc j +
          ∑ j ∈ Ico (s.fsupc + s.nsupc) F.L.n, M (s.fsupc + jc) j * y j := by
      rw [← Finset.sum_Ico_consecutive _ (show s.fsupc + jc + 1 ≤ s.fsupc + s.nsupc by omega) hwn, Nat.add_assoc,
        sum_Ico_shift]
      refine congrArg (· + _) (Finset.sum_congr rfl fun j hj => ?_)
      have hj' := mem_Ico.mp hj
      rw [S.off _ _ (by omega), G.decodeU_blk jc j hj'.2 (by omega), mul_comm]
    rw [S.sol _ (by omega), htodo _ (fun h => by have := mem_Ico.mp h; omega) (by omega), hsum, S.diag,
      G.decodeU_blk jc jc hjc (le_refl _), ← sub_sub, sub_right_comm]
    cases unit
    · rfl
    · exact div_one _
  obtain ⟨p1, p2, p3⟩ := usolveTo_spec (blk F.L s) (fun jc v => if unit then v else v / blk F.L s jc jc)
    s.fsupc s.nsupc x (by omega) (fun i => y (s.fsupc + i)) hz s.nsupc (le_refl _)
  unfold stepUN
  generalize usolveTo (blk F.L s) (fun jc v => if unit then v else v / blk F.L s jc jc) s.fsupc s.nsupc x s.nsupc = x1 at *
  obtain ⟨q1, q2, q3⟩ := uscatTo_spec F.U s.fsupc s.nsupc x1 G.uabove
  have p2' : ∀ j, j < s.nsupc → x1[s.fsupc + j]! = y (s.fsupc + j) := fun j hj => by rw [p2 j hj, if_pos (by omega)]
  refine hinv.block hn (fun i hi => Or.inr (mem_Ico.mp hi).1) (by rw [q1, p1])
    (fun j hj => by rw [q2 _ (by omega), p2' j hj])
    (fun i hi => by
      have := mem_Ico.mp hi
      rw [q2 i (by omega), p3 i (Or.inr this.1)])
    (fun i hi hio hin => ?_)
  have hi' : i < s.fsupc := by rw [mem_Ico] at hi; omega
  rw [q3 i hi' (by omega), p3 i (Or.inl hi')]
  exact congrArg _ (Finset.sum_congr rfl fun j hj => by
    rw [p2' j (mem_range.mp hj), S.off _ _ (by omega), G.decodeU_above i j (mem_range.mp hj) hi', mul_comm])

def stepLT (F : LUFac K) (tr : Tr) (s : SN) (x : Array K) : Array K :=
  ltsolveTo (fun i j => cj tr (blk F.L s i j)) s.fsupc s.nsupc
    (gatherTo (fun _ => List.range (s.nsupr - s.nsupc)) (fun _ i => F.L.lsub[s.istart + s.nsupc + i]!)
      (fun jj i => cj tr (blk F.L s (s.nsupc + i) jj)) s.fsupc x s.nsupc) s.nsupc

theorem trsvLT_eq (F : LUFac K) (tr : Tr) (x : Array K) :
    trsvLT F tr x = (List.range (F.L.nsuper + 1)).foldl (fun x kk => stepLT F tr (snode F.L (F.L.nsuper - kk)) x) x := rfl

theorem stepLT_inv (tr : Tr) (htr : tr = Tr.C → ConjOK K) (G : SnOK F k s)
    (S : Solved (fun i j => cj tr (F.decodeL j i)) (fun _ => 1) (fun i => Ico (i + 1) F.L.n) M y x0 F.L.n) (x : Array K) (hinv : Sweep (fun i => i) (fun _ _ => 0) y F.L.n x0 (Ico (s.fsupc + s.nsupc) F.L.n) x) :
    Sweep (fun i => i) (fun _ _ => 0) y F.L.n x0 (Ico s.fsupc F.L.n) (stepLT F tr s x) := by
  have g_hi := G.hi; have g_le := G.le_n
  have hwn : s.fsupc + s.nsupc ≤ F.L.n := by omega
  have htrail := fun q (hq : q ∈ List.range (s.nsupr - s.nsupc)) => mem_Ico.mpr (G.lsub_trail q (List.mem_range.mp hq))
  rw [← Ico_union_block _ _ _ hwn]
  refine hinv.lazy_block S.size (fun i hi => Or.inr (mem_Ico.mp hi).1) hwn _ _ _ (fun _ _ => htrail)
    (fun j v z => v - ∑ i ∈ Ico (j + 1) s.nsupc, (fun i j => cj tr (blk F.L s i j)) i j * z i)
    _ (fun x1 z hb hz => ltsolveTo_spec _ s.fsupc s.nsupc x1 hb z hz) fun j hj => ?_
  -- row `fsupc + j` of `op(L)`: the block's part entry by entry, below it column `fsupc + j` of L through the row list
  rw [S.sol _ (by omega), S.diag, div_one, ← Finset.sum_Ico_consecutive _ (show s.fsupc + j + 1 ≤ s.fsupc + s.nsupc by omega) hwn,
    ← sub_sub, sub_right_comm, Nat.add_assoc, sum_Ico_shift,
    dot_by_key (List.range (s.nsupr - s.nsupc)) (fun q => F.L.lsub[s.istart + s.nsupc + q]!)
      (fun q => cj tr (blk F.L s (s.nsupc + q) j)) _ htrail _ (fun i hi => by
        rw [S.off _ _ (by have := mem_Ico.mp hi; omega), G.decodeL_trail i j hj (mem_Ico.mp hi).1, cj_list_sum tr htr, List.map_map]
        rfl) y]
  refine congrArg _ (Finset.sum_congr rfl fun i hi => ?_)
  have := mem_Ico.mp hi
  rw [S.off _ _ (by omega), G.decodeL_blk i j (by omega) (by omega)]

def stepUT (F : LUFac K) (tr : Tr) (unit : Bool) (s : SN) (x : Array K) : Array K :=
  utsolveTo (fun i j => cj tr (blk F.L s i j)) (fun j acc => if unit then acc else acc / cj tr (blk F.L s j j)) s.fsupc
    (gatherTo (fun jj => F.U.col (s.fsupc + jj)) (fun _ (e : Nat × K) => e.1) (fun _ (e : Nat × K) => cj tr e.2)
      s.fsupc x s.nsupc) s.nsupc

theorem trsvUT_eq (F : LUFac K) (tr : Tr) (unit : Bool) (x : Array K) :
    trsvUT F tr unit x = (List.range (F.L.nsuper + 1)).foldl (fun x k => stepUT F tr unit (snode F.L k) x) x := rfl

theorem stepUT_inv (tr : Tr) (htr : tr = Tr.C → ConjOK K) (unit : Bool) (G : SnOK F k s)
    (S : Solved (fun i j => cj tr (F.decodeU j i)) (fun i => if unit then 1 else cj tr (F.decodeU i i)) range M y x0 F.L.n)
    (x : Array K) (hinv : Sweep (fun i => i) (fun _ _ => 0) y F.L.n x0 (range s.fsupc) x) :
    Sweep (fun i => i) (fun _ _ => 0) y F.L.n x0 (range (s.fsupc + s.nsupc)) (stepUT F tr unit s x) := by
  rw [← range_union_block]
  have g_hi := G.hi; have g_le := G.le_n
  have habove := fun c (hc : c < s.nsupc) e (he : e ∈ F.U.col (s.fsupc + c)) => mem_range.mpr (G.uabove c hc e he)
  refine hinv.lazy_block S.size (fun i hi => Or.inl (mem_range.mp hi)) (by omega) _ _ _ habove
    (fun j v z => (fun j acc => if unit then acc else acc / cj tr (blk F.L s j j)) j
      (v - ∑ i ∈ range j, (fun i j => cj tr (blk F.L s i j)) i j * z i))
    _ (fun x1 z hb hz => utsolveTo_spec _ _ s.fsupc x1 s.nsupc hb z hz) fun j hj => ?_
  -- row `fsupc + j` of `op(U)`: above the supernode column `fsupc + j` of U entry by entry, then the block's part
  rw [S.sol _ (by omega), Finset.sum_range_add, S.diag, G.decodeU_blk j j hj (le_refl _), ← sub_sub,
    dot_by_key (F.U.col (s.fsupc + j)) (·.1) (fun e => cj tr e.2) _ (habove j hj) _ (fun i hi => by
      rw [S.off _ _ (by have := mem_range.mp hi; omega), G.decodeU_above i j hj (mem_range.mp hi), Uget_eq, cj_list_sum tr htr,
        List.map_map]
      rfl) y,
    Finset.sum_congr rfl fun i hi => by
      rw [S.off _ _ (by have := mem_range.mp hi; omega), G.decodeU_blk i j hj (by have := mem_range.mp hi; omega)]]
  cases unit
  · rfl
  · exact div_one _

end steps

section main
variable {K : Type} [Field K] [Conj K] [Inhabited K] {F : LUFac K}

def decoded (F : LUFac K) : UpLo → Nat → Nat → K
  | .L => F.decodeL
  | .U => F.decodeU

theorem trsvMat_offdiag (F : LUFac K) (uplo : UpLo) (tr : Tr) (unit : Bool) (i j : Nat) (h : i ≠ j) :
    trsvMat F uplo tr unit i j = opM tr (decoded F uplo) i j := by
  have : (i == j) = false := by simpa using h
  unfold trsvMat
  rw [this, Bool.and_false, if_neg Bool.false_ne_true]
  cases uplo <;> rfl

theorem trsvMat_diag (F : LUFac K) (uplo : UpLo) (tr : Tr) (unit : Bool) (i : Nat) :
    trsvMat F uplo tr unit i i = if unit then 1 else opM tr (decoded F uplo) i i := by
  unfold trsvMat
  cases unit
  · rw [Bool.false_and, if_neg Bool.false_ne_true, if_neg Bool.false_ne_true]
    cases uplo <;> rfl
  · rw [Bool.true_and, if_pos (beq_self_eq_true i), if_pos rfl]

theorem decodeL_diag (F : LUFac K) (i : Nat) : F.decodeL i i = 1 := by simp [LUFac.decodeL]

theorem trsvRef_rec (F : LUFac K) (uplo : UpLo) (tr : Tr) (unit : Bool) (b : Array K) (i : Nat) (hi : i < F.L.n) :
    (trsvRef F uplo tr unit b)[i]! =
      (b.getD i 0 - ∑ j ∈ (if effLower uplo tr then range i else Ico (i + 1) F.L.n),
        trsvMat F uplo tr unit i j * (trsvRef F uplo tr unit b)[j]!) / trsvMat F uplo tr unit i i := by
  unfold trsvRef
  dsimp only
  cases effLower uplo tr
  · have hget : ∀ j, j < F.L.n → (bwdSub (trsvMat F uplo tr unit) (fun i => trsvMat F uplo tr unit i i)
        (fun i => b.getD i 0) F.L.n F.L.n).toArray[j]! = (bwdSub (trsvMat F uplo tr unit)
        (fun i => trsvMat F uplo tr unit i i) (fun i => b.getD i 0) F.L.n F.L.n).getD j 0 := fun j hj =>
      toArray_get _ j (by rw [bwdSub_length]; exact hj)
    simp only [Bool.false_eq_true, if_false]
    rw [hget i hi, bwd_rec _ _ _ _ i hi]
    exact congrArg (fun s => (_ - s) / _) (Finset.sum_congr rfl fun j hj => by rw [hget j (mem_Ico.mp hj).2])
  · have hget : ∀ j, j < F.L.n → (fwdSub (trsvMat F uplo tr unit) (fun i => trsvMat F uplo tr unit i i)
        (fun i => b.getD i 0) F.L.n)[j]! = (fwdSub (trsvMat F uplo tr unit)
        (fun i => trsvMat F uplo tr unit i i) (fun i => b.getD i 0) F.L.n).getD j 0 := fun j hj =>
      getElem!_eq_getD_of_lt _ j (by rw [fwdSub_size]; exact hj)
    simp only [if_true]
    rw [hget i hi, fwd_rec _ _ _ _ i hi]
    exact congrArg (fun s => (_ - s) / _) (Finset.sum_congr rfl fun j hj => by
      rw [hget j (by have := mem_range.mp hj; omega)])

/-- supernodes in increasing order finish `range xsup[k]` -/
theorem SCLayout.sweep_up (H : SCLayout F) {A : Nat → Nat → K} {y : Nat → K} {b : Array K} (step : SN → Array K → Array K)
    (hstep : ∀ k s, SnOK F k s → ∀ x, Sweep (fun i => i) A y F.L.n b (range s.fsupc) x →
      Sweep (fun i => i) A y F.L.n b (range (s.fsupc + s.nsupc)) (step s x)) :
    Sweep (fun i => i) A y F.L.n b (range F.L.n) ((List.range (F.L.nsuper + 1)).foldl (fun x k => step (snode F.L k) x) b) := by
  have h := Sweep.run (fun k => range F.L.xsup[k]!) (fun k => step (snode F.L k)) (F.L.nsuper + 1)
    (by rw [H.first, Finset.range_zero]) fun k hk x h => (H.sn k hk).hi ▸ hstep k _ (H.sn k hk) x h
  rwa [H.last] at h

/-- supernodes in decreasing order finish `Ico xsup[k] n` -/
theorem SCLayout.sweep_down (H : SCLayout F) {A : Nat → Nat → K} {y : Nat → K} {b : Array K} (step : SN → Array K → Array K)
    (hstep : ∀ k s, SnOK F k s → ∀ x, Sweep (fun i => i) A y F.L.n b (Ico (s.fsupc + s.nsupc) F.L.n) x →
      Sweep (fun i => i) A y F.L.n b (Ico s.fsupc F.L.n) (step s x)) :
    Sweep (fun i => i) A y F.L.n b (range F.L.n)
      ((List.range (F.L.nsuper + 1)).foldl (fun x kk => step (snode F.L (F.L.nsuper - kk)) x) b) := by
  have h := Sweep.run_down (fun k => Ico F.L.xsup[k]! F.L.n) (fun k => step (snode F.L k)) F.L.nsuper (F.L.nsuper + 1)
    (le_refl _) (by rw [H.last, Finset.Ico_self]) fun k hk x h => hstep k _ (H.sn k hk) x ((H.sn k hk).hi ▸ h)
  rwa [Nat.sub_self, H.first, ← Finset.range_eq_Ico] at h

theorem spTrsv_eq_ref (F : LUFac K) (H : SCLayout F) (uplo : UpLo) (tr : Tr) (htr : tr = Tr.C → ConjOK K)
    (unit : Bool) (b : Array K) (hb : b.size = F.L.n) :
    (spTrsv F uplo tr unit b).size = F.L.n ∧
    ∀ i, i < F.L.n → (spTrsv F uplo tr unit b)[i]! = (trsvRef F uplo tr unit b)[i]! := by
  -- a layout has a first supernode, so `n ≠ 0`
  have hn : (F.L.n == 0) = false := by
    have G := H.sn 0 (Nat.succ_pos _)
    have := G.wpos; have := G.hi; have := G.le_n
    simpa using (show F.L.n ≠ 0 by omega)
  have hx : ∀ i, i < F.L.n → b[i]! = b.getD i 0 := fun i hi => getElem!_eq_getD_of_lt b i (by omega)
  have hrec : ∀ i, i < F.L.n → (trsvRef F uplo tr unit b)[i]! =
      (b[i]! - ∑ j ∈ (if effLower uplo tr then range i else Ico (i + 1) F.L.n),
        trsvMat F uplo tr unit i j * (trsvRef F uplo tr unit b)[j]!) / trsvMat F uplo tr unit i i := fun i hi => by
    rw [hx i hi]; exact trsvRef_rec F uplo tr unit b i hi
  have hoff := trsvMat_offdiag F uplo tr unit
  have hdg := trsvMat_diag F uplo tr unit
  suffices h : ∃ A, Sweep (fun i => i) A (fun i => (trsvRef F uplo tr unit b)[i]!) F.L.n b (range F.L.n)
      (spTrsv F uplo tr unit b) from
    h.elim fun _ h => ⟨h.size.trans hb, fun i hi => h.done i (mem_range.mpr hi)⟩
  cases uplo
  · by_cases htn : tr = Tr.N
    · subst htn
      rw [show spTrsv F .L .N unit b = trsvLN F b by simp [spTrsv, hn], trsvLN_eq]
      exact ⟨_, H.sweep_up (stepLN F) fun k s G x h => stepLN_inv G
        ⟨hb, fun i j hij => hoff i j hij, fun i => (hdg i).trans (by cases unit; exact decodeL_diag F i; rfl), hrec⟩ x h⟩
    · have hsp : spTrsv F .L tr unit b = trsvLT F tr b := by cases tr <;> simp [spTrsv, hn] at htn ⊢
      have hl : effLower .L tr = false := by cases tr <;> first | exact absurd rfl htn | rfl
      rw [hsp, trsvLT_eq]
      rw [hl] at hrec
      exact ⟨_, H.sweep_down (stepLT F tr) fun k s G x h => stepLT_inv tr htr G
        ⟨hb, fun i j hij => by rw [hoff i j hij, opM_tr tr htn]; rfl,
          fun i => (hdg i).trans (by
            cases unit
            · rw [opM_tr tr htn]; exact (congrArg (cj tr) (decodeL_diag F i)).trans (cj_one tr htr)
            · rfl), hrec⟩ x h⟩
  · by_cases htn : tr = Tr.N
    · subst htn
      rw [show spTrsv F .U .N unit b = trsvUN F unit b by simp [spTrsv, hn], trsvUN_eq]
      exact ⟨_, H.sweep_down (stepUN F unit) fun k s G x h => stepUN_inv unit G
        ⟨hb, fun i j hij => hoff i j hij, fun i => hdg i, hrec⟩ x h⟩
    · have hsp : spTrsv F .U tr unit b = trsvUT F tr unit b := by cases tr <;> simp [spTrsv, hn] at htn ⊢
      have hl : effLower .U tr = true := by cases tr <;> first | exact absurd rfl htn | rfl
      rw [hsp, trsvUT_eq]
      rw [hl] at hrec
      exact ⟨_, H.sweep_up (stepUT F tr unit) fun k s G x h => stepUT_inv tr htr unit G
        ⟨hb, fun i j hij => by rw [hoff i j hij, opM_tr tr htn]; rfl, fun i => by rw [hdg, opM_tr tr htn]; rfl, hrec⟩ x h⟩

end main

section tri
variable {K : Type} [Field K] [Conj K] [Inhabited K] {F : LUFac K}

theorem SCLayout.find (H : SCLayout F) (j : Nat) (hj : j < F.L.n) :
    ∃ k, k < F.L.nsuper + 1 ∧ ∃ c, c < (snode F.L k).nsupc ∧ j = (snode F.L k).fsupc + c := by
  obtain ⟨k, hk, h1, h2⟩ := exists_bracket (F.L.xsup[·]!) (F.L.nsuper + 1) j ((Nat.le_of_eq H.first).trans j.zero_le) (H.last.symm ▸ hj)
  refine ⟨k, hk, j - F.L.xsup[k]!, ?_, ?_⟩
  · show j - F.L.xsup[k]! < F.L.xsup[k+1]! - F.L.xsup[k]!
    omega
  · show j = F.L.xsup[k]! + (j - F.L.xsup[k]!)
    omega

theorem SCLayout.decodeL_upper (H : SCLayout F) (i j : Nat) (hj : j < F.L.n) (hij : i < j) : F.decodeL i j = 0 := by
  obtain ⟨k, hk, c, hc, rfl⟩ := H.find j hj
  exact (H.sn k hk).decodeL_upper i c hc hij

theorem SCLayout.decodeU_lower (H : SCLayout F) (i j : Nat) (hj : j < F.L.n) (hij : j < i) : F.decodeU i j = 0 := by
  obtain ⟨k, hk, c, hc, rfl⟩ := H.find j hj
  exact (H.sn k hk).decodeU_below i c hc hij

theorem SCLayout.trsvMat_tri (H : SCLayout F) (uplo : UpLo) (tr : Tr) (htr : tr = Tr.C → ConjOK K) (unit : Bool)
    (i j : Nat) (hi : i < F.L.n) (hj : j < F.L.n) (h : if effLower uplo tr then i < j else j < i) :
    trsvMat F uplo tr unit i j = 0 := by
  have hne : i ≠ j := by split at h <;> omega
  rw [trsvMat_offdiag F uplo tr unit i j hne]
  cases uplo <;> by_cases htn : tr = Tr.N
  · subst htn; exact H.decodeL_upper i j hj h
  · have : effLower .L tr = false := by cases tr <;> first | exact absurd rfl htn | rfl
    rw [this] at h
    rw [opM_tr tr htn]
    exact (congrArg (cj tr) (H.decodeL_upper j i hi h)).trans (cj_zero tr htr)
  · subst htn; exact H.decodeU_lower i j hj h
  · have : effLower .U tr = true := by cases tr <;> first | exact absurd rfl htn | rfl
    rw [this] at h
    rw [opM_tr tr htn]
    exact (congrArg (cj tr) (H.decodeU_lower j i hi h)).trans (cj_zero tr htr)

end tri

end Slu.Kernels
