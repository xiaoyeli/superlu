import SluProofs.Lemmas.StructWf
import SluProofs.Lemmas.Trsv
import SluProofs.Lemmas.ListLayout
import Mathlib.Data.List.Nodup
/-
Whatever passes the structural checker `Slu.Struct.wfb` (C03; the drivers of the `lu` and `symb` families apply it,
beside `wfSC`, to the (L, U) pair the implementation returns) has the layout `SCLayout` the proofs of `Lemmas/Trsv.lean` use.
-/
-- as in Lemmas/Trsv.lean: `[Field K] [Conj K]` enter statements that do not use them
set_option linter.unusedSectionVars false
namespace Slu.Kernels
open Slu Slu.Struct

theorem getElem!_nat (a : Array Nat) (i : Nat) : a[i]! = a.getD i 0 := by
  simp [Array.getElem!_eq_getD]

theorem getElem!_mem_drop (l : List Nat) (w p : Nat) (h1 : w ≤ p) (h2 : p < l.length) : l[p]! ∈ l.drop w := by
  refine List.mem_of_getElem? (i := p - w) ?_
  rw [List.getElem?_drop, Nat.add_sub_cancel' h1, List.getElem!_eq_getElem?_getD, List.getElem?_eq_getElem h2]
  rfl

theorem getElem!_inj_of_nodup_drop (l : List Nat) (w p q : Nat) (hnd : (l.drop w).Nodup) (hp1 : w ≤ p) (hp2 : p < l.length)
    (hq1 : w ≤ q) (hq2 : q < l.length) (he : l[p]! = l[q]!) : p = q := by
  obtain ⟨i, rfl⟩ := Nat.exists_eq_add_of_le hp1
  obtain ⟨j, rfl⟩ := Nat.exists_eq_add_of_le hq1
  have hi : i < (l.drop w).length := List.length_drop ▸ Nat.lt_sub_iff_add_lt'.mpr hp2
  have hj : j < (l.drop w).length := List.length_drop ▸ Nat.lt_sub_iff_add_lt'.mpr hq2
  rw [getElem!_pos l _ hp2, getElem!_pos l _ hq2, ← List.getElem_drop (h := hi), ← List.getElem_drop (h := hj)] at he
  rw [hnd.getElem_inj_iff.mp he]

section layout
variable {K : Type} [Field K] [Conj K] [Inhabited K]

theorem rowsOf_eq_map_rowAt (L : SNode K) (k : Nat) :
    rowsOf L k = (List.range (snode L k).nsupr).map (rowAt L (snode L k)) := rfl

theorem layout_of_wfb (F : LUFac K) (ilu : Bool) (hn : F.L.n ≠ 0) (hsq : F.L.m = F.L.n) (h : wfb F ilu = true) :
    SCLayout F := by
  obtain ⟨z, w⟩ := (wfb_iff F ilu hn).mp h
  refine ⟨w.first, w.last, fun k hk => ?_⟩
  have hne := w.nonempty k hk
  have hi : F.L.xsup[k]! + (snode F.L k).nsupc = F.L.xsup[k+1]! := Nat.add_sub_cancel' (Nat.le_of_lt hne)
  have hle : F.L.xsup[k+1]! ≤ F.L.n :=
    w.last ▸ ptr_mono (F.L.xsup[·]!) (F.L.nsuper + 1) (fun s hs => Nat.le_of_lt (w.nonempty s hs)) (k+1) _ hk (Nat.le_refl _)
  have hcol : ∀ c < (snode F.L k).nsupc, F.L.xsup[k]! + c < F.L.n := fun c hc =>
    Nat.lt_of_lt_of_le (Nat.add_lt_add_left hc _) (hi ▸ hle)
  have g1 := z.rows k hk; have g3 := w.leading k hk; have g4 := w.trailing k hk; have g6 := w.slices k hk
  rw [width_eq hne, rowsOf_eq_map_rowAt] at g1 g3 g4 g6
  rw [List.length_map, List.length_range] at g1 g6
  have rd := range_map_get (snode F.L k).nsupr (rowAt F.L (snode F.L k))
  refine ⟨rfl, Nat.sub_pos_of_lt hne, hi, hle, w.col_to_sup k hk, g1,
    fun c hc => (rd c (Nat.lt_of_lt_of_le hc g1)).symm.trans (g3 c hc), fun p hp1 hp2 => ?_,
    fun c hc => ptr_steps (F.L.xlusup[·]!) _ _ c fun i hi => ⟨(w.mono _ (hcol i (Nat.lt_trans hi hc))).2.1, g6 i (Nat.lt_trans hi hc)⟩,
    fun c hc e he => ?_⟩
  · have := g4 _ (rd p hp2 ▸ getElem!_mem_drop _ _ p hp1 (by rw [List.length_map, List.length_range]; exact hp2))
    rw [show (snode F.L k).fsupc + (snode F.L k).nsupc = F.L.xsup[k+1]! from hi, ← hsq]
    exact ⟨Nat.le_of_pred_lt this.1, this.2⟩
  · have := w.u_above _ (hcol c hc) e.1 (by rw [ucolRows_eq]; exact List.mem_map.mpr ⟨e, he, rfl⟩)
    rwa [w.col_to_sup k hk c hc] at this

/-- `lsub` of a supernode lists each row below the diagonal block once: the trailing positions `nsupc ≤ p < nsupr`
of its row list carry distinct rows (the clause `nodup (rows.drop w)` of `wfb`, which `SCLayout` does not record) -/
theorem trailInj_of_wfb (F : LUFac K) (ilu : Bool) (hn : F.L.n ≠ 0) (h : wfb F ilu = true) (k : Nat)
    (hk : k < F.L.nsuper + 1) (p q : Nat) (hp1 : (snode F.L k).nsupc ≤ p) (hp2 : p < (snode F.L k).nsupr)
    (hq1 : (snode F.L k).nsupc ≤ q) (hq2 : q < (snode F.L k).nsupr)
    (he : rowAt F.L (snode F.L k) p = rowAt F.L (snode F.L k) q) : p = q := by
  have w := ((wfb_iff F ilu hn).mp h).2
  have hnd := w.trailing_nodup k hk
  rw [width_eq (w.nonempty k hk), rowsOf_eq_map_rowAt] at hnd
  have len : ((List.range (snode F.L k).nsupr).map (rowAt F.L (snode F.L k))).length = (snode F.L k).nsupr := by
    rw [List.length_map, List.length_range]
  refine getElem!_inj_of_nodup_drop _ _ p q hnd hp1 (by rw [len]; exact hp2) hq1 (by rw [len]; exact hq2) ?_
  rw [range_map_get _ _ p hp2, range_map_get _ _ q hq2]; exact he

end layout

section ucol
variable {K : Type} [Inhabited K]

theorem ucol_nodup_of_wfb (F : LUFac K) (hn : F.L.n ≠ 0) (h : wfb F false = true) :
    ∀ j, j < F.L.n → ((F.U.col j).map Prod.fst).Nodup := by
  intro j hj
  rw [← ucolRows_eq]; exact ((wfb_iff F false hn).mp h).2.u_nodup rfl j hj

end ucol
end Slu.Kernels
