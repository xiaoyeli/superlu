import SluProofs.Lemmas.Solve
import SluProofs.Lemmas.SolveT
import SluProofs.Lemmas.MyBlas2
import SluProofs.Lemmas.ColBmod
import SluProofs.Props.C02
import SluProofs.Props.C04
/-
C01 — Simple driver returns a solution of A*X = B.

Exact-arithmetic core of the property for the modelled driver `gssvGlue` (SRC/dgssv.c:209-236:
order columns, factor `A*Pc` with threshold pivoting, then permute / forward / back / permute):
whenever it reports `info = 0` for a square system, every returned column X_r satisfies the caller's
equations exactly, for every column permutation, every threshold, every candidate order, every
number of right-hand sides; likewise for a row-stored A (SLU_NR, SRC/dgssv.c:183-192, 232-236: the
driver factors Aᵀ and calls the transposed solve) and for the CONJ solve over the Gaussian rationals.
The floating-point statement of C01 (componentwise bound with the returned factors) is checked on the
implementation's outputs in exact rationals on every run; the constants of that bound are proved in
the standard rounding model in Props/Rounding.lean, and that IEEE arithmetic satisfies the model away
from overflow and underflow is assumed.

The second and third part of the file specify what the numeric phase executes in a non-vendor build:
the library's own dense kernels (`[sdcz]lsolve`, `usolve`, `matvec`, `snode_bmod`) and `column_bmod`.
-/
namespace Slu.LU
open Slu Finset

variable {K : Type} [Field K] [Mag K Rat]

/-- **C01 (column storage).** `info = 0` ⇒ `A * X_r = B_r` for every right-hand side, where column
`c` of A is column `permC[c]` of the factored matrix `A*Pc`. -/
theorem gssv_solves (laws : MagLaws K) (P : Params K Rat) (hP : Legal P) (hsq : P.m = P.n)
    (permC : Array Nat) (hpc : permC.size = P.n)
    (hperm : ((List.range P.n).map fun c => permC.getD c 0).Perm (List.range P.n))
    (B : List (Vec K)) (hB : ∀ b ∈ B, b.size = P.m)
    (h : (gssvGlue P permC B).1 = 0) :
    (gssvGlue P permC B).2.length = B.length ∧
    ∀ r (hr : r < B.length) (i : Nat), i < P.m →
      ∑ c ∈ range P.n, (P.col (permC.getD c 0)).get i * (((gssvGlue P permC B).2.getD r #[]).get c) = (B[r]).get i := by
  rw [gssvGlue_eq] at h ⊢
  rw [if_pos h]
  refine ⟨List.length_map _, fun r hr i hi => ?_⟩
  rw [list_getD_map_of_lt _ _ r hr]
  exact gstrsN_solves P _ hsq (hP.inv laws false P.n h) hP.col_size permC hpc hperm _ (hB _ (List.getElem_mem hr)) i hi

/-- **C01 (failure leaves B alone).** restated from C04 for the driver's interface -/
theorem gssv_info_nonzero_B_untouched (P : Params K Rat) (permC : Array Nat) (B : List (Vec K))
    (h : (gssvGlue P permC B).1 ≠ 0) : (gssvGlue P permC B).2 = B :=
  gssv_singular_B_untouched P permC B h

/-- **C01 (each right-hand side is solved on its own).** The solution of column `r` depends only on
column `r` of B (any number of columns, in any company). -/
theorem gssv_columns_independent (P : Params K Rat) (permC : Array Nat) (B B' : List (Vec K)) (r r' : Nat)
    (hr : r < B.length) (hr' : r' < B'.length) (hsame : B[r] = B'[r'])
    (h : (luFactor P false).info = 0) :
    (gssvGlue P permC B).2.getD r #[] = (gssvGlue P permC B').2.getD r' #[] := by
  simp only [gssvGlue_eq, if_pos h]
  rw [list_getD_map_of_lt _ _ r hr, list_getD_map_of_lt _ _ r' hr', hsame]

/-! ### Row storage (SLU_NR): the transposed solve -/

/-- the simple driver on a row-stored matrix (SRC/dgssv.c:183-192, 232-236): the arrays of a SLU_NR
matrix are those of Aᵀ in column storage; the driver factors that matrix (`P.col j` = column `j` of
`Aᵀ*Pc`, a row of A) and solves with `trans = TRANS`, only when `info = 0` -/
def gssvGlueNR (P : Params K Rat) (permC : Array Nat) (B : List (Vec K)) : Nat × List (Vec K) :=
  let st := luFactor P false
  if st.info ≠ 0 then (st.info, B) else (0, B.map (gstrsT id st.piv st.L st.U permC))

theorem gssvGlueNR_eq (P : Params K Rat) (permC : Array Nat) (B : List (Vec K)) :
    gssvGlueNR P permC B = ((luFactor P false).info, if (luFactor P false).info = 0 then
      B.map (gstrsT id (luFactor P false).piv (luFactor P false).L (luFactor P false).U permC) else B) := by
  unfold gssvGlueNR
  by_cases h : (luFactor P false).info = 0 <;> simp [h]

/-- **C01 (row storage).** `info = 0` ⇒ `A * X_r = B_r` for every right-hand side of a row-stored
square A: row `c` of A is column `c` of Aᵀ, i.e. column `permC[c]` of the factored matrix `Aᵀ*Pc`, so
equation `c` reads `Σ_i (P.col permC[c])(i) * X_r(i) = B_r(c)`. -/
theorem gssv_solves_row_storage (laws : MagLaws K) (P : Params K Rat) (hP : Legal P) (hsq : P.m = P.n)
    (permC : Array Nat)
    (hperm : ((List.range P.n).map fun c => permC.getD c 0).Perm (List.range P.n))
    (B : List (Vec K))
    (h : (gssvGlueNR P permC B).1 = 0) :
    (gssvGlueNR P permC B).2.length = B.length ∧
    ∀ r (hr : r < B.length),
      ((gssvGlueNR P permC B).2.getD r #[]).size = P.n ∧
      ∀ c < P.n,
        ∑ i ∈ range P.m, (P.col (permC.getD c 0)).get i * (((gssvGlueNR P permC B).2.getD r #[]).get i) = (B[r]).get c := by
  rw [gssvGlueNR_eq] at h ⊢
  have inv : Inv P (luFactor P false) P.n := hP.inv laws false P.n h
  rw [if_pos h]
  refine ⟨List.length_map _, fun r hr => ?_⟩
  rw [list_getD_map_of_lt _ _ r hr]
  exact ⟨(gstrsT_size ..).trans inv.sizes.1, fun c hc => gstrsT_solves (RingHom.id K) P _ hsq inv permC hperm _ c hc⟩

/-- **C01 (row storage: failure leaves B alone).** -/
theorem gssv_row_storage_singular_B_untouched (P : Params K Rat) (permC : Array Nat) (B : List (Vec K))
    (h : (gssvGlueNR P permC B).1 ≠ 0) : (gssvGlueNR P permC B).2 = B := by
  rw [gssvGlueNR_eq] at h ⊢
  exact if_neg h

/-! ### CONJ: the conjugate-transposed solve over the Gaussian rationals -/

/-- complex conjugation (`zz_conj`, the `HasConj` instance of `Cx`) is a ring homomorphism of the
Gaussian rationals -/
def conjHom : Cx Rat →+* Cx Rat where
  toFun := HasConj.conj
  map_one' := by apply Cx.ext' <;> simp [HasConj.conj, Cx.conj, Cx.one_def]
  map_mul' a b := by
    apply Cx.ext'
    · simp [HasConj.conj, Cx.conj, Cx.mul_def]
    · simp [HasConj.conj, Cx.conj, Cx.mul_def]; ring
  map_zero' := by apply Cx.ext' <;> simp [HasConj.conj, Cx.conj, Cx.zero_def]
  map_add' a b := by
    apply Cx.ext'
    · simp [HasConj.conj, Cx.conj, Cx.add_def]
    · simp [HasConj.conj, Cx.conj, Cx.add_def]; ring

theorem conjHom_apply (z : Cx Rat) : conjHom z = HasConj.conj z := rfl

/-- **C01 (CONJ).** the solve with `f = conj` returns a solution of `Aᴴ x = b`:
`Σ_i conj(A(i,c)) * x_i = b_c` for every column `c` of A (column `permC[c]` of the factored matrix) -/
theorem gstrsT_solves_conj (P : Params (Cx Rat) Rat) (st : St (Cx Rat)) (hsq : P.m = P.n) (inv : Inv P st P.n)
    (permC : Array Nat)
    (hperm : ((List.range P.n).map fun c => permC.getD c 0).Perm (List.range P.n))
    (b : Vec (Cx Rat)) (c : Nat) (hc : c < P.n) :
    ∑ i ∈ range P.m, HasConj.conj ((P.col (permC.getD c 0)).get i) *
        (gstrsT HasConj.conj st.piv st.L st.U permC b).get i = b.get c :=
  gstrsT_solves conjHom P st hsq inv permC hperm b c hc

/-! non-vacuity: the 3x3 example of C02 (row interchange in the first column) solved for one
right-hand side: A x = b holds exactly -/
example : (gssvGlue exP #[0, 1, 2] [#[3, 8, 7]]).1 = 0 := by decide +kernel
example : (gssvGlue exP #[0, 1, 2] [#[3, 8, 7]]).2 = [#[1, 1, 1]] := by decide +kernel

/-! non-vacuity (row storage): A = [[2, 1], [4, 3]] stored by rows, column order `permC = [1, 0]`, so the
factored matrix `Aᵀ*Pc` has columns (row 1 of A, row 0 of A); b = A * (1, 2)ᵀ = (4, 10)ᵀ.  The
hypotheses of `gssv_solves_row_storage` hold, the driver reports success and returns (1, 2)ᵀ; the
non-transposed solve on the same arrays returns something else (the orientation matters). -/
def exNR : Params Rat Rat :=
  { m := 2, n := 2, col := fun j => if j = 0 then #[4, 3] else #[2, 1], u := 1, order := fun _ => [0, 1],
    oldPiv := fun _ => 0, diagRow := fun j => j }

theorem exNR_legal : Legal exNR :=
  ⟨by decide, by decide, by intro j; by_cases h : j = 0 <;> simp [exNR, h]⟩

example : ((List.range exNR.n).map fun c => (#[1, 0] : Array Nat).getD c 0).Perm (List.range exNR.n) := by decide
example : (gssvGlueNR exNR #[1, 0] [#[4, 10]]).1 = 0 := by decide +kernel
example : (gssvGlueNR exNR #[1, 0] [#[4, 10]]).2 = [#[1, 2]] := by decide +kernel
example : (gssvGlue exNR #[1, 0] [#[4, 10]]).2 ≠ [#[1, 2]] := by decide +kernel
example := gssv_solves_row_storage magLaws_rat exNR exNR_legal rfl #[1, 0] (by decide) [#[4, 10]] (by decide +kernel)

/-! non-vacuity (CONJ): the factored matrix has columns (1+i, i) and (2, 1-i); with x = (1, i)ᵀ,
`Aᴴ x = (2-i, 1+i)ᵀ`.  The conjugated solve recovers x, the plain transposed solve does not. -/
def exCx : Params (Cx Rat) Rat :=
  { m := 2, n := 2, col := fun j => if j = 0 then #[⟨1, 1⟩, ⟨0, 1⟩] else #[⟨2, 0⟩, ⟨1, -1⟩], u := 1,
    order := fun _ => [0, 1], oldPiv := fun _ => 0, diagRow := fun j => j }

example : (luFactor exCx false).info = 0 := by decide +kernel
example : (let st := luFactor exCx false
    gstrsT HasConj.conj st.piv st.L st.U #[0, 1] #[⟨2, -1⟩, ⟨1, 1⟩]) = #[⟨1, 0⟩, ⟨0, 1⟩] := by decide +kernel
example : (let st := luFactor exCx false
    gstrsT id st.piv st.L st.U #[0, 1] #[⟨2, -1⟩, ⟨1, 1⟩]) ≠ #[⟨1, 0⟩, ⟨0, 1⟩] := by decide +kernel

end Slu.LU

/-! ### The library's own dense kernels (SRC/[sdcz]myblas2.c) — what the triangular solves and the
numeric updates execute when the library is not built with a vendor BLAS

Family `myblas` compares the mirrors of Slu/Model/MyBlas2.lean with the C routines bit for bit; the theorems below are
the mirrors' exact-arithmetic specification. -/
namespace Slu.MyBlas2
open Slu Finset Slu.Kernels

variable {K : Type} [Field K] [Inhabited K]

/-- **C01 (own BLAS: `lsolve`).** For every `ncol` (every residue of every unrolling factor), every `ldm` and
offsets the result is the dense reference `Slu.Kernels.fwdSub` for the UNIT lower triangular system whose strictly
lower part is read from `M` with stride `ldm` (`M` is an argument that is only read). -/
theorem lsolve_spec (cplx : Bool) (ldm ncol : Nat) (M : Array K) (mo : Nat) (rhs : Array K) (ro : Nat)
    (hb : ro + ncol ≤ rhs.size) :
    (lsolve cplx ldm ncol M mo rhs ro).size = rhs.size ∧
    (∀ i, i < ncol → (lsolve cplx ldm ncol M mo rhs ro)[ro + i]! =
      (fwdSub (fun i j => M[mo + (j * ldm + i)]!) (fun _ => 1) (fun i => rhs[ro + i]!) ncol).getD i 0) ∧
    (∀ i, i < ncol → (lsolve cplx ldm ncol M mo rhs ro)[ro + i]! +
      ∑ j ∈ range i, M[mo + (j * ldm + i)]! * (lsolve cplx ldm ncol M mo rhs ro)[ro + j]! = rhs[ro + i]!) ∧
    (∀ p, (p < ro ∨ ro + ncol ≤ p) → (lsolve cplx ldm ncol M mo rhs ro)[p]! = rhs[p]!) := by
  obtain ⟨h1, h2, h3⟩ := lsolveG_spec cplx ldm ncol (fun _ i => M[mo + i]!) ro rhs (fun i j => M[mo + (j * ldm + i)]!) _ hb
    (fun _ _ _ _ _ _ => rfl) (fwdSub_unit_rec _ (fun i => rhs[ro + i]!) ncol)
  refine ⟨h1, h2, fun i hi => ?_, h3⟩
  unfold lsolve
  rw [Finset.sum_congr rfl (fun j hj => by rw [h2 j (by have := mem_range.mp hj; omega), mul_comm]), h2 i hi,
    fwdSub_unit_rec _ _ ncol i hi]
  exact sub_add_cancel _ _

/-- **C01 (own BLAS: `lsolve` inside one array, as `snode_bmod` calls it).** Matrix at offset `mo`
and right-hand side at offset `ro` of the SAME array; as long as the strictly lower triangle read
by the routine does not overlap the right-hand side, the result is the same forward substitution
and EVERY cell outside `ro .. ro+ncol-1` — in particular every entry of the matrix — is unchanged. -/
theorem lsolveA_spec (cplx : Bool) (ldm ncol : Nat) (a : Array K) (mo ro : Nat) (hb : ro + ncol ≤ a.size)
    (hdis : ∀ i j, j < i → i < ncol → mo + (j * ldm + i) < ro ∨ ro + ncol ≤ mo + (j * ldm + i)) :
    (lsolveA cplx ldm ncol a mo ro).size = a.size ∧
    (∀ i, i < ncol → (lsolveA cplx ldm ncol a mo ro)[ro + i]! =
      (fwdSub (fun i j => a[mo + (j * ldm + i)]!) (fun _ => 1) (fun i => a[ro + i]!) ncol).getD i 0) ∧
    (∀ p, (p < ro ∨ ro + ncol ≤ p) → (lsolveA cplx ldm ncol a mo ro)[p]! = a[p]!) :=
  lsolveG_spec cplx ldm ncol (fun s i => s[mo + i]!) ro a (fun i j => a[mo + (j * ldm + i)]!) _ hb
    (fun _ hs i j hji hi => hs.2 _ (hdis i j hji hi)) (fwdSub_unit_rec _ (fun i => a[ro + i]!) ncol)

/-- **C01 (own BLAS: `usolve`).** With a nonzero stored diagonal the result is the solution of the
upper triangular system `U x = rhs` read from `M` with stride `ldm` (the dense reference
`Slu.Kernels.bwdSub`), for every `ncol`; no other cell of `rhs` changes. -/
theorem usolve_spec [Conj K] (ldm ncol : Nat) (M : Array K) (mo : Nat) (rhs : Array K) (ro : Nat)
    (hb : ro + ncol ≤ rhs.size) (hd : ∀ i, i < ncol → M[mo + (i + i * ldm)]! ≠ 0) :
    (usolve ldm ncol M mo rhs ro).size = rhs.size ∧
    (∀ i, i < ncol → (usolve ldm ncol M mo rhs ro)[ro + i]! =
      (bwdSub (fun i j => M[mo + (i + j * ldm)]!) (fun i => M[mo + (i + i * ldm)]!) (fun i => rhs[ro + i]!) ncol ncol).getD i 0) ∧
    (∀ i, i < ncol → ∑ j ∈ Ico i ncol, M[mo + (i + j * ldm)]! * (usolve ldm ncol M mo rhs ro)[ro + j]! = rhs[ro + i]!) ∧
    (∀ p, (p < ro ∨ ro + ncol ≤ p) → (usolve ldm ncol M mo rhs ro)[p]! = rhs[p]!) := by
  obtain ⟨h1, h2, h3⟩ := usolve_spec' ldm ncol M mo rhs ro hb _
    (bwd_rec (fun i j => M[mo + (i + j * ldm)]!) (fun i => M[mo + (i + i * ldm)]!) (fun i => rhs[ro + i]!) ncol)
  refine ⟨h1, h2, fun i hi => ?_, h3⟩
  rw [Finset.sum_congr rfl (fun j hj => by rw [h2 j (by have := mem_Ico.mp hj; omega)])]
  have := LU.triBack_solves (fun i j => M[mo + (i + j * ldm)]!) (fun i => rhs[ro + i]!) ncol hd i hi
  rwa [LU.triBack_eq_bwdSub] at this

/-- **C01 (own BLAS: `matvec`).** `Mxvec[k] += Σ_j M(k,j)·vec[j]` for every `nrow`, `ncol`, `ldm`, both unrolling
schemes. -/
theorem matvec_spec (cplx : Bool) (ldm nrow ncol : Nat) (M : Array K) (mo : Nat) (vec : Array K) (vo : Nat) (y : Array K)
    (hb : nrow ≤ y.size) :
    (matvec cplx ldm nrow ncol M mo vec vo y).size = y.size ∧
    (∀ k, k < nrow → (matvec cplx ldm nrow ncol M mo vec vo y)[k]! =
      y[k]! + ∑ j ∈ range ncol, M[mo + (j * ldm + k)]! * vec[vo + j]!) ∧
    (∀ p, nrow ≤ p → (matvec cplx ldm nrow ncol M mo vec vo y)[p]! = y[p]!) :=
  matvec_spec' cplx ldm nrow ncol M mo vec vo y hb

/-! `ncol = 11` (one block of 8, then 2, then the last column resp. 4 + 4 + 2 + last column for the
complex scheme; `matvec`: 8 + 1 + 1 + 1 resp. 4 + 4 + 1 + 1 + 1), `nrow = 5`, `ldm = 13`. -/
def exM : Array Rat := (Array.range 143).map fun k => ((((k * 7 + 3) % 5 : Nat) : Int) - 2 : Int)
def exU : Array Rat := (Array.range 143).map fun k => if k % 14 = 0 then 1 else ((((k * 7 + 3) % 5 : Nat) : Int) - 2 : Int)
def exRhs : Array Rat := (Array.range 11).map fun k => (((k * 3 + 1) % 7 : Nat) : Int)
def exY : Array Rat := (Array.range 5).map fun k => ((k : Nat) : Int)

theorem exRhs_size : exRhs.size = 11 := by simp [exRhs]
theorem exY_size : exY.size = 5 := by simp [exY]
theorem exM_get (k : Nat) (hk : k < 143) : exM[k]! = ((((k * 7 + 3) % 5 : Nat) : Int) - 2 : Int) :=
  getElem!_map_range 143 _ k hk
theorem exU_get (k : Nat) (hk : k < 143) :
    exU[k]! = (if k % 14 = 0 then 1 else ((((k * 7 + 3) % 5 : Nat) : Int) - 2 : Int) : Rat) :=
  getElem!_map_range 143 _ k hk

/-- instances of the specifications above, for both unrolling schemes at once: the stated vector is checked against the
recurrence that `lsolveG_spec` asks of a solution (resp. against the sums of `matvec_spec'`), the table read by its formula -/
theorem exLsolve (c : Bool) :
    let l : List Rat := [1, 6, -6, 7, -1, -16, -24, 44, 37, -143, 174]
    lsolve c 13 11 exM 0 exRhs 0 = l.toArray := by
  intro l
  obtain ⟨h1, h2, -⟩ := lsolveG_spec c 13 11 (fun _ i => exM[0 + i]!) 0 exRhs
    (fun i j => ((((((j * 13 + i) * 7 + 3) % 5 : Nat) : Int) - 2 : Int) : Rat)) (fun i => l.getD i 0) exRhs_size.ge
    (fun _ _ i j _ _ => by rw [Nat.zero_add]; exact exM_get _ (by omega)) (by decide +kernel)
  exact eq_toArray_of_getD _ _ 0 (h1.trans exRhs_size) (fun i hi => (congrArg _ (Nat.zero_add i).symm).trans (h2 i hi))
example : lsolve false 13 11 exM 0 exRhs 0 = #[1, 6, -6, 7, -1, -16, -24, 44, 37, -143, 174] := exLsolve false
example : lsolve true 13 11 exM 0 exRhs 0 = #[1, 6, -6, 7, -1, -16, -24, 44, 37, -143, 174] := exLsolve true
theorem exMatvec (c : Bool) : matvec c 13 5 11 exM 0 exRhs 0 exY = #[15, -1, -7, 2, 1] := by
  obtain ⟨h1, h2, -⟩ := matvec_spec' c 13 5 11 exM 0 exRhs 0 exY exY_size.ge
  refine eq_toArray_of_getD _ _ 0 (h1.trans exY_size) (fun k hk => ?_)
  replace hk : k < 5 := hk
  rw [h2 k hk, Finset.sum_congr rfl (fun j hj => by rw [Nat.zero_add (j * 13 + k), exM_get _ (by have := mem_range.mp hj; omega)])]
  revert k
  decide +kernel
example : matvec false 13 5 11 exM 0 exRhs 0 exY = #[15, -1, -7, 2, 1] := exMatvec false
example : matvec true 13 5 11 exM 0 exRhs 0 exY = #[15, -1, -7, 2, 1] := exMatvec true
example : usolve 13 11 exU 0 exRhs 0 = #[698, -134, 170, 91, -7, -38, 10, -6, -5, 3, 3] := by
  -- the stated vector against the recurrence of `usolve_spec'`: a plain run reads the 143-cell table 77 times through a list,
  -- which costs the kernel more than the arithmetic
  obtain ⟨h1, h2, -⟩ := usolve_spec' 13 11 exU 0 exRhs 0 exRhs_size.ge
    (fun i => [698, -134, 170, 91, -7, -38, 10, -6, -5, 3, 3].getD i 0)
    (fun i hi => by
      rw [Finset.sum_congr rfl (fun j hj => by rw [Nat.zero_add, exU_get _ (by have := mem_Ico.mp hj; omega)]),
        Nat.zero_add (i + i * 13), exU_get _ (by omega)]
      revert i
      rw [exRhs, map_range_eq_list]
      decide +kernel)
  exact eq_toArray_of_getD _ _ 0 (h1.trans exRhs_size) (fun i hi => (congrArg _ (Nat.zero_add i).symm).trans (h2 i hi))
example := lsolve_spec false 13 11 exM 0 exRhs 0 exRhs_size.ge
example := matvec_spec true 13 5 11 exM 0 exRhs 0 exY exY_size.ge
example : ∀ i, i < 11 → exU[0 + (i + i * 13)]! ≠ 0 := fun i hi => by
  rw [Nat.zero_add, exU_get _ (by omega), if_pos (by omega)]
  exact one_ne_zero

/-- **C01 (own BLAS: `snode_bmod`).** After the call column `jcol` of the relaxed supernode `fsupc..jcol` holds, with
`u` the forward substitution of the gathered `dense` through the unit lower diagonal block of the finished columns
`fsupc..jcol-1`: `u` in its first `nsupc` cells (the U-segment), `dense[row i] − Σ_r L(i,r)·u_r` below.
Holds for `jcol = fsupc` too (no update, plain copy). -/
theorem snodeBmod_spec (cplx : Bool) (jcol fsupc : Nat) (lsub xlsub : Array Nat) (st : SnodeSt K)
    (istart nsupr ufirst luptr nsupc : Nat)
    (e1 : istart = xlsub[fsupc]!) (e2 : nsupr = xlsub[fsupc + 1]! - istart)
    (e3 : ufirst = st.xlusup[jcol]!) (e4 : luptr = st.xlusup[fsupc]!) (e5 : nsupc = jcol - fsupc)
    (hle : fsupc ≤ jcol)
    (hinj : ∀ t u, t < nsupr → u < nsupr → lsub[istart + t]! = lsub[istart + u]! → t = u)
    (hrow : ∀ t, t < nsupr → lsub[istart + t]! < st.dense.size)
    (hcol : ufirst + nsupr ≤ st.lusup.size) (hwid : nsupc ≤ nsupr)
    (hbefore : luptr + nsupc * nsupr ≤ ufirst)
    (htv : nsupr - nsupc ≤ st.tempv.size) (htz : ∀ i, i < nsupr - nsupc → st.tempv[i]! = 0) :
    let u := fwdSub (fun i r => st.lusup[luptr + (r * nsupr + i)]!) (fun _ => 1) (fun t => st.dense[lsub[istart + t]!]!) nsupc
    let o := snodeBmod cplx jcol fsupc lsub xlsub st
    o.lusup.size = st.lusup.size ∧
    (∀ t, t < nsupc → o.lusup[ufirst + t]! = u.getD t 0) ∧
    (∀ i, nsupc ≤ i → i < nsupr → o.lusup[ufirst + i]! =
      st.dense[lsub[istart + i]!]! - ∑ r ∈ range nsupc, st.lusup[luptr + (r * nsupr + i)]! * u.getD r 0) ∧
    (∀ p, (p < ufirst ∨ ufirst + nsupr ≤ p) → o.lusup[p]! = st.lusup[p]!) ∧
    o.dense.size = st.dense.size ∧
    (∀ t, t < nsupr → o.dense[lsub[istart + t]!]! = 0) ∧
    (∀ r, (∀ t, t < nsupr → lsub[istart + t]! ≠ r) → o.dense[r]! = st.dense[r]!) ∧
    o.tempv.size = st.tempv.size ∧ (∀ i : Nat, o.tempv[i]! = st.tempv[i]!) ∧
    o.xlusup = st.xlusup.setIfInBounds (jcol + 1) (ufirst + nsupr) :=
  snodeBmod_spec' cplx jcol fsupc lsub xlsub st istart nsupr ufirst luptr nsupc e1 e2 e3 e4 e5 hle hinj hrow hcol hwid
    hbefore htv htz _ (fwdSub_unit_rec _ (fun t => st.dense[lsub[istart + t]!]!) nsupc)

/-! A supernode with `nsupc = 11` finished columns (8 + 2 + 1), `nrow = 5` rows below the diagonal
block: `fsupc = 2`, `jcol = 13`, `nsupr = 16`, subscripts start at 1, values at 3. -/
def exLsub : Array Nat := #[9, 3, 7, 0, 12, 5, 14, 1, 16, 10, 8, 2, 15, 4, 11, 6, 13]
def exXlsub : Array Nat := #[0, 1, 1, 17]
def exXlusup : Array Nat := (Array.range 15).map fun c => if c < 2 then 0 else if c = 14 then 0 else 3 + (c - 2) * 16
def exLusup : Array Rat := (Array.range (3 + 12 * 16)).map fun k => ((((k * 5 + 1) % 3 : Nat) : Int) - 1 : Int)
def exDense : Array Rat := (Array.range 18).map fun k => ((((k * 3 + 2) % 5 : Nat) : Int) - 2 : Int)
def exSt : SnodeSt Rat := { lusup := exLusup, xlusup := exXlusup, dense := exDense, tempv := Array.replicate 6 0 }

theorem exLsub_distinct : ∀ t, t < 16 → ∀ u, u < 16 → exLsub[1 + t]! = exLsub[1 + u]! → t = u := by decide +kernel
theorem exSt_room : 179 + 16 ≤ exSt.lusup.size := by simp [exSt, exLusup]
/-- the thirteen hypotheses of `snodeBmod_spec`, held together for the test supernodes below; no theorem takes the bundle -/
structure SnodeOK (lsub xlsub : Array Nat) (st : SnodeSt K) (jcol fsupc istart nsupr ufirst luptr nsupc : Nat) : Prop where
  e1 : istart = xlsub[fsupc]!
  e2 : nsupr = xlsub[fsupc + 1]! - istart
  e3 : ufirst = st.xlusup[jcol]!
  e4 : luptr = st.xlusup[fsupc]!
  e5 : nsupc = jcol - fsupc
  hle : fsupc ≤ jcol
  hinj : ∀ t u, t < nsupr → u < nsupr → lsub[istart + t]! = lsub[istart + u]! → t = u
  hrow : ∀ t, t < nsupr → lsub[istart + t]! < st.dense.size
  hcol : ufirst + nsupr ≤ st.lusup.size
  hwid : nsupc ≤ nsupr
  hbefore : luptr + nsupc * nsupr ≤ ufirst
  htv : nsupr - nsupc ≤ st.tempv.size
  htz : ∀ i, i < nsupr - nsupc → st.tempv[i]! = 0

theorem exSt_ok : SnodeOK exLsub exXlsub exSt 13 2 1 16 179 3 11 :=
  ⟨by decide +kernel, by decide +kernel, by decide +kernel, by decide +kernel, by decide, by decide,
    fun t u ht hu => exLsub_distinct t ht u hu, by decide +kernel, exSt_room, by decide, by decide,
    by decide +kernel, by decide +kernel⟩
theorem exLusup_get (k : Nat) (hk : k < 195) : exSt.lusup[k]! = ((((k * 5 + 1) % 3 : Nat) : Int) - 1 : Int) :=
  getElem!_map_range 195 _ k hk

/-- the instance of `snodeBmod_spec'` at the stated vector, for both unrolling schemes: its first 11 entries satisfy the
triangular recurrence, the other 5 are `dense − L·u` (11 + 5 sums of at most 11 products are evaluated) -/
theorem exSnode_lusup (c : Bool) :
    let l : List Rat := [-1, 0, 1, 0, -1, 4, -8, -10, 14, -31, -28, 59, -56, -3, 57, -59]
    (snodeBmod c 13 2 exLsub exXlsub exSt).lusup.extract 179 195 = l.toArray := by
  intro l
  have G := exSt_ok
  obtain ⟨a1, a2, a3, -⟩ := snodeBmod_spec' c 13 2 exLsub exXlsub exSt 1 16 179 3 11 G.e1 G.e2 G.e3 G.e4 G.e5 G.hle G.hinj G.hrow
    G.hcol G.hwid G.hbefore G.htv G.htz (fun i => l.getD i 0)
    (fun i hi => by
      rw [Finset.sum_congr rfl (fun j hj => by rw [exLusup_get _ (by have := mem_range.mp hj; omega)])]
      revert i
      rw [exSt, exDense, map_range_eq_list]
      decide +kernel)
  refine extract_eq_toArray_of_getD _ 179 l 0 (by rw [a1]; exact exSt_room) (fun i hi => ?_)
  by_cases h : i < 11
  · exact a2 i h
  · replace hi : i < 16 := hi
    replace h : 11 ≤ i := by omega
    rw [a3 i h hi, Finset.sum_congr rfl (fun j hj => by rw [exLusup_get _ (by have := mem_range.mp hj; omega)])]
    clear a1 a2 a3
    revert i
    rw [exSt, exDense, map_range_eq_list]
    decide +kernel
example : (snodeBmod false 13 2 exLsub exXlsub exSt).lusup.extract 179 195 =
    #[-1, 0, 1, 0, -1, 4, -8, -10, 14, -31, -28, 59, -56, -3, 57, -59] := exSnode_lusup false
example : (snodeBmod true 13 2 exLsub exXlsub exSt).lusup.extract 179 195 =
    #[-1, 0, 1, 0, -1, 4, -8, -10, 14, -31, -28, 59, -56, -3, 57, -59] := exSnode_lusup true
example : (snodeBmod false 13 2 exLsub exXlsub exSt).dense = #[0, 0, 0, 0, 0, 0, 0, 0, 0, 2, 0, 0, 0, 0, 0, 0, 0, 1] := by
  rw [exSt, exLusup, map_range_eq_list]; decide +kernel
example := snodeBmod_spec false 13 2 exLsub exXlsub exSt 1 16 179 3 11 exSt_ok.e1 exSt_ok.e2 exSt_ok.e3 exSt_ok.e4
  exSt_ok.e5 exSt_ok.hle exSt_ok.hinj exSt_ok.hrow exSt_ok.hcol exSt_ok.hwid exSt_ok.hbefore exSt_ok.htv exSt_ok.htz

/-- **C01/C02 (the mirrored kernels instantiate the "dense solve + gemv" step of the supernodal
schedule theorem).**  `cols` are the finished columns `fsupc..jcol-1` as the factorization model
holds them (`(pivot row, column of L)`, e.g. a block of `prev st j` in `luFactor_supernodal_schedule`),
agreeing with the storage on the rows of the supernode (`R1`, `R2`).  Then what `snode_bmod` leaves
in column `jcol` is the abstract block update `Slu.LU.snodeBlock cols dense`: its U-segment in
the diagonal-block cells, its remaining vector at the rows below. -/
theorem snodeBmod_is_supernodal_step (cplx : Bool) (jcol fsupc : Nat) (lsub xlsub : Array Nat) (st : SnodeSt K)
    (istart nsupr ufirst luptr nsupc : Nat)
    (e1 : istart = xlsub[fsupc]!) (e2 : nsupr = xlsub[fsupc + 1]! - istart)
    (e3 : ufirst = st.xlusup[jcol]!) (e4 : luptr = st.xlusup[fsupc]!) (e5 : nsupc = jcol - fsupc)
    (hle : fsupc ≤ jcol)
    (hinj : ∀ t u, t < nsupr → u < nsupr → lsub[istart + t]! = lsub[istart + u]! → t = u)
    (hrow : ∀ t, t < nsupr → lsub[istart + t]! < st.dense.size)
    (hcol : ufirst + nsupr ≤ st.lusup.size) (hwid : nsupc ≤ nsupr)
    (hbefore : luptr + nsupc * nsupr ≤ ufirst)
    (htv : nsupr - nsupc ≤ st.tempv.size) (htz : ∀ i, i < nsupr - nsupc → st.tempv[i]! = 0)
    (cols : List (Nat × LU.Vec K)) (hlen : cols.length = nsupc)
    (R1 : ∀ t (ht : t < cols.length), (cols[t]).1 = lsub[istart + t]!)
    (R2 : ∀ t (ht : t < cols.length) i, i < nsupr → (cols[t]).2.get (lsub[istart + i]!) =
        if i < t then 0 else if i = t then 1 else st.lusup[luptr + (t * nsupr + i)]!) :
    LU.snodeBlock cols st.dense = LU.elim cols st.dense ∧
    LU.elimBlocks [cols] st.dense = LU.elim cols st.dense ∧
    (∀ t, t < nsupc → (snodeBmod cplx jcol fsupc lsub xlsub st).lusup[ufirst + t]! = (LU.snodeBlock cols st.dense).2.getD t 0) ∧
    (∀ i, nsupc ≤ i → i < nsupr → (snodeBmod cplx jcol fsupc lsub xlsub st).lusup[ufirst + i]! =
      (LU.snodeBlock cols st.dense).1.get (lsub[istart + i]!)) := by
  subst hlen
  obtain ⟨hb, he, hz, hg⟩ := snodeBlock_storage cols st.dense (fun i => lsub[istart + i]!)
    (fun t i => st.lusup[luptr + (t * nsupr + i)]!) nsupr hwid hrow R1 R2
  obtain ⟨_, c2, c3, _⟩ := snodeBmod_spec' cplx jcol fsupc lsub xlsub st istart nsupr ufirst luptr cols.length e1 e2 e3 e4 e5
    hle hinj hrow hcol hwid hbefore htv htz (fun t => (LU.snodeBlock cols st.dense).2.getD t 0) hz
  exact ⟨hb, he, c2, fun i hi hin => (c3 i hi hin).trans (hg i hi hin).symm⟩

/-! ### The triangular solves of `gstrs` run the mirrored kernels

`trsvLNblas` / `trsvUNblas` (Lemmas/MyBlas2.lean) run the supernode loop of `Slu.Kernels.trsvLN` / `trsvUN` with the
diagonal-block solve and the update done by the mirrored `lsolve` + `matvec` + scatter, resp. `usolve`: what
SRC/dsp_blas2.c executes in a non-vendor build.  `trsvLN` / `trsvUN` equal the dense reference on well-formed storage
(`spTrsv_eq_ref` of Lemmas/Trsv.lean, property C14); `gssv_solves` above is about the specification-level `LU.gstrsN`
and does not go through them. -/

/-- **C01 (forward solve = mirrored `lsolve` + `matvec` per supernode).** -/
theorem trsvLN_eq_mirrored [Conj K] (cplx : Bool) (F : LUFac K) (x : Array K)
    (hb : ∀ k, k ≤ F.L.nsuper → (snode F.L k).fsupc + (snode F.L k).nsupc ≤ x.size) :
    trsvLN F x = trsvLNblas cplx F x := (trsvLNblas_eq_trsvLN cplx F x hb).symm

/-- **C01 (back solve = mirrored `usolve` per supernode).** -/
theorem trsvUN_eq_mirrored [Conj K] (F : LUFac K) (x : Array K) : trsvUN F false x = trsvUNblas F x :=
  (trsvUNblas_eq_trsvUN F x).symm

/-- **C01 (the two solves of `gstrs`, NOTRANS).** `gstrsCol F permc permr Tr.N b` is by definition
`gather permc (spTrsv F .U .N false (spTrsv F .L .N true (scatter permr b)))`; the inner composition
is the mirrored kernels' one. -/
theorem spTrsv_notrans_eq_mirrored [Conj K] (cplx : Bool) (F : LUFac K) (x : Array K) (hn : (F.L.n == 0) = false)
    (hb : ∀ k, k ≤ F.L.nsuper → (snode F.L k).fsupc + (snode F.L k).nsupc ≤ x.size) :
    spTrsv F .U .N false (spTrsv F .L .N true x) = trsvUNblas F (trsvLNblas cplx F x) := by
  unfold spTrsv
  simp only [hn]
  rw [trsvLNblas_eq_trsvLN cplx F x hb, trsvUNblas_eq_trsvUN]
  rfl

/-! Hypotheses are satisfiable: the model's columns for the example supernode (`exLsub`, `exLusup`:
`nsupc = 11`, `nrow = 5`), and a 16 x 16 factor whose first supernode has 11 columns and 16 rows. -/
def exCols : List (Nat × LU.Vec Rat) := (List.range 11).map fun t =>
  (exLsub[1 + t]!, (Array.range 18).map fun r =>
    match (List.range 16).find? (fun i => exLsub[1 + i]! == r) with
    | some i => if i < t then 0 else if i = t then 1 else exLusup[3 + (t * 16 + i)]!
    | none => 0)

theorem exCols_R1 : ∀ t (ht : t < exCols.length), (exCols[t]).1 = exLsub[1 + t]! := by decide +kernel
theorem exCols_R2 : ∀ t (ht : t < exCols.length) i, i < 16 → (exCols[t]).2.get (exLsub[1 + i]!) =
    if i < t then 0 else if i = t then 1 else exSt.lusup[3 + (t * 16 + i)]! := by
  intro t ht i hi
  have e : exCols[t] = _ := List.getElem_map ..
  rw [e, List.getElem_range]
  exact storedCol_get 18 16 (fun u => exLsub[1 + u]!) _ (fun t u ht hu => exLsub_distinct t ht u hu) (by decide +kernel) i hi
example := snodeBmod_is_supernodal_step false 13 2 exLsub exXlsub exSt 1 16 179 3 11 exSt_ok.e1 exSt_ok.e2 exSt_ok.e3 exSt_ok.e4
  exSt_ok.e5 exSt_ok.hle exSt_ok.hinj exSt_ok.hrow exSt_ok.hcol exSt_ok.hwid exSt_ok.hbefore exSt_ok.htv exSt_ok.htz
  exCols (by decide +kernel) exCols_R1 exCols_R2

def exF : LUFac Rat :=
  { L := { m := 16, n := 16, nsuper := 5, xsup := #[0, 11, 12, 13, 14, 15, 16],
           supno := #[0, 0, 0, 0, 0, 0, 0, 0, 0, 0, 0, 1, 2, 3, 4, 5],
           xlsub := #[0, 16, 16, 16, 16, 16, 16, 16, 16, 16, 16, 16, 17, 18, 19, 20, 21],
           lsub := #[0, 1, 2, 3, 4, 5, 6, 7, 8, 9, 10, 11, 12, 13, 14, 15, 11, 12, 13, 14, 15],
           xlusup := #[0, 16, 32, 48, 64, 80, 96, 112, 128, 144, 160, 176, 177, 178, 179, 180, 181],
           lusup := (Array.range 181).map fun k => if k % 17 = 0 ∨ k ≥ 176 then 1 else ((((k * 5 + 1) % 3 : Nat) : Int) - 1 : Int) },
    U := { m := 16, n := 16, colptr := Array.replicate 17 0, rowind := #[], val := #[] }, nnzL := 181, nnzU := 0 }
def exB : Array Rat := (Array.range 16).map fun k => ((((k * 3 + 2) % 5 : Nat) : Int) - 2 : Int)

theorem exF_blocks : ∀ k, k ≤ exF.L.nsuper → (snode exF.L k).fsupc + (snode exF.L k).nsupc ≤ exB.size := by decide +kernel
example : trsvLNblas false exF exB = trsvLN exF exB := trsvLNblas_eq_trsvLN false exF exB exF_blocks
example : trsvLNblas true exF exB = trsvLN exF exB := trsvLNblas_eq_trsvLN true exF exB exF_blocks
example : trsvUNblas exF (trsvLN exF exB) = trsvUN exF false (trsvLN exF exB) := trsvUNblas_eq_trsvUN _ _
/-- cell 3 differs (the kernel then evaluates only what that cell depends on) -/
example : trsvLN exF exB ≠ exB := fun h =>
  absurd (congrArg (·[3]!) h) (by rw [exF, map_range_eq_list]; decide +kernel)
example := spTrsv_notrans_eq_mirrored false exF exB (by decide +kernel) exF_blocks

end Slu.MyBlas2

/-! ## `[sdcz]column_bmod` (non-vendor build): the caller of the mirrored kernels

Family `colbmod` compares the mirror `Slu.ColBmod.colBmod` (Slu/Model/ColBmod.lean) with the C routine by direct calls,
whole buffers bit for bit; the theorems below are the mirror's exact-arithmetic meaning. -/
namespace Slu.ColBmod
open Slu Finset Slu.Kernels Slu.MyBlas2

variable {K : Type} [Field K] [Inhabited K]

/-- the three facts about its integers that `SegOK` asks of a segment (`hg1`, `hpos`, `hg2`), from the position of the
representative: in the panel (`h2`), at or after its first nonzero (`h3`), which lies in its supernode (`h4`) -/
theorem segGeom_arith (fpanelc : Nat) (xsup supno xlsub xlusup repfnz : Array Nat) (krep : Nat)
    (h1 : xsup[supno[krep]!]! ≤ krep) (h2 : fpanelc ≤ krep) (h3 : repfnz[krep]! ≤ krep)
    (h4 : xsup[supno[krep]!]! ≤ repfnz[krep]!)
    (h5 : krep - xsup[supno[krep]!]! + 1 ≤ xlsub[xsup[supno[krep]!]! + 1]! - xlsub[xsup[supno[krep]!]!]!) :
    (segGeom fpanelc xsup supno xlsub xlusup repfnz krep).noZeros + (segGeom fpanelc xsup supno xlsub xlusup repfnz krep).segsze =
      (segGeom fpanelc xsup supno xlsub xlusup repfnz krep).nsupc ∧
    1 ≤ (segGeom fpanelc xsup supno xlsub xlusup repfnz krep).segsze ∧
    (segGeom fpanelc xsup supno xlsub xlusup repfnz krep).cnt = (segGeom fpanelc xsup supno xlsub xlusup repfnz krep).nrow := by
  unfold segGeom
  dsimp only
  -- `fst_col ≤ kfnz ≤ krep`; with the two maxima as variables only the subtractions are left to `omega`.  `h1` follows from
  -- `h4`, `h3`; `h5` is not needed (`a - (b + c) = a - b - c` holds of truncated subtraction)
  clear h1 h5
  have hA : max xsup[supno[krep]!]! fpanelc ≤ max repfnz[krep]! fpanelc := max_le_max h4 (le_refl _)
  have hB : max repfnz[krep]! fpanelc ≤ krep := max_le h3 h2
  generalize max xsup[supno[krep]!]! fpanelc = fstCol at hA ⊢
  generalize max repfnz[krep]! fpanelc = kfnz at hA hB ⊢
  omega

/-- **C01 (one U-segment of `column_bmod`, all four size cases).**  `krep` is the representative of a
supernode other than `jcol`'s; `base` is the address of the diagonal cell (kfnz, kfnz) of the supernode's block,
`row t` the subscript of the `t`-th row from `kfnz` on.  After the iteration, with `u` the forward substitution of
the gathered `dense` through the UNIT lower diagonal block of the rows `kfnz..krep`, the segment rows of `dense` hold `u`
and each row below holds `dense[row] − Σ_r L(row, r)·u_r`; nothing else changes (`tempv` is used and cleared again). -/
theorem colBmod_segment_spec (cplx segOps : Bool) (jcol fpanelc : Nat) (xsup supno lsub xlsub repfnz : Array Nat)
    (krep : Nat) (st : SnodeSt K) (g : Seg) (hg : g = segGeom fpanelc xsup supno xlsub st.xlusup repfnz krep)
    (hne : supno[jcol]! ≠ supno[krep]!) (ok : SegOK lsub g st.dense)
    (htv : 4 ≤ g.segsze → g.segsze + g.nrow ≤ st.tempv.size)
    (htz : 4 ≤ g.segsze → ∀ i, i < g.segsze + g.nrow → st.tempv[i]! = 0) :
    let base := g.luptr + (g.nsupr * g.noZeros + g.noZeros)
    let row := fun t => lsub[g.lptr + g.noZeros + t]!
    let u := fwdSub (fun i r => st.lusup[base + (r * g.nsupr + i)]!) (fun _ => 1) (fun t => st.dense[row t]!) g.segsze
    let o := colSegment cplx segOps jcol fpanelc xsup supno lsub xlsub repfnz krep st
    o.dense.size = st.dense.size ∧
    (∀ s, s < g.segsze → o.dense[row s]! = u.getD s 0) ∧
    (∀ i, i < g.nrow → o.dense[row (g.segsze + i)]! =
      st.dense[row (g.segsze + i)]! - ∑ q ∈ range g.segsze, st.lusup[base + (q * g.nsupr + (g.segsze + i))]! * u.getD q 0) ∧
    (∀ p, (∀ t, t < g.segsze + g.nrow → row t ≠ p) → o.dense[p]! = st.dense[p]!) ∧
    o.tempv.size = st.tempv.size ∧ (∀ p : Nat, o.tempv[p]! = st.tempv[p]!) ∧
    o.lusup = st.lusup ∧ o.xlusup = st.xlusup := by
  subst hg
  have h := colSegment_step cplx segOps jcol fpanelc xsup supno lsub xlsub repfnz krep st
    (fun _ => ⟨ok, fun h4 => ⟨htv h4, htz h4⟩⟩)
  unfold SegStep at h
  rw [if_neg hne] at h
  exact h

/-- a listed representative of `jcol`'s OWN supernode is skipped (`jsupno == ksupno`) -/
theorem colBmod_segment_own (cplx segOps : Bool) (jcol fpanelc : Nat) (xsup supno lsub xlsub repfnz : Array Nat)
    (krep : Nat) (st : SnodeSt K) (he : supno[jcol]! = supno[krep]!) :
    colSegment cplx segOps jcol fpanelc xsup supno lsub xlsub repfnz krep st = st :=
  colSegment_own cplx segOps jcol fpanelc xsup supno lsub xlsub repfnz krep st he

/-- **C01 (`column_bmod` as a whole, EVERY `fpanelc`: the segment loop, then the column's own supernode).**
`S k` is the state after `k` iterations of the segment loop.  The hypotheses on the listed segments (`SegHyp`) are on
the INITIAL state, because no iteration changes `xlusup`, the size of `dense` or the zero prefix of `tempv`.  In the
column's own supernode `fstCol = max(fsupc, fpanelc)`, `d = fstCol − fsupc` (`d_fsupc`): the update uses the columns
`fstCol..jcol-1`, `luptr = xlusup[fstCol] + d` addresses the diagonal cell of column `fstCol`, and the first `d` rows
of column `jcol` are copied as the loop left them (they were updated by the segment loop / `panel_bmod`). -/
theorem colBmod_spec (cplx segOps : Bool) (jcol nseg fpanelc : Nat) (segrep repfnz xsup supno lsub xlsub : Array Nat)
    (st : SnodeSt K) (S : Nat → SnodeSt K)
    (hS : S = segsUpTo cplx segOps jcol nseg fpanelc segrep repfnz xsup supno lsub xlsub st)
    (H : ∀ k, k < nseg → SegHyp jcol fpanelc xsup supno lsub xlsub repfnz segrep[nseg - 1 - k]! st)
    (fsupc fstCol d istart nsupr ucol luptr nsupc : Nat)
    (e0 : fsupc = xsup[supno[jcol]!]!) (ef : fstCol = max fsupc fpanelc) (ed : d = fstCol - fsupc)
    (e1 : istart = xlsub[fsupc]!) (e2 : nsupr = xlsub[fsupc + 1]! - istart)
    (e3 : ucol = st.xlusup[jcol]!) (e4 : luptr = st.xlusup[fstCol]! + d) (e5 : nsupc = jcol - fstCol)
    (hle : fstCol ≤ jcol)
    (hinj : ∀ t u, t < nsupr → u < nsupr → lsub[istart + t]! = lsub[istart + u]! → t = u)
    (hrow : ∀ t, t < nsupr → lsub[istart + t]! < st.dense.size)
    (hcol : ucol + nsupr ≤ st.lusup.size) (hwid : d + nsupc ≤ nsupr)
    (hbefore : luptr + nsupc * nsupr ≤ ucol + d)
    (htv : nsupr - d - nsupc ≤ st.tempv.size) (htz : ∀ i, i < nsupr - d - nsupc → st.tempv[i]! = 0) :
    S 0 = st ∧
    (∀ k, k < nseg → SegStep jcol fpanelc xsup supno lsub xlsub repfnz segrep[nseg - 1 - k]! (S k) (S (k + 1))) ∧
    (S nseg).dense.size = st.dense.size ∧
    (let D := (S nseg).dense
     let u := fwdSub (fun i r => st.lusup[luptr + (r * nsupr + i)]!) (fun _ => 1) (fun t => D[lsub[istart + (d + t)]!]!) nsupc
     let o := colBmod cplx segOps jcol nseg fpanelc segrep repfnz xsup supno lsub xlsub st
     o.lusup.size = st.lusup.size ∧
     (∀ t, t < d → o.lusup[ucol + t]! = D[lsub[istart + t]!]!) ∧
     (∀ t, t < nsupc → o.lusup[ucol + (d + t)]! = u.getD t 0) ∧
     (∀ i, d + nsupc ≤ i → i < nsupr → o.lusup[ucol + i]! =
       D[lsub[istart + i]!]! - ∑ r ∈ range nsupc, st.lusup[luptr + (r * nsupr + (i - d))]! * u.getD r 0) ∧
     (∀ p, (p < ucol ∨ ucol + nsupr ≤ p) → o.lusup[p]! = st.lusup[p]!) ∧
     o.dense.size = st.dense.size ∧
     (∀ t, t < nsupr → o.dense[lsub[istart + t]!]! = 0) ∧
     (∀ r, (∀ t, t < nsupr → lsub[istart + t]! ≠ r) → o.dense[r]! = D[r]!) ∧
     o.tempv.size = st.tempv.size ∧ (∀ i : Nat, o.tempv[i]! = st.tempv[i]!) ∧
     o.xlusup = st.xlusup.setIfInBounds (jcol + 1) (ucol + nsupr)) := by
  subst hS
  rw [colBmod, colSegments_eq_segsUpTo]
  obtain ⟨⟨i1, i2, i3, i4, i5⟩, steps⟩ := colSegments_chain cplx segOps jcol nseg fpanelc segrep repfnz xsup supno lsub xlsub st H nseg (Nat.le_refl _)
  refine ⟨rfl, steps, i3, ?_⟩
  intro D u o
  obtain ⟨a1, a2, a3, a4, a5, a6, a7, a8, a9, a10, a11⟩ := colTail_spec' cplx jcol fpanelc xsup supno lsub xlsub
    (segsUpTo cplx segOps jcol nseg fpanelc segrep repfnz xsup supno lsub xlsub st nseg)
    fsupc fstCol d istart nsupr ucol luptr nsupc e0 ef ed e1 e2 (by rw [i2]; exact e3) (by rw [i2]; exact e4) e5 hle hinj
    (fun t ht => by rw [i3]; exact hrow t ht) (by rw [i1]; exact hcol) hwid hbefore (by rw [i4]; exact htv)
    (fun i hi => by rw [i5]; exact htz i hi) (fun t => u.getD t 0)
    (by rw [i1]; exact fwdSub_unit_rec _ (fun t => D[lsub[istart + (d + t)]!]!) nsupc)
  rw [i1] at a1 a4 a5
  rw [i2] at a11
  exact ⟨a1, a2, a3, a4, a5, a6.trans i3, a7, a8, a9.trans i4, fun i => (a10 i).trans (i5 i), a11⟩

/-- **C01 (`column_bmod` when the panel does not start inside `jcol`'s own supernode).**  `colBmod_spec`
for `fpanelc ≤ fsupc` (`d_fsupc = 0`): the tail of the routine is `snode_bmod`, and the final state is that
of `snodeBmod_spec` for the `dense` left by the segment loop. -/
theorem colBmod_spec_partial (cplx segOps : Bool) (jcol nseg fpanelc : Nat) (segrep repfnz xsup supno lsub xlsub : Array Nat)
    (st : SnodeSt K) (S : Nat → SnodeSt K)
    (hS : S = segsUpTo cplx segOps jcol nseg fpanelc segrep repfnz xsup supno lsub xlsub st)
    (H : ∀ k, k < nseg → SegHyp jcol fpanelc xsup supno lsub xlsub repfnz segrep[nseg - 1 - k]! st)
    (fsupc istart nsupr ufirst luptr nsupc : Nat) (e0 : fsupc = xsup[supno[jcol]!]!) (hp : fpanelc ≤ fsupc)
    (e1 : istart = xlsub[fsupc]!) (e2 : nsupr = xlsub[fsupc + 1]! - istart)
    (e3 : ufirst = st.xlusup[jcol]!) (e4 : luptr = st.xlusup[fsupc]!) (e5 : nsupc = jcol - fsupc)
    (hle : fsupc ≤ jcol)
    (hinj : ∀ t u, t < nsupr → u < nsupr → lsub[istart + t]! = lsub[istart + u]! → t = u)
    (hrow : ∀ t, t < nsupr → lsub[istart + t]! < st.dense.size)
    (hcol : ufirst + nsupr ≤ st.lusup.size) (hwid : nsupc ≤ nsupr)
    (hbefore : luptr + nsupc * nsupr ≤ ufirst)
    (htv : nsupr - nsupc ≤ st.tempv.size) (htz : ∀ i, i < nsupr - nsupc → st.tempv[i]! = 0) :
    S 0 = st ∧
    (∀ k, k < nseg → SegStep jcol fpanelc xsup supno lsub xlsub repfnz segrep[nseg - 1 - k]! (S k) (S (k + 1))) ∧
    (S nseg).dense.size = st.dense.size ∧
    (let D := (S nseg).dense
     let u := fwdSub (fun i r => st.lusup[luptr + (r * nsupr + i)]!) (fun _ => 1) (fun t => D[lsub[istart + t]!]!) nsupc
     let o := colBmod cplx segOps jcol nseg fpanelc segrep repfnz xsup supno lsub xlsub st
     o.lusup.size = st.lusup.size ∧
     (∀ t, t < nsupc → o.lusup[ufirst + t]! = u.getD t 0) ∧
     (∀ i, nsupc ≤ i → i < nsupr → o.lusup[ufirst + i]! =
       D[lsub[istart + i]!]! - ∑ r ∈ range nsupc, st.lusup[luptr + (r * nsupr + i)]! * u.getD r 0) ∧
     (∀ p, (p < ufirst ∨ ufirst + nsupr ≤ p) → o.lusup[p]! = st.lusup[p]!) ∧
     o.dense.size = st.dense.size ∧
     (∀ t, t < nsupr → o.dense[lsub[istart + t]!]! = 0) ∧
     (∀ r, (∀ t, t < nsupr → lsub[istart + t]! ≠ r) → o.dense[r]! = D[r]!) ∧
     o.tempv.size = st.tempv.size ∧ (∀ i : Nat, o.tempv[i]! = st.tempv[i]!) ∧
     o.xlusup = st.xlusup.setIfInBounds (jcol + 1) (ufirst + nsupr)) := by
  have h := colBmod_spec cplx segOps jcol nseg fpanelc segrep repfnz xsup supno lsub xlsub st S hS H
    fsupc fsupc 0 istart nsupr ufirst luptr nsupc e0 (Nat.max_eq_left hp).symm (Nat.sub_self _).symm e1 e2 e3 e4 e5 hle
    hinj hrow hcol (by omega) hbefore htv htz
  simp only [Nat.zero_add, Nat.sub_zero] at h
  obtain ⟨h1, h2, h3, a1, -, a3⟩ := h
  exact ⟨h1, h2, h3, a1, a3⟩

/-! Hypotheses are satisfiable: a finished supernode of 5 columns and 7 rows (columns 0..4), the
current supernode {5, 6} with 3 rows and `jcol = 6`; one listed segment `krep = 4`, `repfnz[4] = 0`
(segment size 5: the `lsolve` + `matvec` case), `fpanelc = 0`. -/
def cXsup : Array Nat := #[0, 5, 7]
def cSupno : Array Nat := #[0, 0, 0, 0, 0, 1, 1]
def cXlsub : Array Nat := #[0, 7, 7, 7, 7, 7, 10, 10]
def cLsub : Array Nat := #[3, 1, 4, 0, 6, 2, 5, 2, 5, 0]
def cXlusup : Array Nat := #[0, 7, 14, 21, 28, 35, 38, 0]
def cRepfnz : Array Nat := #[0, 0, 0, 0, 0, 0, 0]
def cSegrep : Array Nat := #[4]
def cLusup : Array Rat := (Array.range 41).map fun k => ((((k * 5 + 1) % 3 : Nat) : Int) - 1 : Int)
def cDense : Array Rat := (Array.range 7).map fun k => ((((k * 3 + 2) % 5 : Nat) : Int) - 2 : Int)
def cSt : SnodeSt Rat := { lusup := cLusup, xlusup := cXlusup, dense := cDense, tempv := Array.replicate 7 0 }
def cG : Seg := segGeom 0 cXsup cSupno cXlsub cSt.xlusup cRepfnz 4

theorem cG_eq : cG = ⟨0, 0, 7, 5, 2, 5, 0, 2⟩ := by decide +kernel
example : cG = { lptr := 0, luptr := 0, nsupr := 7, nsupc := 5, nrow := 2, segsze := 5, noZeros := 0, cnt := 2 } := cG_eq
example : (colBmod false true 6 1 0 cSegrep cRepfnz cXsup cSupno cLsub cXlsub cSt).lusup.extract 38 41 = #[11, -12, 5] := by
  rw [cSt, cLusup, cDense, map_range_eq_list, map_range_eq_list]; decide +kernel
example : (colBmod true true 6 1 0 cSegrep cRepfnz cXsup cSupno cLsub cXlsub cSt).lusup.extract 38 41 = #[11, -12, 5] := by
  rw [cSt, cLusup, cDense, map_range_eq_list, map_range_eq_list]; decide +kernel
example : (colSegments false true 6 1 0 cSegrep cRepfnz cXsup cSupno cLsub cXlsub cSt).dense = #[-6, -3, 11, -1, 3, -12, -6] := by
  rw [cSt, cLusup, cDense, map_range_eq_list, map_range_eq_list]; decide +kernel
theorem cG_distinct : ∀ t, t < cG.segsze + cG.nrow → ∀ u, u < cG.segsze + cG.nrow →
    cLsub[cG.lptr + cG.noZeros + t]! = cLsub[cG.lptr + cG.noZeros + u]! → t = u := by decide +kernel
theorem cG_ok : SegOK cLsub cG cSt.dense :=
  ⟨by decide +kernel, by decide +kernel, by decide +kernel, fun t u ht hu => cG_distinct t ht u hu, by decide +kernel⟩
example := colBmod_segment_spec false true 6 0 cXsup cSupno cLsub cXlsub cRepfnz 4 cSt cG rfl (by decide +kernel) cG_ok
  (fun _ => by decide +kernel) (fun _ => by decide +kernel)
theorem cTail_distinct : ∀ t, t < 3 → ∀ u, u < 3 → cLsub[7 + t]! = cLsub[7 + u]! → t = u := by decide +kernel
theorem cSeg_hyp : ∀ k, k < 1 → SegHyp 6 0 cXsup cSupno cLsub cXlsub cRepfnz cSegrep[1 - 1 - k]! cSt := fun k hk => by
  obtain rfl : k = 0 := by omega
  exact fun _ => ⟨cG_ok, fun _ => ⟨by decide +kernel, by decide +kernel⟩⟩
theorem cTail_ok : SnodeOK cLsub cXlsub cSt 6 5 7 3 38 35 1 :=
  ⟨by decide +kernel, by decide +kernel, by decide +kernel, by decide +kernel, by decide, by decide,
    fun t u ht hu => cTail_distinct t ht u hu, by decide +kernel, by decide +kernel, by decide, by decide,
    by decide +kernel, by decide +kernel⟩
example := colBmod_spec_partial false true 6 1 0 cSegrep cRepfnz cXsup cSupno cLsub cXlsub cSt _ rfl cSeg_hyp
  5 7 3 38 35 1 (by decide +kernel) (by decide) cTail_ok.e1 cTail_ok.e2 cTail_ok.e3 cTail_ok.e4 cTail_ok.e5 cTail_ok.hle
  cTail_ok.hinj cTail_ok.hrow cTail_ok.hcol cTail_ok.hwid cTail_ok.hbefore cTail_ok.htv cTail_ok.htz

/-- **C01/C02 (one U-segment of `column_bmod` instantiates the "dense solve + gemv" step of the
supernodal schedule theorem).**  `cols` are the columns `kfnz..krep` of the supernode as the
factorization model holds them (as in `snodeBmod_is_supernodal_step`), agreeing with the storage on the rows
`kfnz..` of the supernode (`R1`, `R2`).  Then what the iteration, in any of the four size cases, leaves in `dense` is
the abstract block update `Slu.LU.snodeBlock cols dense`: its U-segment at the pivot rows (where `column_bmod`
parks it until `copy_to_ucol`), its remaining vector at the rows below. -/
theorem colBmod_segment_is_supernodal_step (cplx segOps : Bool) (jcol fpanelc : Nat)
    (xsup supno lsub xlsub repfnz : Array Nat) (krep : Nat) (st : SnodeSt K) (g : Seg)
    (hg : g = segGeom fpanelc xsup supno xlsub st.xlusup repfnz krep)
    (hne : supno[jcol]! ≠ supno[krep]!) (ok : SegOK lsub g st.dense)
    (htv : 4 ≤ g.segsze → g.segsze + g.nrow ≤ st.tempv.size)
    (htz : 4 ≤ g.segsze → ∀ i, i < g.segsze + g.nrow → st.tempv[i]! = 0)
    (cols : List (Nat × LU.Vec K)) (hlen : cols.length = g.segsze)
    (R1 : ∀ t (ht : t < cols.length), (cols[t]).1 = lsub[g.lptr + g.noZeros + t]!)
    (R2 : ∀ t (ht : t < cols.length) i, i < g.segsze + g.nrow → (cols[t]).2.get (lsub[g.lptr + g.noZeros + i]!) =
        if i < t then 0 else if i = t then 1
        else st.lusup[g.luptr + (g.nsupr * g.noZeros + g.noZeros) + (t * g.nsupr + i)]!) :
    LU.snodeBlock cols st.dense = LU.elim cols st.dense ∧
    LU.elimBlocks [cols] st.dense = LU.elim cols st.dense ∧
    (∀ s, s < g.segsze →
      (colSegment cplx segOps jcol fpanelc xsup supno lsub xlsub repfnz krep st).dense[lsub[g.lptr + g.noZeros + s]!]! =
        (LU.snodeBlock cols st.dense).2.getD s 0) ∧
    (∀ i, i < g.nrow →
      (colSegment cplx segOps jcol fpanelc xsup supno lsub xlsub repfnz krep st).dense[lsub[g.lptr + g.noZeros + (g.segsze + i)]!]! =
        (LU.snodeBlock cols st.dense).1.get (lsub[g.lptr + g.noZeros + (g.segsze + i)]!)) := by
  obtain ⟨hb, he, hz, hgm⟩ := snodeBlock_storage cols st.dense (fun i => lsub[g.lptr + g.noZeros + i]!)
    (fun t i => st.lusup[g.luptr + (g.nsupr * g.noZeros + g.noZeros) + (t * g.nsupr + i)]!) (g.segsze + g.nrow)
    (by omega) ok.hrow R1 R2
  rw [hlen] at hz hgm
  obtain ⟨⟨_, c2, c3, _⟩, _⟩ := segUpdate_spec' cplx lsub g st.lusup st.dense st.tempv
    (fun t => (LU.snodeBlock cols st.dense).2.getD t 0) ok htv htz hz
  have hd : (colSegment cplx segOps jcol fpanelc xsup supno lsub xlsub repfnz krep st).dense =
      (segUpdate cplx lsub g st.lusup st.dense st.tempv).1 := by
    unfold colSegment; rw [if_pos hne, ← hg]
  rw [hd]
  exact ⟨hb, he, c2, fun i hi => (c3 i hi).trans (hgm (g.segsze + i) (by omega) (by omega)).symm⟩

/- Not proved (DESIGN.md calls it `colBmod_spec_goal`): that `dense` after the whole segment loop, read on the non-pivot
   rows, and the parked U-segments equal `LU.elimBlocks blocks st.dense` for `blocks` = the listed supernodes' columns in
   the listed order (given `DepRespecting`).  Per segment this is `colBmod_segment_is_supernodal_step` above; the fold is
   not done because `column_bmod` keeps `u_t` in `dense` at the pivot rows (until `copy_to_ucol`) whereas `snodeBlock`
   zeroes them, so the invariant would have to carry "later blocks are zero on earlier pivot rows". -/

theorem cHead_distinct : ∀ t, t < 7 → ∀ u, u < 7 → cLsub[0 + t]! = cLsub[0 + u]! → t = u := by decide +kernel
/-! the model's columns for the example segment (`cG`: columns 0..4 of the first supernode, 7 rows) -/
def cCols : List (Nat × LU.Vec Rat) := (List.range 5).map fun t =>
  (cLsub[t]!, (Array.range 7).map fun r =>
    match (List.range 7).find? (fun i => cLsub[i]! == r) with
    | some i => if i < t then 0 else if i = t then 1 else cLusup[t * 7 + i]!
    | none => 0)
theorem cCols_R1 : ∀ t (ht : t < cCols.length), (cCols[t]).1 = cLsub[cG.lptr + cG.noZeros + t]! := by decide +kernel
theorem cCols_R2 : ∀ t (ht : t < cCols.length) i, i < cG.segsze + cG.nrow → (cCols[t]).2.get (cLsub[cG.lptr + cG.noZeros + i]!) =
    if i < t then 0 else if i = t then 1
    else cSt.lusup[cG.luptr + (cG.nsupr * cG.noZeros + cG.noZeros) + (t * cG.nsupr + i)]! := by
  rw [cG_eq]
  intro t ht i hi
  have e : cCols[t] = _ := List.getElem_map ..
  rw [e, List.getElem_range]
  have h := storedCol_get 7 7 (fun u => cLsub[u]!) (fun u => if u < t then 0 else if u = t then 1 else cLusup[t * 7 + u]!)
    (fun t u ht hu h => cHead_distinct t ht u hu (by simpa using h)) (by decide +kernel) i hi
  simp only [Nat.zero_add, Nat.mul_zero, Nat.add_zero]
  exact h
example := colBmod_segment_is_supernodal_step false true 6 0 cXsup cSupno cLsub cXlsub cRepfnz 4 cSt cG rfl (by decide +kernel) cG_ok
  (fun _ => by decide +kernel) (fun _ => by decide +kernel) cCols (by decide +kernel) cCols_R1 cCols_R2

/-! `colBmod_spec` on the example above (`fstCol = 5`, `d = 0`, `ucol = 38`, `luptr = 35`, `nsupc = 1`) -/
example := colBmod_spec false true 6 1 0 cSegrep cRepfnz cXsup cSupno cLsub cXlsub cSt _ rfl cSeg_hyp
  5 5 0 7 3 38 35 1 (by decide +kernel) (by decide +kernel) (by decide) cTail_ok.e1 cTail_ok.e2 cTail_ok.e3 cTail_ok.e4
  cTail_ok.e5 cTail_ok.hle cTail_ok.hinj cTail_ok.hrow cTail_ok.hcol cTail_ok.hwid cTail_ok.hbefore cTail_ok.htv cTail_ok.htz

/-! and with the panel starting INSIDE the column's supernode: the first supernode (columns 0..4, 7
rows) taken as the current one, `jcol = 4`, `fpanelc = 2`: `fstCol = 2`, `d = 2`, `nsupc = 2`,
`ucol = 28`, `luptr = xlusup[2] + 2 = 16`, no listed segment -/
example : (colBmod false true 4 0 2 #[] cRepfnz cXsup cSupno cLsub cXlsub cSt).lusup.extract 28 35 = #[-1, -2, 2, -2, -4, 5, -2] := by
  rw [cSt, cLusup, cDense, map_range_eq_list, map_range_eq_list]; decide +kernel
example : (colBmod true true 4 0 2 #[] cRepfnz cXsup cSupno cLsub cXlsub cSt).lusup.extract 28 35 = #[-1, -2, 2, -2, -4, 5, -2] := by
  rw [cSt, cLusup, cDense, map_range_eq_list, map_range_eq_list]; decide +kernel
example := colBmod_spec false true 4 0 2 #[] cRepfnz cXsup cSupno cLsub cXlsub cSt _ rfl
  (fun k hk => absurd hk (by omega))
  0 2 2 0 7 28 16 2 (by decide +kernel) (by decide +kernel) (by decide) (by decide +kernel) (by decide +kernel)
  (by decide +kernel) (by decide +kernel) (by decide) (by decide) (fun t u ht hu => cHead_distinct t ht u hu)
  (by decide +kernel) (by decide +kernel) (by decide) (by decide) (by decide +kernel) (by decide +kernel)

end Slu.ColBmod
