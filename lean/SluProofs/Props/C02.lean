import SluProofs.Lemmas.LUInv
import SluProofs.Lemmas.CxRat
import SluProofs.Lemmas.LUSchedule
import SluProofs.Lemmas.DfsTopo
import SluProofs.Lemmas.Prune
import SluProofs.Lemmas.ColDfs
import SluProofs.Lemmas.PanelDfs
/-
C02 — Factors reproduce the permuted matrix; pivoting bounds hold.

About `Slu.LU.luFactor` (column LU with the pivot policy of `[sdcz]pivotL`), for every m, n, every matrix
(columns of `A*Pc` as length-m vectors), every threshold `0 < u ≤ 1`, candidate order, reuse state
(`usepr`, remembered pivots) and choice of diagonal rows, over any field `K` with a magnitude function
satisfying `MagLaws` (exact arithmetic; instances `Rat` with `|x|` and `Cx Rat` with `|re| + |im|`).

Reading the statements: `st.piv[k]` is the row of A chosen as k-th pivot (`perm_r[piv k] = k`);
`st.L[k]` is column k of L indexed by ORIGINAL row, so `(Pr A Pc)(perm_r i, j) = A(i, pc⁻¹ j) =
(P.col j).get i` and `L(perm_r i, k) = (st.L[k]).get i`; `st.U[j]` holds `U(0..j, j)`.

Elimination order.  `luFactor` eliminates column j by ALL previous columns in natural order; the library
visits only the columns reached by a depth-first search, supernode by supernode, in a topological order, on
adjacency lists cut by symmetric pruning.  Proved below: every `ValidSchedule` processed by dense block updates
gives the natural-order result; the reverse postorder of the search — per column, per supernode representative,
on lists cut at any pairs with the fill property — is a valid schedule whenever the full pattern contains the
numerically nonzero one; and the explicit-stack searches of `[sdcz]column_dfs.c` / `[sdcz]panel_dfs.c`, modelled
array by array in Slu/Model/ColDfs.lean and PanelDfs.lean, leave in `segrep` exactly the postorder of that search.
Tied by correspondence only: that the C routines agree with these array-level models (families `coldfs`,
`coldfsreal`, `paneldfs`); that the patterns they hold (`xlsub`/`lsub`, `xsup`/`supno`) contain the numeric one
and satisfy the supernode hypothesis; that [sdcz]pruneL.c computes cuts with `PruneOkAdj` and that `segrep`/`repfnz`
as consumed by [sdcz]panel_bmod / column_bmod are the lists `snodeSegs` models (family `symb`).  The pruning
theorems are at COLUMN level; their combination with supernode representatives is not proved.
-/
namespace Slu.LU
open Slu

variable {K : Type} [Field K] [Mag K Rat]

/-- **C02 (identity).** On success `(Pr A Pc)(i, j) = Σ_{k ≤ j} L(i,k) U(k,j)` for every row and
column — exactly, in exact arithmetic. -/
theorem luFactor_identity (laws : MagLaws K) (P : Params K Rat) (hP : Legal P) (b : Bool)
    (h : (luFactor P b).info = 0) (j : Nat) (hj : j < P.n) (i : Nat) (hi : i < P.m) :
    (P.col j).get i =
      ((List.range (j + 1)).map fun k =>
        ((luFactor P b).U.getD j #[]).getD k 0 * ((luFactor P b).L.getD k #[]).get i).sum :=
  (hP.inv laws b P.n h).identity j hj i hi

/-- **C02 (unit lower trapezoidal L).** `L(piv k, k) = 1` and `L(piv k', k) = 0` for `k' < k`:
in the permuted row order L has a unit diagonal and nothing above it. -/
theorem luFactor_unit_lower (laws : MagLaws K) (P : Params K Rat) (hP : Legal P) (b : Bool)
    (h : (luFactor P b).info = 0) (k : Nat) (hk : k < P.n) :
    ((luFactor P b).L.getD k #[]).get ((luFactor P b).piv.getD k 0) = 1 ∧
    ∀ k' < k, ((luFactor P b).L.getD k #[]).get ((luFactor P b).piv.getD k' 0) = 0 :=
  (hP.inv laws b P.n h).core.unit_get k hk

/-- **C02 (U has a nonzero diagonal).** Column `k` of U holds `k + 1` entries, the last one nonzero. -/
theorem luFactor_diag_nonzero (laws : MagLaws K) (P : Params K Rat) (hP : Legal P) (b : Bool)
    (h : (luFactor P b).info = 0) (k : Nat) (hk : k < P.n) :
    ((luFactor P b).U.getD k #[]).getD k 0 ≠ 0 ∧ ((luFactor P b).U.getD k #[]).size = k + 1 :=
  ⟨(hP.inv laws b P.n h).udiag k hk, (hP.inv laws b P.n h).usize k hk⟩

/-- **C02 (the row permutation is injective).** The pivot rows are `n` pairwise distinct rows of A, one
per column (for a square matrix they therefore cover every row: `Core.piv_perm`). -/
theorem luFactor_pivots_injective (laws : MagLaws K) (P : Params K Rat) (hP : Legal P) (b : Bool)
    (h : (luFactor P b).info = 0) :
    (luFactor P b).piv.size = P.n ∧ (luFactor P b).piv.toList.Nodup ∧
    ∀ k < P.n, (luFactor P b).piv.getD k 0 < P.m :=
  ⟨(hP.inv laws b P.n h).sizes.1, (hP.inv laws b P.n h).nodup, (hP.inv laws b P.n h).prange⟩

/-- **C02 (threshold pivoting, numerator form).** For every row `i` that was a pivot candidate of
column `k`: `u * |L(i,k) * U(k,k)| ≤ |U(k,k)|` — the quantity the code compares (`|re|+|im|` for
complex data). -/
theorem luFactor_multiplier_bound (laws : MagLaws K) (P : Params K Rat) (hP : Legal P) (b : Bool)
    (h : (luFactor P b).info = 0) (k : Nat) (hk : k < P.n) (i : Nat) (hi : i ∈ P.order k)
    (hnot : i ∉ (luFactor P b).piv.toList.take k) :
    P.u * (Mag.abs1 (((luFactor P b).L.getD k #[]).get i * ((luFactor P b).U.getD k #[]).getD k 0) : Rat) ≤
      (Mag.abs1 (((luFactor P b).U.getD k #[]).getD k 0) : Rat) :=
  (hP.inv laws b P.n h).mult k hk i hi hnot

/-- **C02 (multipliers bounded by 1/u, real data).** With a multiplicative magnitude (`|ab| = |a||b|`,
true for real scalars) every stored multiplier satisfies `|L(i,k)| ≤ 1/u`. -/
theorem luFactor_multiplier_le_inv_u (laws : MagLaws K) (hmul : ∀ a b : K, (Mag.abs1 (a * b) : Rat) = Mag.abs1 a * Mag.abs1 b)
    (P : Params K Rat) (hP : Legal P) (b : Bool)
    (h : (luFactor P b).info = 0) (k : Nat) (hk : k < P.n) (i : Nat) (hi : i ∈ P.order k)
    (hnot : i ∉ (luFactor P b).piv.toList.take k) :
    (Mag.abs1 (((luFactor P b).L.getD k #[]).get i) : Rat) ≤ 1 / P.u := by
  have hb := luFactor_multiplier_bound laws P hP b h k hk i hi hnot
  rw [hmul] at hb
  have hdpos : 0 < (Mag.abs1 (((luFactor P b).U.getD k #[]).getD k 0) : Rat) :=
    lt_of_le_of_ne (laws.nonneg _) fun e => (luFactor_diag_nonzero laws P hP b h k hk).1 (laws.definite _ e.symm)
  rw [le_div_iff₀ hP.u_pos]
  refine le_of_mul_le_mul_right ?_ hdpos
  calc _ = P.u * ((Mag.abs1 (((luFactor P b).L.getD k #[]).get i) : Rat) *
        (Mag.abs1 (((luFactor P b).U.getD k #[]).getD k 0) : Rat)) := by ring
    _ ≤ _ := hb
    _ = _ := (one_mul _).symm

end Slu.LU

namespace Slu.LU
open Slu
variable {K : Type} [Mag K Rat]

/-- **C02 (diagonal preference).** Without reuse, whenever the diagonal row is a candidate whose
magnitude is nonzero and at least `u * max`, the diagonal row is the pivot. -/
theorem pivot_diag_preference (j : Nat) (cands : List (Nat × K)) (u : Rat) (oldRow diagRow d : Nat)
    (hmax : (scanPiv (R := Rat) cands).1 ≠ 0)
    (hd : findRow cands diagRow = some d)
    (hp : passes cands (u * (scanPiv (R := Rat) cands).1) d = true) :
    (pivotChoice (R := Rat) j cands (fun p => u * p) false oldRow diagRow).info = 0 ∧
    (pivotChoice (R := Rat) j cands (fun p => u * p) false oldRow diagRow).row = diagRow ∧
    (pivotChoice (R := Rat) j cands (fun p => u * p) false oldRow diagRow).pos = d := by
  obtain ⟨c, hc, hrow⟩ := findRow_spec cands diagRow d hd
  rw [pivotChoice_pos hmax, if_neg Bool.false_ne_true, prefer_diag _ rfl hd hp]
  exact ⟨rfl, by simp [chosen, hc, hrow], rfl⟩

/-- **C02 (reuse kept).** With reuse on, the remembered row is kept exactly when it is a candidate
that passes the same test; the flag stays on. -/
theorem pivot_reuse_kept (j : Nat) (cands : List (Nat × K)) (u : Rat) (oldRow diagRow op : Nat)
    (hmax : (scanPiv (R := Rat) cands).1 ≠ 0)
    (ho : findRow cands oldRow = some op)
    (hp : passes cands (u * (scanPiv (R := Rat) cands).1) op = true) :
    (pivotChoice (R := Rat) j cands (fun p => u * p) true oldRow diagRow).row = oldRow ∧
    (pivotChoice (R := Rat) j cands (fun p => u * p) true oldRow diagRow).usepr = true ∧
    (pivotChoice (R := Rat) j cands (fun p => u * p) true oldRow diagRow).info = 0 := by
  rw [pivotChoice_pos hmax, if_pos rfl, prefer_kept _ ho hp]
  exact ⟨rfl, rfl, rfl⟩

/-- **C02 (reuse abandoned).** If the remembered row is absent or fails the test, the reuse flag is
cleared; and once cleared it stays cleared (the policy reverts for the rest of the factorization,
because `step` feeds the returned flag to the next column). -/
theorem pivot_reuse_abandoned (j : Nat) (cands : List (Nat × K)) (u : Rat) (usepr : Bool) (oldRow diagRow : Nat)
    (h : usepr = false ∨ findRow cands oldRow = none ∨
         ∃ op, findRow cands oldRow = some op ∧ passes cands (u * (scanPiv (R := Rat) cands).1) op = false) :
    (pivotChoice (R := Rat) j cands (fun p => u * p) usepr oldRow diagRow).usepr = false := by
  by_cases h0 : (scanPiv (R := Rat) cands).1 = 0
  · rw [pivotChoice_of_zero h0]
  · rw [pivotChoice_pos h0]
    -- in each of the three cases the remembered position does not survive the filter
    refine prefer_snd_false _ ?_
    rcases h with h | h | ⟨op, h1, h2⟩
    · simp [h]
    · simp [h]
    · cases usepr <;> simp [h1, h2, Option.filter]

end Slu.LU

/-! ### Schedule independence -/
namespace Slu.LU
open Slu

variable {K : Type} [Field K] [Mag K Rat]

/-- **C02 (elimination order).** In a state satisfying the invariant, eliminating column `j` by the
previous columns in ANY order `σ` that is a permutation of `prev st j` respecting the dependencies
(`DepRespecting`: whenever column `a` precedes column `b` in natural order and `L_a(piv b) ≠ 0`,
`a` precedes `b` in `σ`) gives
* the same eliminated column,
* the same multiplier for every previous column (`zip` pairs each column with its multiplier),
* the same pivot candidates, and
* the same new state (pivot decision, new L column, new U column — `stepSched` assembles the U
  column by pivot row) as `step`. -/
theorem luFactor_schedule_independent (P : Params K Rat) (st : St K) (j : Nat) (h : Inv P st j)
    (σ : List (Nat × Vec K)) (hp : σ.Perm (prev st j)) (hd : DepRespecting (prev st j) σ) :
    (elim σ (P.col j)).1 = stepW P st j ∧
    (σ.zip (elim σ (P.col j)).2).Perm ((prev st j).zip (stepUs P st j)) ∧
    (((P.order j).filter (fun r => !(st.piv.contains r))).map fun r => (r, (elim σ (P.col j)).1.get r))
      = stepCands P st j ∧
    stepSched P st j σ = step P st j := by
  obtain ⟨h1, h2⟩ := elim_depRespecting (prev st j) σ (P.col j) h.unit hp hd
  refine ⟨h1, h2, by rw [h1]; rfl, ?_⟩
  apply stepSchedOf_eq_step P st j σ _ h1
  intro k hk
  exact (multAt_depRespecting (prev st j) σ (P.col j) h.unit hp hd _).trans
    (multAt_elim (prev st j) (P.col j) h.unit.nodup_pivots k hk)

/-- **C02 (supernodal schedule).** The same for the real shape of the update: a sequence `bs` of
supernodes, each processed by a dense triangular solve and a matrix-vector product (`elimBlocks`),
visiting only a subset of the previous columns (`ValidSchedule`: each visited column once,
dependencies among the visited columns respected, every column left out has multiplier zero). -/
theorem luFactor_supernodal_schedule (P : Params K Rat) (hP : Legal P) (st : St K) (j : Nat) (h : Inv P st j)
    (bs : List (List (Nat × Vec K))) (hv : ValidSchedule (prev st j) (P.col j) bs) :
    (elimBlocks bs (P.col j)).1 = stepW P st j ∧ stepBlocks P st j bs = step P st j := by
  obtain ⟨keep, hp, hd, hz⟩ := hv
  obtain ⟨h1, h2⟩ := elimBlocks_schedule keep (prev st j) bs (P.col j) h.unit
    (fun x hx => hP.col_size j ▸ h.core.prev_lt x hx) hp hd hz
  exact ⟨h1, stepSchedOf_eq_step P st j _ _ h1 h2⟩

/-- **C02 (whole factorization).** A factorization that processes every column by a valid schedule
of supernodal block updates — the schedule may be chosen per column and may depend on the factors
computed so far — returns exactly `luFactor`: same pivots, same L, same U, same `info`. -/
theorem luFactorBlocks_eq_luFactor (laws : MagLaws K) (P : Params K Rat) (hP : Legal P) (b : Bool)
    (sched : St K → Nat → List (List (Nat × Vec K)))
    (hs : ∀ j < P.n, (run P b j).info = 0 →
      ValidSchedule (prev (run P b j) j) (P.col j) (sched (run P b j) j)) :
    luFactorBlocks P b sched = luFactor P b := by
  -- the fold of `luFactorBlocks` runs through the states of `run`
  refine foldl_range_inv (fun j st => st = run P b j) _ P.n _ (run_zero P b).symm fun st j hj e => ?_
  subst e
  rw [run_succ]
  by_cases h0 : (run P b j).info = 0
  · exact (luFactor_supernodal_schedule P hP _ j (hP.inv laws b j h0) _ (hs j hj h0)).2
  · rw [step_stuck P _ j h0, stepBlocks, stepSchedOf, if_pos h0]

end Slu.LU

/-! ### The schedule computed by the depth-first search -/
namespace Slu.LU
open Slu

variable {K : Type} [Field K] [Mag K Rat]

/-- **C02 (the DFS order is a valid schedule).** State `st` after `j` columns (`Inv`).  `adj` is any
successor pattern on the previous columns whose edges go forward (`k < r < j`) and which CONTAINS
the numerically nonzero one (`hpat`: `L_k(piv k') ≠ 0 → k' ∈ adj k`); `roots` are columns `< j`
containing every `k` with `A(piv k, j) ≠ 0` (`hroots`).  Then the reached columns in reverse
depth-first postorder (`dfsSchedule`), cut into consecutive blocks `bs` in any way, are a
`ValidSchedule` for column `j`: each once, dependencies respected, every column not reached has
multiplier zero in the natural-order elimination. -/
theorem luFactor_dfs_validSchedule (P : Params K Rat) (st : St K) (j : Nat) (h : Inv P st j)
    (adj : Nat → List Nat) (roots : List Nat)
    (hadj : ∀ k, ∀ r ∈ adj k, k < r ∧ r < j) (hrootlt : ∀ r ∈ roots, r < j)
    (hpat : ∀ k k', k < k' → k' < j → (st.L.getD k #[]).get (st.piv.getD k' 0) ≠ 0 → k' ∈ adj k)
    (hroots : ∀ k < j, (P.col j).get (st.piv.getD k 0) ≠ 0 → k ∈ roots)
    (bs : List (List (Nat × Vec K))) (hbs : bs.flatten = (dfsSchedule st j adj roots).flatten) :
    ValidSchedule (prev st j) (P.col j) bs :=
  validSchedule_dfs (fun k => (st.piv.getD k 0, st.L.getD k #[])) j (P.col j) h.unit adj roots hadj hrootlt hpat hroots
    bs (by rw [hbs, dfsSchedule, scheduleOf_flatten])

/-- **C02 (one column along the DFS order).** Eliminating column `j` by the reached columns only, in
reverse depth-first postorder, leaves the eliminated column of the model and produces the model's
next state (pivot decision, L column, U column). -/
theorem luFactor_dfs_schedule (P : Params K Rat) (hP : Legal P) (st : St K) (j : Nat) (h : Inv P st j)
    (adj : Nat → List Nat) (roots : List Nat)
    (hadj : ∀ k, ∀ r ∈ adj k, k < r ∧ r < j) (hrootlt : ∀ r ∈ roots, r < j)
    (hpat : ∀ k k', k < k' → k' < j → (st.L.getD k #[]).get (st.piv.getD k' 0) ≠ 0 → k' ∈ adj k)
    (hroots : ∀ k < j, (P.col j).get (st.piv.getD k 0) ≠ 0 → k ∈ roots) :
    (elimBlocks (dfsSchedule st j adj roots) (P.col j)).1 = stepW P st j ∧
    stepBlocks P st j (dfsSchedule st j adj roots) = step P st j :=
  luFactor_supernodal_schedule P hP st j h _
    (luFactor_dfs_validSchedule P st j h adj roots hadj hrootlt hpat hroots _ rfl)

/-- **C02 (whole factorization along the DFS order).** Patterns may be chosen per column and may
depend on the factors computed so far; as long as each contains the numerically nonzero pattern of
its column, the factorization that eliminates every column along the reverse depth-first postorder
of its reach returns exactly `luFactor`. -/
theorem luFactor_dfs (laws : MagLaws K) (P : Params K Rat) (hP : Legal P) (b : Bool)
    (adj : St K → Nat → Nat → List Nat) (roots : St K → Nat → List Nat)
    (hadj : ∀ j < P.n, ∀ k, ∀ r ∈ adj (run P b j) j k, k < r ∧ r < j)
    (hrootlt : ∀ j < P.n, ∀ r ∈ roots (run P b j) j, r < j)
    (hpat : ∀ j < P.n, (run P b j).info = 0 → ∀ k k', k < k' → k' < j →
      ((run P b j).L.getD k #[]).get ((run P b j).piv.getD k' 0) ≠ 0 → k' ∈ adj (run P b j) j k)
    (hroots : ∀ j < P.n, (run P b j).info = 0 → ∀ k < j,
      (P.col j).get ((run P b j).piv.getD k 0) ≠ 0 → k ∈ roots (run P b j) j) :
    luFactorBlocks P b (fun st j => dfsSchedule st j (adj st j) (roots st j)) = luFactor P b :=
  luFactorBlocks_eq_luFactor laws P hP b _ (fun j hj h0 =>
    luFactor_dfs_validSchedule P _ j (hP.inv laws b j h0)
      _ _ (hadj j hj) (hrootlt j hj) (hpat j hj h0) (hroots j hj h0) _ rfl)

/-- **C02 (the numeric pattern, no hypothesis left).** With the search run on the numerically nonzero
pattern itself (`numAdj`, `numRoots`) the DFS-ordered factorization equals `luFactor`. -/
theorem luFactor_dfs_numeric [DecidableEq K] (laws : MagLaws K) (P : Params K Rat) (hP : Legal P) (b : Bool) :
    luFactorBlocks P b (fun st j => dfsScheduleNum st j (P.col j)) = luFactor P b :=
  luFactor_dfs laws P hP b (fun st j => numAdj st j) (fun st j => numRoots st j (P.col j))
    (fun j _ => numAdj_lt _ j) (fun j _ => numRoots_lt _ j _) (fun j _ _ => numAdj_complete _ j)
    (fun j _ _ => numRoots_complete _ j _)

/-! #### symmetric pruning (Lemmas/Prune.lean) -/

/-- **C02 (pruning preserves the reach).** `struct k r`: row `r` (pivot numbering) is in struct(L_k);
`p k = some c`: the list of `k` has been cut at column `c`, where `(k, c)` is any pair with `k < c`,
`c ∈ struct k` and the fill property `r ∈ struct k, r > c ⟹ r ∈ struct c` (`PruneOk`; true for every
symmetric pair of the symbolic structure: `Symb.pruneOk_of_symPair`, `Symb.fillSym_colStruct`).  For every column `t`: the
pruned graph `G'_t` (`k → r` iff `k, r < t`, `r ∈ struct k`, and `r ≤ c` if `k` was cut at a `c < t`)
and the full graph `G_t` have the same reachability, from every set of roots. -/
theorem prune_preserves_reach (struct : Nat → Nat → Prop) (p : Nat → Option Nat) (hp : Symb.PruneOk struct p)
    (t : Nat) (roots : Nat → Prop) (x : Nat) :
    (∃ s, roots s ∧ Relation.ReflTransGen (Symb.PrunedEdge struct p t) s x) ↔
    (∃ s, roots s ∧ Relation.ReflTransGen (Symb.FullEdge struct t) s x) :=
  exists_congr fun s => and_congr_right fun _ => Symb.prune_reach hp t s x

/-- **C02 (pruning preserves the collected rows).** The NON-pivotal rows `r ≥ t` met by the search for
column `t` (rows `own` of the column itself, and rows in the scanned list of a reached column) — the
new rows of `L(:,t)` — are the same on the pruned lists as on the full lists. -/
theorem prune_preserves_newRows (struct : Nat → Nat → Prop) (p : Nat → Option Nat) (hp : Symb.PruneOk struct p)
    (t : Nat) (roots own : Nat → Prop) (r : Nat) :
    (t ≤ r ∧ Symb.HitsPruned struct p t roots own r) ↔ (t ≤ r ∧ Symb.HitsFull struct t roots own r) :=
  and_congr_right fun _ => Symb.prune_hits hp t roots own r

/-- **C02 (the pruned search visits the same columns).** `segrep` of the search on the cut lists is a
duplicate-free list with exactly the members of `segrep` of the search on the full lists. -/
theorem dfsPost_pruned_same_vertices (adj : Nat → List Nat) (j : Nat) (p : Nat → Option Nat) (roots : List Nat)
    (hadj : ∀ k, ∀ r ∈ adj k, k < r ∧ r < j) (hrootlt : ∀ r ∈ roots, r < j) (hprune : PruneOkAdj adj p) :
    (∀ x, x ∈ dfsPost j (pruneAdj p adj) roots ↔ x ∈ dfsPost j adj roots) ∧
    (dfsPost j (pruneAdj p adj) roots).Nodup ∧
    (dfsPost j (pruneAdj p adj) roots).Perm (dfsPost j adj roots) :=
  -- both lists hold what the roots reach along `adj`: the pruned search is a search of the full graph
  have hmem : ∀ x, x ∈ dfsPost j (pruneAdj p adj) roots ↔ x ∈ dfsPost j adj roots := fun x =>
    List.mem_reverse.trans (((dfsRevPost_pruneAdj_step hadj hprune roots hrootlt).mem_iff x).trans
      (mem_dfsPost_iff hadj roots hrootlt x).symm)
  have hnd := dfsPost_nodup (pruneAdj_bound hadj) roots hrootlt
  ⟨hmem, hnd, (List.perm_ext_iff_of_nodup hnd (dfsPost_nodup hadj roots hrootlt)).mpr hmem⟩

/-- **C02 (the pruned postorder is topological for the FULL lists).** Every successor `r` of a listed
column `k` in the FULL adjacency — cut or not — occurs before `k` in the postorder of the pruned
search. -/
theorem dfsPost_pruned_topo_full (adj : Nat → List Nat) (j : Nat) (p : Nat → Option Nat) (roots : List Nat)
    (hadj : ∀ k, ∀ r ∈ adj k, k < r ∧ r < j) (hrootlt : ∀ r ∈ roots, r < j) (hprune : PruneOkAdj adj p)
    (k : Nat) (hk : k ∈ dfsPost j (pruneAdj p adj) roots) (r : Nat) (hr : r ∈ adj k) :
    List.Sublist [r, k] (dfsPost j (pruneAdj p adj) roots) :=
  ((dfsRevPost_pruneAdj_step hadj hprune roots hrootlt).topo.sublist k (List.mem_reverse.mp hk) r hr).reverse

/-- **C02 (the order of the PRUNED search is a valid schedule).** As `luFactor_dfs_validSchedule`, but the
search runs on the lists `pruneAdj p adj` cut by any legal `p` (`PruneOkAdj`); the FULL pattern `adj`
contains the numerically nonzero one (`hpat`).  A numeric dependency `k → k'` whose edge was cut is
still respected: `k'` stays reachable from `k`, and a depth-first order respects reachability. -/
theorem luFactor_pruned_dfs_validSchedule (P : Params K Rat) (st : St K) (j : Nat) (h : Inv P st j)
    (adj : Nat → List Nat) (roots : List Nat) (p : Nat → Option Nat)
    (hadj : ∀ k, ∀ r ∈ adj k, k < r ∧ r < j) (hrootlt : ∀ r ∈ roots, r < j)
    (hprune : PruneOkAdj adj p)
    (hpat : ∀ k k', k < k' → k' < j → (st.L.getD k #[]).get (st.piv.getD k' 0) ≠ 0 → k' ∈ adj k)
    (hroots : ∀ k < j, (P.col j).get (st.piv.getD k 0) ≠ 0 → k ∈ roots)
    (bs : List (List (Nat × Vec K)))
    (hbs : bs.flatten = (dfsSchedule st j (pruneAdj p adj) roots).flatten) :
    ValidSchedule (prev st j) (P.col j) bs :=
  have hs := dfsRevPost_pruneAdj_step hadj hprune roots hrootlt
  validSchedule_of_closedTopo (fun k => (st.piv.getD k 0, st.L.getD k #[])) j (P.col j) h.unit _ hs.nodup
    (dfsRevPost_lt (pruneAdj_bound hadj) roots hrootlt) (fun k hk hw => hs.mem k (hroots k hk hw))
    (fun k k' hkk' hk' hk hne => hs.topo.sublist k hk k' (hpat k k' hkk' hk' hne))
    bs (by rw [hbs, dfsSchedule, scheduleOf_flatten])

/-- **C02 (one column along the order of the pruned search).** -/
theorem luFactor_pruned_dfs_schedule (P : Params K Rat) (hP : Legal P) (st : St K) (j : Nat) (h : Inv P st j)
    (adj : Nat → List Nat) (roots : List Nat) (p : Nat → Option Nat)
    (hadj : ∀ k, ∀ r ∈ adj k, k < r ∧ r < j) (hrootlt : ∀ r ∈ roots, r < j)
    (hprune : PruneOkAdj adj p)
    (hpat : ∀ k k', k < k' → k' < j → (st.L.getD k #[]).get (st.piv.getD k' 0) ≠ 0 → k' ∈ adj k)
    (hroots : ∀ k < j, (P.col j).get (st.piv.getD k 0) ≠ 0 → k ∈ roots) :
    (elimBlocks (dfsSchedule st j (pruneAdj p adj) roots) (P.col j)).1 = stepW P st j ∧
    stepBlocks P st j (dfsSchedule st j (pruneAdj p adj) roots) = step P st j :=
  luFactor_supernodal_schedule P hP st j h _
    (luFactor_pruned_dfs_validSchedule P st j h adj roots p hadj hrootlt hprune hpat hroots _ rfl)

/-- **C02 (whole factorization along the pruned searches).** Patterns, roots AND cuts may be chosen per
column and may depend on the factors computed so far.  As long as each full pattern contains the
numerically nonzero pattern of its column and the cuts in force are legal for it (`PruneOkAdj`: made
at pairs with the fill property, e.g. any symmetric pairs of the symbolic structure), the
factorization that eliminates every column along the reverse postorder of the PRUNED depth-first
search returns exactly `luFactor`. -/
theorem luFactor_pruned_dfs (laws : MagLaws K) (P : Params K Rat) (hP : Legal P) (b : Bool)
    (adj : St K → Nat → Nat → List Nat) (roots : St K → Nat → List Nat) (p : St K → Nat → Nat → Option Nat)
    (hadj : ∀ j < P.n, ∀ k, ∀ r ∈ adj (run P b j) j k, k < r ∧ r < j)
    (hrootlt : ∀ j < P.n, ∀ r ∈ roots (run P b j) j, r < j)
    (hprune : ∀ j < P.n, (run P b j).info = 0 → PruneOkAdj (adj (run P b j) j) (p (run P b j) j))
    (hpat : ∀ j < P.n, (run P b j).info = 0 → ∀ k k', k < k' → k' < j →
      ((run P b j).L.getD k #[]).get ((run P b j).piv.getD k' 0) ≠ 0 → k' ∈ adj (run P b j) j k)
    (hroots : ∀ j < P.n, (run P b j).info = 0 → ∀ k < j,
      (P.col j).get ((run P b j).piv.getD k 0) ≠ 0 → k ∈ roots (run P b j) j) :
    luFactorBlocks P b (fun st j => dfsSchedule st j (pruneAdj (p st j) (adj st j)) (roots st j)) = luFactor P b :=
  luFactorBlocks_eq_luFactor laws P hP b _ (fun j hj h0 =>
    luFactor_pruned_dfs_validSchedule P _ j (hP.inv laws b j h0)
      _ _ _ (hadj j hj) (hrootlt j hj) (hprune j hj h0) (hpat j hj h0) (hroots j hj h0) _ rfl)

/-- **C02 (search on supernode representatives).** `rep k` is the last column of the supernode that
holds column `k` (supernodes are runs of consecutive columns: `k ≤ rep k`, monotone, idempotent);
`adjS s` lists columns beyond `s` and CONTAINS, for every column `k` of supernode `s`, the columns
`k' > s` with `L_k(piv k') ≠ 0`; `roots` contains the columns hit by the nonzero rows of `A(:,j)`.
Then `snodeSchedule` — one block `repfnz[s]..s` per reached representative, in reverse postorder
of the search on representatives — is a valid schedule. -/
theorem luFactor_snode_dfs_validSchedule (P : Params K Rat) (st : St K) (j : Nat) (h : Inv P st j)
    (rep : Nat → Nat) (adjS : Nat → List Nat) (roots : List Nat)
    (hge : ∀ k, k ≤ rep k) (hrlt : ∀ k < j, rep k < j)
    (hmono : ∀ k k', k ≤ k' → rep k ≤ rep k') (hidem : ∀ k, rep (rep k) = rep k)
    (hadjS : ∀ s, ∀ r ∈ adjS s, s < r ∧ r < j) (hrootlt : ∀ r ∈ roots, r < j)
    (hpat : ∀ k k', k < k' → k' < j → rep k < k' →
      (st.L.getD k #[]).get (st.piv.getD k' 0) ≠ 0 → k' ∈ adjS (rep k))
    (hroots : ∀ k < j, (P.col j).get (st.piv.getD k 0) ≠ 0 → k ∈ roots) :
    ValidSchedule (prev st j) (P.col j) (snodeSchedule st j rep adjS roots) :=
  validSchedule_snodeDfs (fun k => (st.piv.getD k 0, st.L.getD k #[])) j (P.col j) h.unit rep adjS roots
    hge hrlt hmono hidem hadjS hrootlt hpat hroots

/-- **C02 (one column, supernodal search).** -/
theorem luFactor_snode_dfs_schedule (P : Params K Rat) (hP : Legal P) (st : St K) (j : Nat) (h : Inv P st j)
    (rep : Nat → Nat) (adjS : Nat → List Nat) (roots : List Nat)
    (hge : ∀ k, k ≤ rep k) (hrlt : ∀ k < j, rep k < j)
    (hmono : ∀ k k', k ≤ k' → rep k ≤ rep k') (hidem : ∀ k, rep (rep k) = rep k)
    (hadjS : ∀ s, ∀ r ∈ adjS s, s < r ∧ r < j) (hrootlt : ∀ r ∈ roots, r < j)
    (hpat : ∀ k k', k < k' → k' < j → rep k < k' →
      (st.L.getD k #[]).get (st.piv.getD k' 0) ≠ 0 → k' ∈ adjS (rep k))
    (hroots : ∀ k < j, (P.col j).get (st.piv.getD k 0) ≠ 0 → k ∈ roots) :
    (elimBlocks (snodeSchedule st j rep adjS roots) (P.col j)).1 = stepW P st j ∧
    stepBlocks P st j (snodeSchedule st j rep adjS roots) = step P st j :=
  luFactor_supernodal_schedule P hP st j h _
    (luFactor_snode_dfs_validSchedule P st j h rep adjS roots hge hrlt hmono hidem hadjS hrootlt hpat hroots)

/-- **C02 (whole factorization, supernodal search).** Supernode partition and patterns may change
from column to column and depend on the factors computed so far. -/
theorem luFactor_snode_dfs (laws : MagLaws K) (P : Params K Rat) (hP : Legal P) (b : Bool)
    (rep : St K → Nat → Nat → Nat) (adjS : St K → Nat → Nat → List Nat) (roots : St K → Nat → List Nat)
    (hge : ∀ j < P.n, ∀ k, k ≤ rep (run P b j) j k) (hrlt : ∀ j < P.n, ∀ k < j, rep (run P b j) j k < j)
    (hmono : ∀ j < P.n, ∀ k k', k ≤ k' → rep (run P b j) j k ≤ rep (run P b j) j k')
    (hidem : ∀ j < P.n, ∀ k, rep (run P b j) j (rep (run P b j) j k) = rep (run P b j) j k)
    (hadjS : ∀ j < P.n, ∀ s, ∀ r ∈ adjS (run P b j) j s, s < r ∧ r < j)
    (hrootlt : ∀ j < P.n, ∀ r ∈ roots (run P b j) j, r < j)
    (hpat : ∀ j < P.n, (run P b j).info = 0 → ∀ k k', k < k' → k' < j → rep (run P b j) j k < k' →
      ((run P b j).L.getD k #[]).get ((run P b j).piv.getD k' 0) ≠ 0 →
      k' ∈ adjS (run P b j) j (rep (run P b j) j k))
    (hroots : ∀ j < P.n, (run P b j).info = 0 → ∀ k < j,
      (P.col j).get ((run P b j).piv.getD k 0) ≠ 0 → k ∈ roots (run P b j) j) :
    luFactorBlocks P b (fun st j => snodeSchedule st j (rep st j) (adjS st j) (roots st j)) = luFactor P b :=
  luFactorBlocks_eq_luFactor laws P hP b _ (fun j hj h0 =>
    luFactor_snode_dfs_validSchedule P _ j (hP.inv laws b j h0)
      _ _ _ (hge j hj) (hrlt j hj) (hmono j hj) (hidem j hj) (hadjS j hj) (hrootlt j hj) (hpat j hj h0)
      (hroots j hj h0))

end Slu.LU

/-! ### Non-vacuity: the hypotheses are satisfiable and the clauses are exercised -/
namespace Slu.LU
open Slu

/-- a 3x3 matrix whose first column forces a genuine row interchange (|4| > |2|) -/
def exCols : Nat → Vec Rat
  | 0 => #[2, 4, 1]
  | 1 => #[1, 3, 1]
  | _ => #[0, 1, 5]

def exP : Params Rat Rat :=
  { m := 3, n := 3, col := exCols, u := 1, order := fun _ => [0, 1, 2], oldPiv := fun _ => 0, diagRow := fun j => j }

theorem exP_legal : Legal exP :=
  ⟨by decide, by decide, by intro j; match j with | 0 => rfl | 1 => rfl | (_ + 2) => rfl⟩

-- one conjunction, so that `luFactor exP false` is evaluated by the kernel once; the examples below are its parts
-- (likewise `exD_eval`, `exE_eval`, `exR_eval`, `exIn_run`, `exP_run`, `exP_spec`)
theorem exP_lu : (luFactor exP false).info = 0 ∧ (luFactor exP false).piv = #[1, 0, 2] ∧
    (luFactor exP false).U.getD 0 #[] = #[4] ∧ (luFactor exP false).L.getD 0 #[] = #[1/2, 1, 1/4] := by decide +kernel
example : (luFactor exP false).info = 0 := exP_lu.1
example : (luFactor exP false).piv = #[1, 0, 2] := exP_lu.2.1           -- row 1 first: interchange
example : (luFactor exP false).U.getD 0 #[] = #[4] := exP_lu.2.2.1
example : (luFactor exP false).L.getD 0 #[] = #[1/2, 1, 1/4] := exP_lu.2.2.2
/-- a singular matrix (two equal columns) is reported at its second column -/
example : (luFactor { exP with col := fun j => if j = 1 then exCols 0 else exCols j } false).info = 2 := by decide +kernel

/-! non-vacuity of the schedule theorems: columns 0 and 1 of this matrix are independent
(`L_0(piv 1) = 0 = L_1(piv 0)`), so column 2 may be eliminated by column 1 first -/
def exQCols : Nat → Vec Rat
  | 0 => #[2, 0, 1]
  | 1 => #[0, 3, 1]
  | _ => #[1, 2, 5]

def exQ : Params Rat Rat :=
  { m := 3, n := 3, col := exQCols, u := 1, order := fun _ => [0, 1, 2], oldPiv := fun _ => 0, diagRow := fun j => j }

theorem exQ_legal : Legal exQ :=
  ⟨by decide, by decide, by intro j; match j with | 0 => rfl | 1 => rfl | (_ + 2) => rfl⟩

theorem exQ_prev : prev (run exQ false 2) 2 = [(0, #[1, 0, 1/2]), (1, #[0, 1, 1/3])] := by decide +kernel

/-- the two previous columns in swapped order -/
def exQσ : List (Nat × Vec Rat) := [(1, #[0, 1, 1/3]), (0, #[1, 0, 1/2])]

theorem exQ_inv : Inv exQ (run exQ false 2) 2 :=
  run_inv magLaws_rat exQ (by decide) (by decide) exQ_legal.col_size false 2 (by decide +kernel)

theorem exQ_dep : DepRespecting (prev (run exQ false 2) 2) exQσ := by
  apply depRespecting_of_unitLower _ _ exQ_inv.unit
  · simp [exQσ, UnitLower, Vec.get]
  · rw [exQ_prev]; exact List.Perm.swap _ _ _

/-- the multipliers really come out in a different order -/
example : (elim exQσ (exQ.col 2)).2 = [2, 1] ∧ stepUs exQ (run exQ false 2) 2 = [1, 2] := by decide +kernel
example := luFactor_schedule_independent exQ _ 2 exQ_inv exQσ (by rw [exQ_prev]; exact List.Perm.swap _ _ _) exQ_dep
example : (stepSched exQ (run exQ false 2) 2 exQσ).U = (luFactor exQ false).U := by decide +kernel

/-- column 1 does not reach column 0 (`A(0,1) = 0`, multiplier 0): the empty schedule is valid -/
example : ValidSchedule (prev (run exQ false 1) 1) (exQ.col 1) [] :=
  ⟨fun _ => false, by simp, by intro a b hab; simp at hab, by decide +kernel⟩

/-- every column by ONE supernode holding the previous columns in REVERSE order is a valid schedule
for this matrix, so `luFactorBlocks_eq_luFactor` applies to a schedule that is not the natural one -/
theorem exQ_sched_valid (j : Nat) (hj : j < 3) :
    ValidSchedule (prev (run exQ false j) j) (exQ.col j) [(prev (run exQ false j) j).reverse] := by
  apply validSchedule_of_perm
  · simp
  · match j, hj with
    | 0, _ => intro a b hab; simp [prev] at hab
    | 1, _ =>
      rw [show prev (run exQ false 1) 1 = [(0, #[1, 0, 1/2])] by decide +kernel]
      intro a b hab; simp at hab
    | 2, _ =>
      rw [show [(prev (run exQ false 2) 2).reverse].flatten = exQσ by rw [exQ_prev]; rfl]
      exact exQ_dep

example : luFactorBlocks exQ false (fun st j => [(prev st j).reverse]) = luFactor exQ false :=
  luFactorBlocks_eq_luFactor magLaws_rat exQ exQ_legal false _ (fun j hj _ => exQ_sched_valid j hj)

/-! non-vacuity of the DFS theorems: for column 3 of this 4x4 matrix the search starts at columns 0
and 1 (`A(0,3), A(1,3) ≠ 0`), reaches column 2 through the edge 0 → 2 (`L_0(piv 2) = 1/2`), and
lists the columns as 1, 0, 2 — not the natural order; column 2 itself reaches nothing -/
def exDCols : Nat → Vec Rat
  | 0 => #[2, 0, 1, 1]
  | 1 => #[0, 3, 0, 1]
  | 2 => #[0, 0, 4, 1]
  | _ => #[1, 2, 0, 5]

def exD : Params Rat Rat :=
  { m := 4, n := 4, col := exDCols, u := 1, order := fun _ => [0, 1, 2, 3], oldPiv := fun _ => 0, diagRow := fun j => j }

theorem exD_legal : Legal exD :=
  ⟨by decide, by decide, by intro j; match j with | 0 => rfl | 1 => rfl | 2 => rfl | (_ + 3) => rfl⟩

theorem exD_eval :
    ((luFactor exD false).info = 0 ∧ (luFactor exD false).piv = #[0, 1, 2, 3]) ∧
    (numRoots (run exD false 3) 3 (exD.col 3) = [0, 1] ∧
      numAdj (run exD false 3) 3 0 = [2] ∧ numAdj (run exD false 3) 3 1 = []) ∧
    (dfsPost 3 (numAdj (run exD false 3) 3) (numRoots (run exD false 3) 3 (exD.col 3)) = [2, 0, 1] ∧
      dfsRevPost 3 (numAdj (run exD false 3) 3) (numRoots (run exD false 3) 3 (exD.col 3)) = [1, 0, 2]) ∧
    ((elimBlocks (dfsScheduleNum (run exD false 3) 3 (exD.col 3)) (exD.col 3)).2 = [2, 1, -1/2] ∧
      stepUs exD (run exD false 3) 3 = [1, 2, -1/2]) ∧
    (luFactorBlocks exD false (fun st j => dfsScheduleNum st j (exD.col j))).U = (luFactor exD false).U := by
  decide +kernel
example : (luFactor exD false).info = 0 ∧ (luFactor exD false).piv = #[0, 1, 2, 3] := exD_eval.1
example : numRoots (run exD false 3) 3 (exD.col 3) = [0, 1] ∧
    numAdj (run exD false 3) 3 0 = [2] ∧ numAdj (run exD false 3) 3 1 = [] := exD_eval.2.1
/-- postorder (`segrep`) and the order of the updates (its reverse) -/
example : dfsPost 3 (numAdj (run exD false 3) 3) (numRoots (run exD false 3) 3 (exD.col 3)) = [2, 0, 1] ∧
    dfsRevPost 3 (numAdj (run exD false 3) 3) (numRoots (run exD false 3) 3 (exD.col 3)) = [1, 0, 2] :=
  exD_eval.2.2.1
/-- column 2 reaches no previous column: empty schedule -/
example : dfsScheduleNum (run exD false 2) 2 (exD.col 2) = [] := by decide +kernel
/-- the multipliers come out in DFS order -/
example : (elimBlocks (dfsScheduleNum (run exD false 3) 3 (exD.col 3)) (exD.col 3)).2 = [2, 1, -1/2] ∧
    stepUs exD (run exD false 3) 3 = [1, 2, -1/2] := exD_eval.2.2.2.1
example : luFactorBlocks exD false (fun st j => dfsScheduleNum st j (exD.col j)) = luFactor exD false :=
  luFactor_dfs_numeric magLaws_rat exD exD_legal false
example : (luFactorBlocks exD false (fun st j => dfsScheduleNum st j (exD.col j))).U = (luFactor exD false).U :=
  exD_eval.2.2.2.2

/-! non-vacuity of the supernodal form: columns 0 and 1 form one supernode (representative 1); for
column 3 the search starts at column 0 (→ representative 1, `repfnz = 0`) and column 2 and applies
the blocks [2], [0, 1] in that order -/
def exECols : Nat → Vec Rat
  | 0 => #[2, 1, 0, 1]
  | 1 => #[0, 3, 0, 1]
  | 2 => #[0, 0, 4, 1]
  | _ => #[1, 0, 2, 5]

def exE : Params Rat Rat :=
  { m := 4, n := 4, col := exECols, u := 1, order := fun _ => [0, 1, 2, 3], oldPiv := fun _ => 0, diagRow := fun j => j }

theorem exE_legal : Legal exE :=
  ⟨by decide, by decide, by intro j; match j with | 0 => rfl | 1 => rfl | 2 => rfl | (_ + 3) => rfl⟩

def exERep (k : Nat) : Nat := if k ≤ 1 then 1 else k

theorem exE_eval :
    ((luFactor exE false).info = 0 ∧ (luFactor exE false).piv = #[0, 1, 2, 3]) ∧
    (numRoots (run exE false 3) 3 (exE.col 3) = [0, 2]) ∧
    ((elimBlocks (snodeSchedule (run exE false 3) 3 exERep (fun _ => []) [0, 2]) (exE.col 3)).2 = [2, 1, -1/2] ∧
      stepUs exE (run exE false 3) 3 = [1, -1/2, 2] ∧
      (stepBlocks exE (run exE false 3) 3 (snodeSchedule (run exE false 3) 3 exERep (fun _ => []) [0, 2])).U
        = (luFactor exE false).U) := by decide +kernel
example : (luFactor exE false).info = 0 ∧ (luFactor exE false).piv = #[0, 1, 2, 3] := exE_eval.1
example : numRoots (run exE false 3) 3 (exE.col 3) = [0, 2] := exE_eval.2.1
example : snodeSegs 3 exERep (fun _ => []) [0, 2] = [[2], [0, 1]] := by decide +kernel

theorem exE_inv : Inv exE (run exE false 3) 3 :=
  run_inv magLaws_rat exE (by decide) (by decide) exE_legal.col_size false 3 (by decide +kernel)

theorem exE_hyps :
    (∀ k k' : Fin 3, k.1 < k'.1 → exERep k.1 < k'.1 →
      ((run exE false 3).L.getD k.1 #[]).get ((run exE false 3).piv.getD k'.1 0) ≠ 0 → k'.1 ∈ (fun _ : Nat => ([] : List Nat)) (exERep k.1)) ∧
    (∀ k : Fin 3, (exE.col 3).get ((run exE false 3).piv.getD k.1 0) ≠ 0 → k.1 ∈ [0, 2]) := by decide +kernel

/-- the hypotheses of `luFactor_snode_dfs_schedule` hold (no column of the supernode {0,1} has a
nonzero at the pivot row of column 2, so its structure beyond the block is empty) -/
example := luFactor_snode_dfs_schedule exE exE_legal (run exE false 3) 3 exE_inv exERep (fun _ => []) [0, 2]
  (by intro k; unfold exERep; split <;> omega)
  (by intro k hk; unfold exERep; split <;> omega)
  (by intro k k' h; simp only [exERep]; split_ifs <;> omega)
  (by intro k; simp only [exERep]; split_ifs <;> omega)
  (by intro s r hr; simp at hr)
  (by intro r hr; simp at hr; omega)
  (fun k k' h1 h2 h3 => exE_hyps.1 ⟨k, Nat.lt_trans h1 h2⟩ ⟨k', h2⟩ h1 h3)
  (fun k hk => exE_hyps.2 ⟨k, hk⟩)
/-- multipliers in block order 2, 0, 1 versus natural order -/
example : (elimBlocks (snodeSchedule (run exE false 3) 3 exERep (fun _ => []) [0, 2]) (exE.col 3)).2 = [2, 1, -1/2] ∧
    stepUs exE (run exE false 3) 3 = [1, -1/2, 2] ∧
    (stepBlocks exE (run exE false 3) 3 (snodeSchedule (run exE false 3) 3 exERep (fun _ => []) [0, 2])).U
      = (luFactor exE false).U := exE_eval.2.2

/-! non-vacuity of the pruning theorems, graph level: column 0 has successors 2, 1, 3 and is cut at
column 1 (`3, 2 ∈ adj 1`: the fill property of the pair (0, 1) holds) -/
def exPrAdj : Nat → List Nat
  | 0 => [2, 1, 3]
  | 1 => [3, 2]
  | _ => []
def exPrCut : Nat → Option Nat
  | 0 => some 1
  | _ => none

theorem exPr_adj : ∀ k, ∀ r ∈ exPrAdj k, k < r ∧ r < 4 := by
  intro k r hr
  match k with
  | 0 => revert r; decide
  | 1 => revert r; decide
  | (_ + 2) => simp [exPrAdj] at hr

theorem exPr_ok : PruneOkAdj exPrAdj exPrCut := by
  intro k c h
  match k with
  | 0 => cases h; decide
  | (_ + 1) => simp [exPrCut] at h

/-- the cut really removes the edges `0 → 2` and `0 → 3` -/
example : (List.range 4).map (pruneAdj exPrCut exPrAdj) = [[1], [3, 2], [], []] := by decide
/-- the two searches list the same columns in DIFFERENT orders -/
example : dfsPost 4 exPrAdj [0] = [2, 3, 1, 0] ∧ dfsPost 4 (pruneAdj exPrCut exPrAdj) [0] = [3, 2, 1, 0] := by decide
example := dfsPost_pruned_same_vertices exPrAdj 4 exPrCut [0] exPr_adj (by decide) exPr_ok
example : List.Sublist [2, 0] (dfsPost 4 (pruneAdj exPrCut exPrAdj) [0]) :=
  dfsPost_pruned_topo_full exPrAdj 4 exPrCut [0] exPr_adj (by decide) exPr_ok 0 (by decide) 2 (by decide)

/-! non-vacuity of the pruning theorems on a factorization: `L_0` has nonzeros in rows 1 and 2,
`U(0,1) ≠ 0`, so (0, 1) is a symmetric pair and the fill `L_1(2) ≠ 0` exists; for column 3 the search
from column 0 on the cut list no longer sees the NUMERIC dependency `0 → 2`, and still orders
0 before 2 -/
def exRCols : Nat → Vec Rat
  | 0 => #[2, 1, 1, 0]
  | 1 => #[1, 3, 0, 0]
  | 2 => #[0, 0, 4, 1]
  | _ => #[1, 0, 0, 5]

def exR : Params Rat Rat :=
  { m := 4, n := 4, col := exRCols, u := 1, order := fun _ => [0, 1, 2, 3], oldPiv := fun _ => 0, diagRow := fun j => j }

theorem exR_legal : Legal exR :=
  ⟨by decide, by decide, by intro j; match j with | 0 => rfl | 1 => rfl | 2 => rfl | (_ + 3) => rfl⟩

/-- column 0 is cut at column 1 from the moment column 1 is factored -/
def exRCut (j k : Nat) : Option Nat := if k = 0 ∧ 2 ≤ j then some 1 else none

theorem exR_eval :
    ((luFactor exR false).info = 0 ∧ (luFactor exR false).piv = #[0, 1, 2, 3]) ∧
    (numAdj (run exR false 3) 3 0 = [1, 2] ∧ pruneAdj (exRCut 3) (numAdj (run exR false 3) 3) 0 = [1] ∧
      ((run exR false 3).L.getD 0 #[]).get ((run exR false 3).piv.getD 2 0) ≠ 0) ∧
    (dfsRevPost 3 (pruneAdj (exRCut 3) (numAdj (run exR false 3) 3)) (numRoots (run exR false 3) 3 (exR.col 3)) = [0, 1, 2]) ∧
    ((luFactorBlocks exR false (fun st j => dfsSchedule st j (pruneAdj (exRCut j) (numAdj st j)) (numRoots st j (exR.col j)))).U
      = (luFactor exR false).U) := by decide +kernel
example : (luFactor exR false).info = 0 ∧ (luFactor exR false).piv = #[0, 1, 2, 3] := exR_eval.1
example : numAdj (run exR false 3) 3 0 = [1, 2] ∧ pruneAdj (exRCut 3) (numAdj (run exR false 3) 3) 0 = [1] ∧
    ((run exR false 3).L.getD 0 #[]).get ((run exR false 3).piv.getD 2 0) ≠ 0 := exR_eval.2.1
example : dfsRevPost 3 (pruneAdj (exRCut 3) (numAdj (run exR false 3) 3)) (numRoots (run exR false 3) 3 (exR.col 3)) = [0, 1, 2] := exR_eval.2.2.1

theorem exR_ok : ∀ j < 4, PruneOkAdj (numAdj (run exR false j) j) (exRCut j) := by
  intro j hj k c h
  unfold exRCut at h
  split at h
  · rename_i hk
    obtain ⟨rfl, h2⟩ := hk
    cases h
    have : j = 2 ∨ j = 3 := by omega
    rcases this with rfl | rfl <;> decide +kernel
  · cases h

example : luFactorBlocks exR false (fun st j => dfsSchedule st j (pruneAdj (exRCut j) (numAdj st j)) (numRoots st j (exR.col j)))
    = luFactor exR false :=
  luFactor_pruned_dfs magLaws_rat exR exR_legal false (fun st j => numAdj st j) (fun st j => numRoots st j (exR.col j))
    (fun _ j => exRCut j) (fun j _ => numAdj_lt _ j) (fun j _ => numRoots_lt _ j _) (fun j hj _ => exR_ok j hj)
    (fun j _ _ => numAdj_complete _ j) (fun j _ _ => numRoots_complete _ j _)
example : (luFactorBlocks exR false (fun st j => dfsSchedule st j (pruneAdj (exRCut j) (numAdj st j)) (numRoots st j (exR.col j)))).U
    = (luFactor exR false).U := exR_eval.2.2.2

example (P : Params (Cx Rat) Rat) (hP : Legal P) (h : (luFactor P false).info = 0) (j : Nat) (hj : j < P.n) (i : Nat) (hi : i < P.m) :=
  luFactor_identity magLaws_cx P hP false h j hj i hi

end Slu.LU

/-! ## The iterative search of `[sdcz]column_dfs.c` IS the recursive search (array level)

`Slu.ColDfs.columnDfs` (Slu/Model/ColDfs.lean) mirrors `[sdcz]column_dfs.c` statement by statement on
the arrays `perm_r, lsub_col, segrep, repfnz, xprune, marker, parent, xplore, xsup, supno, lsub, xlsub`
and is compared with the C routine entry by entry (family `coldfs`).  `wfIn` is the decidable
well-formedness of the state the routine is handed (evaluated on every generated state by the driver).
The graph read off the arrays: nodes = supernode representatives `< jcol`; `adjR s` = the
representatives of the pivot columns `> s` of the rows of the pruned list `lsub[xlsub[s] .. xprune[s])`,
in storage order; roots = representatives of the pivot columns of the pivoted rows of the column. -/
namespace Slu.ColDfs
open Slu Slu.LU List

/-- **C02 (iterative = recursive search).** On every well-formed state, with the fuel `fuelBound`
computed from the arrays (`(jcol+1) * (|lsub|+2)` transitions), the explicit-stack loop terminates and
appends to `segrep` exactly the representatives, in exactly the order, that the recursive
`dfsVisit`/`dfsList` of Slu/Model/Dfs.lean finishes — started from the accumulator that holds the
representatives already visited on entry (`repfnz[s] != EMPTY`, e.g. by the panel search).  `nw` is the
list of newly finished representatives, last finished first; `segrep[nseg_in .. nseg_out)` is its reverse;
`segrep[0 .. nseg_in)` is untouched. -/
theorem colDfs_eq_recursive (i : Input) (h : wfIn i = true) :
    ∃ o nw, columnDfs i (fuelBound i) = some o ∧
      nw ++ visited0 i.jcol i.repfnz =
        dfsList (adjR i.env i.lsub) i.jcol.toNat ((rootCols i.env (colRows i.lsubCol)).map (repN i.env))
          (visited0 i.jcol i.repfnz) ∧
      o.nseg = i.nseg + nw.length ∧
      slice o.segrep i.nseg o.nseg = nw.reverse.map Int.ofNat ∧
      (∀ x, x < i.nseg → rd o.segrep x = rd i.segrep x) :=
  columnDfs_eq_dfsList h

/-- **C02 (no representative visited on entry).** `segrep[nseg_in .. nseg_out)` is the postorder
`dfsPost` of the recursive search, i.e. its reverse is `snodeReps` — the list `luFactor_snode_dfs`
builds its schedule from. -/
theorem colDfs_eq_dfsPost (i : Input) (h : wfIn i = true) (hclean : visited0 i.jcol i.repfnz = []) :
    ∃ o, columnDfs i (fuelBound i) = some o ∧
      slice o.segrep i.nseg o.nseg =
        (dfsPost i.jcol.toNat (adjR i.env i.lsub) ((rootCols i.env (colRows i.lsubCol)).map (repN i.env))).map Int.ofNat ∧
      (slice o.segrep i.nseg o.nseg).reverse =
        (snodeReps i.jcol.toNat (repN i.env) (adjSR i.env i.lsub) (rootCols i.env (colRows i.lsubCol))).map Int.ofNat := by
  obtain ⟨o, nw, h1, h2, h3, h4, _⟩ := colDfs_eq_recursive i h
  rw [hclean, append_nil] at h2
  refine ⟨o, h1, ?_, ?_⟩
  · rw [h4, h2]; rfl
  · rw [h4, h2, ← map_reverse, reverse_reverse, snodeReps, ← adjR_eq_map]; rfl

/-- **C02 (`segrep` after `[sdcz]column_dfs`: no duplicates, the reach of the column, topological).** The graph read off a
well-formed state satisfies the hypotheses of `dfsPost_nodup`, `mem_dfsPost_iff`, `dfsPost_topo`
(successors are larger and below `jcol`; roots below `jcol`); hence what the C loop appends to `segrep`
has no duplicates, lists exactly the representatives reachable from the column, and places every
successor before its node (reverse = topological order). -/
theorem colDfs_segrep_topo (i : Input) (h : wfIn i = true) (hclean : visited0 i.jcol i.repfnz = []) :
    ∃ o P, columnDfs i (fuelBound i) = some o ∧ slice o.segrep i.nseg o.nseg = P.map Int.ofNat ∧
      P.Nodup ∧
      (∀ x, x ∈ P ↔ ∃ s ∈ (rootCols i.env (colRows i.lsubCol)).map (repN i.env), Reach (adjR i.env i.lsub) s x) ∧
      (∀ k ∈ P, ∀ r ∈ adjR i.env i.lsub k, [r, k] <+ P) ∧
      (∀ k, ∀ r ∈ adjR i.env i.lsub k, k < r ∧ r < i.jcol.toNat) := by
  obtain ⟨o, h1, h2, _⟩ := colDfs_eq_dfsPost i h hclean
  have hE := wfIn_env h
  have hadj := adjR_lt hE
  have hroots := rootCols_lt hE (wfIn_rows h)
  exact ⟨o, _, h1, h2, dfsPost_nodup hadj _ hroots, mem_dfsPost_iff hadj _ hroots, dfsPost_topo hadj _ hroots, hadj⟩

/-! ### example: 8 rows, columns 0..5 factored (diagonal pivots), supernodes {0} {1,2} {3} {4} {5}, jcol = 6

pruned lists: rep 0: rows 0 2 4 | 6 (row 6 cut off by `xprune[0] = 3`), rep 2: 2 5 7, rep 3: 3 7,
rep 4: 4 5 6, rep 5: 5 6 7.  Column 6 has rows 0 and 7.  The search goes 0 → 2 → 5 (appends rows 6, 7),
back in 2 finds row 7 already marked, back in 0 goes to 4 (finds 5 already visited, row 6 already marked);
the second nonzero (row 7) is already marked.  `segrep` receives 5 2 4 0. -/
def exIn : Input :=
  { m := 8, jcol := 6, maxsuper := 4,
    perm_r := #[0, 1, 2, 3, 4, 5, -1, -1], nseg := 0,
    lsubCol := #[0, 7, -1, 3, 3, 3, 3, 3],
    segrep := #[-7, -7, -7, -7, -7, -7, -7, -7],
    repfnz := #[-1, -1, -1, -1, -1, -1, -1, -1],
    xprune := #[3, 99999, 11, 13, 16, 19, 0],
    marker := #[0, 0, 0, 0, 0, 0, 0, 0, 1, 1, 1, 1, 1, 1, 1, 1, -1, -1, -1, -1, -1, 5, 5, 5],
    parent := #[4, 4, 4, 4, 4, 4, 4, 4], xplore := #[9, 9, 9, 9, 9, 9, 9, 9],
    xsup := #[0, 1, 3, 4, 5, 6, -7, -7], supno := #[0, 1, 1, 2, 3, 4, 4, -7],
    lsub := #[0, 2, 4, 6,  1, 2, 5, 7,  2, 5, 7,  3, 7,  4, 5, 6,  5, 6, 7,  -5, -5, -5],
    xlsub := #[0, 4, 8, 11, 13, 16, 19, -7] }

theorem exIn_wf : wfIn exIn = true := by decide +kernel
theorem exIn_vis0 : visited0 exIn.jcol exIn.repfnz = [] := by decide +kernel
example : wfIn exIn = true := exIn_wf
example : visited0 exIn.jcol exIn.repfnz = [] := exIn_vis0
example : (List.range 6).map (adjR exIn.env exIn.lsub) = [[2, 4], [], [5], [], [5], []] := by decide +kernel
example : (rootCols exIn.env (colRows exIn.lsubCol)).map (repN exIn.env) = [0] := by decide +kernel
example : dfsPost 6 (adjR exIn.env exIn.lsub) [0] = [5, 2, 4, 0] := by decide +kernel
theorem exIn_run :
    (columnDfs exIn (fuelBound exIn)).map (fun o => (o.nseg, slice o.segrep 0 o.nseg, slice o.repfnz 0 6)) =
      some (4, [5, 2, 4, 0], [0, -1, 2, -1, 4, 5]) ∧
    (columnDfs exIn (fuelBound exIn)).map (fun o => (slice o.lsub 19 22, slice o.supno 5 7, slice o.xlsub 6 8)) =
      some ([6, 7, -5], [4, 4], [19, 21]) := by decide +kernel
example : (columnDfs exIn (fuelBound exIn)).map (fun o => (o.nseg, slice o.segrep 0 o.nseg, slice o.repfnz 0 6)) =
    some (4, [5, 2, 4, 0], [0, -1, 2, -1, 4, 5]) := exIn_run.1
-- rows 6, 7 appended once each; same row set as column 5 minus its pivot: jcol joins the supernode of column 5
example : (columnDfs exIn (fuelBound exIn)).map (fun o => (slice o.lsub 19 22, slice o.supno 5 7, slice o.xlsub 6 8)) =
    some ([6, 7, -5], [4, 4], [19, 21]) := exIn_run.2
example := colDfs_segrep_topo exIn exIn_wf exIn_vis0

/-- **C02 (rows appended to `lsub` = the marked unpivoted rows, array level).** On every well-formed state the search part of
`[sdcz]column_dfs` (model `search`, before the supernode-boundary part may move the list) leaves
`lsub[0 .. xlsub[jcol])` untouched and appends `lsub[xlsub[jcol] .. nextl)`: pairwise distinct rows, and a
row is in that list IF AND ONLY IF it is in range, unpivoted (`perm_r[r] = EMPTY`) and carries this column's
mark on exit (`marker2[r] = jcol`); the list fits in the capacity `wfIn` asks for (one slot per unpivoted
row).  This is the array-level refinement of C03's `markerFilter_nodup`.

The characterisation of the marked rows as the REACHABLE ones is `colDfs_lsub_nodup` below. -/
theorem colDfs_lsub_marked (i : Input) (h : wfIn i = true) :
    ∃ st', search i.env (fuelBound i) (colRows i.lsubCol) i.st0 = some st' ∧
      (slice st'.lsub (rd i.xlsub i.jcol) st'.nextl).Nodup ∧
      (∀ r, r ∈ slice st'.lsub (rd i.xlsub i.jcol) st'.nextl ↔
        (0 ≤ r ∧ r < i.m ∧ rd i.perm_r r = EMPTY ∧ mk2 i.env st' r = i.jcol)) ∧
      (∀ x, 0 ≤ x → x < rd i.xlsub i.jcol → rd st'.lsub x = rd i.lsub x) ∧
      rd i.xlsub i.jcol ≤ st'.nextl ∧ st'.nextl ≤ st'.lsub.size :=
  search_lsub h

example : (search exIn.env (fuelBound exIn) (colRows exIn.lsubCol) exIn.st0).map
    (fun st => (slice st.lsub 19 st.nextl, slice st.marker 16 24)) = some ([6, 7], [6, -1, 6, -1, 6, 6, 6, 6]) := by
  decide +kernel
example := colDfs_lsub_marked exIn exIn_wf

/-- **C02 (rows appended to `lsub` = the unpivoted reachable rows, array level).** On every well-formed
state (any set of representatives visited on entry) the search part of `[sdcz]column_dfs` appends to `lsub`,
each ONCE, exactly the unpivoted rows that occur among the column's own rows or in the pruned list
`lsub[xlsub[t] .. xprune[t])` of a representative `t` the search finished — `nw`, the same list whose reverse
is appended to `segrep` (`colDfs_eq_recursive`): with no representative visited on entry these are the
representatives reachable from the column (`colDfs_segrep_topo`), so the list is the set of unpivoted rows
reachable from the column, without duplicates. -/
theorem colDfs_lsub_nodup (i : Input) (h : wfIn i = true) :
    ∃ st' nw, search i.env (fuelBound i) (colRows i.lsubCol) i.st0 = some st' ∧
      nw ++ visited0 i.jcol i.repfnz =
        dfsList (adjR i.env i.lsub) i.jcol.toNat ((rootCols i.env (colRows i.lsubCol)).map (repN i.env)) (visited0 i.jcol i.repfnz) ∧
      (slice st'.lsub (rd i.xlsub i.jcol) st'.nextl).Nodup ∧
      ∀ r, r ∈ slice st'.lsub (rd i.xlsub i.jcol) st'.nextl ↔
        (0 ≤ r ∧ r < i.m ∧ rd i.perm_r r = EMPTY ∧
          (r ∈ colRows i.lsubCol ∨ ∃ t ∈ nw, r ∈ adjRows i.env i.lsub ((t : Nat) : Int))) :=
  search_lsub_reach h

example := colDfs_lsub_nodup exIn exIn_wf

end Slu.ColDfs

/-! ## `[sdcz]panel_dfs` (Slu/Model/PanelDfs.lean; lockstep with the column_dfs machine: Lemmas/PanelDfs.lean) -/
namespace Slu.PanelDfs
open Slu Slu.LU List
open Slu.ColDfs (EMPTY rd slice)

/-- **C02 (one panel column of `[sdcz]panel_dfs`, given the shared-marker state).**  `_partial`: one column `jj` of the
panel, from any state `ps` accepted by `ColOK`; the whole routine is `panelDfs_eq_recursive`.  The set
`{s : repfnz_col[s] != EMPTY}` is the list `post` of the RECURSIVE search with nothing visited;
`segrep[nseg_in .. nseg_out)` is the postorder `post.reverse` FILTERED by `marker1[t] < jcol` on entry (the
representatives no earlier column of the panel has recorded), `marker1` becomes `jj` exactly on those, and the part of
`ColOK` about `segrep`/`marker1` holds again on exit. -/
theorem panelDfs_column_eq_recursive_partial {e : Env} {ps : St} (hC : ColOK e ps) {fuel : Nat}
    (hfuel : (e.jcol.toNat + 1) * (e.lsub.size + 2) ≤ fuel) {rows : List Int} (hrows : ∀ r ∈ rows, 0 ≤ r ∧ r < e.m) :
    ∃ ps' post, search e fuel rows ps = some ps' ∧
      post = dfsList (ColDfs.adjR e.cenv e.lsub) e.jcol.toNat ((ColDfs.rootCols e.cenv rows).map (ColDfs.repN e.cenv)) [] ∧
      (∀ s : Nat, (s : Int) < e.jcol → (fnz e ps' s ≠ EMPTY ↔ s ∈ post)) ∧
      ps.nseg ≤ ps'.nseg ∧
      slice ps'.segrep ps.nseg ps'.nseg = (post.reverse.map Int.ofNat).filter (fun t => decide (m1 e ps t < e.jcol)) ∧
      slice ps'.segrep 0 ps.nseg = slice ps.segrep 0 ps.nseg ∧
      (∀ t, 0 ≤ t → t < e.jcol → m1 e ps' t =
        if t ∈ (post.reverse.map Int.ofNat).filter (fun t => decide (m1 e ps t < e.jcol)) then e.jj else m1 e ps t) ∧
      (slice ps'.segrep 0 ps'.nseg).Nodup ∧
      (∀ t ∈ slice ps'.segrep 0 ps'.nseg, 0 ≤ t ∧ t < e.jcol ∧ e.jcol ≤ m1 e ps' t) := by
  obtain ⟨ps', post, h1, h2, h3, h4, h5, h6, h7, h8, h9, _⟩ := panelCol_eq_dfsList hC hfuel hrows
  exact ⟨ps', post, h1, h2, h3, h4, h5, h6, h7, h8, h9⟩

/-- **C02 (`[sdcz]panel_dfs`, the whole routine = the recursive search, column by column).**  For every state
accepted by the decidable predicate `wfPanelIn` (sizes; pivot columns `< jcol`; representatives and pruned lists
well formed = acyclic; `marker[0..m)` and `marker1` hold values `< jcol`; the panel's `repfnz` is clean; the
panel columns of A lie inside `asub`/`nzval` with rows in range) the model of the routine terminates within
`fuelBound` and
* for EVERY panel column `jcol + k` the set `{s : repfnz_col[s] != EMPTY}` left in the column's slice of `repfnz`
  is `colPost i k`, the list of the RECURSIVE search from the pivot columns of the rows of `A(:, jcol+k)`;
* `segrep[0..nseg)` is `segSpec i w`: over the panel columns in order, each column's postorder restricted to the
  representatives that no earlier column has put there (the effect of the shared `marker1`);
* equivalently (`dfsList_visited`, `segSpec_eq_visAcc`: the set found by the earlier columns is closed under
  successors, so restricting the postorder of a fresh search to the new representatives = searching with the
  earlier ones already visited): `segrep[0..nseg)` REVERSED is `visAcc i w`, the accumulator of ONE recursive
  search `dfsList` run over the panel columns in order, each column started with everything the earlier columns
  found counted as visited — the "visited on entry" generality of `colDfs_eq_recursive`. -/
theorem panelDfs_eq_recursive {V : Type} (i : Input V) (h : wfPanelIn i = true) :
    ∃ o, panelDfs i (fuelBound i) = some o ∧
      (∀ k : Nat, (k : Int) < i.w → ∀ s : Nat, (s : Int) < i.jcol → (rd o.repfnz (k * i.m + s) ≠ EMPTY ↔ s ∈ colPost i k)) ∧
      0 ≤ o.nseg ∧ slice o.segrep 0 o.nseg = segSpec i i.w.toNat ∧ (segSpec i i.w.toNat).Nodup ∧
      (∀ t ∈ segSpec i i.w.toNat, 0 ≤ t ∧ t < i.jcol) ∧
      (slice o.segrep 0 o.nseg).reverse = (visAcc i i.w.toNat).map Int.ofNat := by
  obtain ⟨o, h1, h2, h3, h4, h5, h6⟩ := panelDfs_spec h
  have hw : 1 ≤ i.w := wfPanelIn_w_pos h
  refine ⟨o, h1, h2, h3, h4, h5, h6, ?_⟩
  rw [h4, (segSpec_eq_visAcc h i.w.toNat (by omega)).1, ← map_reverse, reverse_reverse]

/-- **C02 (`segrep` after `[sdcz]panel_dfs`: no duplicates, the union of the reaches, topological).**  On every
state accepted by `wfPanelIn`: `segrep[0..nseg)` = `P` (as integers) where `P` has no duplicates, lists exactly
the representatives reachable from SOME panel column (from the pivot columns of its rows, through the pruned
lists), and places every successor `r` of a listed representative `k` BEFORE `k` (so the reverse order, the one
`[sdcz]panel_bmod` walks, is a topological order of the union); the graph is acyclic and stays below `jcol`. -/
theorem panelDfs_segrep_topo {V : Type} (i : Input V) (h : wfPanelIn i = true) :
    ∃ o P, panelDfs i (fuelBound i) = some o ∧ 0 ≤ o.nseg ∧ slice o.segrep 0 o.nseg = P ∧ P.Nodup ∧
      (∀ x : Nat, (x : Int) ∈ P ↔ ∃ k : Nat, (k : Int) < i.w ∧
        ∃ s ∈ (ColDfs.rootCols i.cenv (colRows i (i.jcol + k))).map (ColDfs.repN i.cenv), Reach (ColDfs.adjR i.cenv i.lsub) s x) ∧
      (∀ a r : Nat, (a : Int) ∈ P → r ∈ ColDfs.adjR i.cenv i.lsub a → [(r : Int), (a : Int)] <+ P) ∧
      (∀ t ∈ P, 0 ≤ t ∧ t < i.jcol) ∧
      (∀ k, ∀ r ∈ ColDfs.adjR i.cenv i.lsub k, k < r ∧ r < i.jcol.toNat) := by
  obtain ⟨o, h1, _, h3, h4, h5, h6, _⟩ := panelDfs_eq_recursive i h
  have hadj : ∀ k, ∀ r ∈ ColDfs.adjR i.cenv i.lsub k, k < r ∧ r < i.jcol.toNat := ColDfs.adjR_lt (wfPanelIn_env h)
  have hw : ((i.w.toNat : Nat) : Int) ≤ i.w := by have := wfPanelIn_w_pos h; omega
  refine ⟨o, _, h1, h3, h4, h5, fun x => ?_, segSpec_topo i h i.w.toNat hw, h6, hadj⟩
  -- `segrep` is the postorder of ONE search from the roots of all panel columns
  rw [segSpec_eq_dfsPost h hw, mem_map_cast, mem_dfsPost_iff hadj _ (panelRoots_lt h hw)]
  simp only [mem_flatMap, mem_range, Int.lt_toNat]
  exact ⟨fun ⟨s, ⟨k, hk, hs⟩, hx⟩ => ⟨k, hk, s, hs, hx⟩, fun ⟨k, hk, s, hs, hx⟩ => ⟨s, ⟨k, hk, hs⟩, hx⟩⟩

/-! example: the factored state of `Slu.ColDfs.exIn` (8 rows, columns 0..5 factored), panel of the columns 6, 7:
A(:,6) has rows 0, 7 and A(:,7) has rows 3, 1, 6.  Column 6 reaches 0 → 2 → 5, 4 (`segrep` 5 2 4 0); column 7
reaches 3 (new) and, through row 1 (column 1, representative 2), 2 → 5 again: not recorded a second time. -/
def exP : Input Int :=
  { m := 8, w := 2, jcol := 6,
    asub := #[0, 7, 3, 1, 6], nzval := #[10, 11, 12, 13, 14],
    colbeg := #[0, 0, 0, 0, 0, 0, 0, 2], colend := #[0, 0, 0, 0, 0, 0, 2, 5],
    perm_r := #[0, 1, 2, 3, 4, 5, -1, -1],
    dense := #[0, 0, 0, 0, 0, 0, 0, 0, 0, 0, 0, 0, 0, 0, 0, 0],
    panelLsub := #[-1, -1, -1, -1, -1, -1, -1, -1, -1, -1, -1, -1, -1, -1, -1, -1],
    segrep := #[-7, -7, -7, -7, -7, -7, -7, -7],
    repfnz := #[-1, -1, -1, -1, -1, -1, -1, -1, -1, -1, -1, -1, -1, -1, -1, -1],
    xprune := #[3, 99999, 11, 13, 16, 19, 0],
    marker := #[0, 0, 0, 0, 5, 5, 5, 5, -1, -1, 3, 3, 5, 5, 1, 1, 6, 6, 6, 6, 7, 7, 7, 7],
    parent := #[4, 4, 4, 4, 4, 4, 4, 4], xplore := #[9, 9, 9, 9, 9, 9, 9, 9],
    xsup := #[0, 1, 3, 4, 5, 6, -7, -7], supno := #[0, 1, 1, 2, 3, 4, 4, -7],
    lsub := #[0, 2, 4, 6,  1, 2, 5, 7,  2, 5, 7,  3, 7,  4, 5, 6,  5, 6, 7,  -5, -5, -5],
    xlsub := #[0, 4, 8, 11, 13, 16, 19, -7] }

theorem exP_wf : wfPanelIn exP = true := by decide +kernel
example : wfPanelIn exP = true := exP_wf
theorem exP_run :
    (panelDfs exP (fuelBound exP)).map (fun o => (o.nseg, slice o.segrep 0 o.nseg, slice o.repfnz 0 6, slice o.repfnz 8 14)) =
      some (5, [5, 2, 4, 0, 3], [0, -1, 2, -1, 4, 5], [-1, -1, 1, 3, -1, 5]) ∧
    (panelDfs exP (fuelBound exP)).map (fun o => (slice o.panelLsub 0 3, slice o.panelLsub 8 11, o.dense.toList)) =
      some ([6, 7, -1], [7, 6, -1], [10, 0, 0, 0, 0, 0, 0, 11, 0, 13, 0, 12, 0, 0, 14, 0]) := by decide +kernel
example : (panelDfs exP (fuelBound exP)).map (fun o => (o.nseg, slice o.segrep 0 o.nseg, slice o.repfnz 0 6, slice o.repfnz 8 14)) =
    some (5, [5, 2, 4, 0, 3], [0, -1, 2, -1, 4, 5], [-1, -1, 1, 3, -1, 5]) := exP_run.1
example : (panelDfs exP (fuelBound exP)).map (fun o => (slice o.panelLsub 0 3, slice o.panelLsub 8 11, o.dense.toList)) =
    some ([6, 7, -1], [7, 6, -1], [10, 0, 0, 0, 0, 0, 0, 11, 0, 13, 0, 12, 0, 0, 14, 0]) := exP_run.2
example := panelDfs_column_eq_recursive_partial (wfPanelIn_colOK0 (i := exP) exP_wf) (fuel := fuelBound exP) (le_refl _)
  (wfPanelIn_rows (i := exP) exP_wf (k := 0) (by decide +kernel))

example := panelDfs_eq_recursive exP exP_wf
example := panelDfs_segrep_topo exP exP_wf
theorem exP_spec : segSpec exP 2 = [5, 2, 4, 0, 3] ∧ visAcc exP 2 = [3, 0, 4, 2, 5] ∧
    (colPost exP 0, colPost exP 1) = ([0, 4, 2, 5], [2, 5, 3]) := by decide +kernel
example : segSpec exP 2 = [5, 2, 4, 0, 3] := exP_spec.1
example : visAcc exP 2 = [3, 0, 4, 2, 5] := exP_spec.2.1
example : (colPost exP 0, colPost exP 1) = ([0, 4, 2, 5], [2, 5, 3]) := exP_spec.2.2

end Slu.PanelDfs

/-! ### `wfIn` on the states `[sdcz]gstrf` really hands to `column_dfs` (family `coldfsreal`, hook H3)

The theorems `colDfs_eq_recursive`, `colDfs_eq_dfsPost`, `colDfs_segrep_topo`, `colDfs_lsub_marked`,
`colDfs_lsub_nodup` above quantify over `wfIn`; the two captured states below satisfy it.

* `exReal`: the list of the LAST column `s` of a relaxed supernode (the duplicate copy `[sdcz]snode_dfs` writes)
  holds all the supernode's rows, also those pivoted at its EARLIER columns.  `wfIn` accepts a pivoted row of the
  list of `s` that is pivoted at `s` or beyond, or at a column whose representative is `s` itself (no edge of the
  graph; the machine only runs `if (myfnz > chperm) repfnz[chrep] = chperm` because `repfnz[s]` is set while `s` is
  scanned).  The clause `perm_r row = EMPTY ∨ s ≤ perm_r row` alone rejects this state (second example).
* `exPanel`: on entry `segrep[0..nseg)` holds the segments of the whole PANEL, also those of other panel columns that
  this column has not reached (`repfnz = EMPTY` here).  `wfIn` asks: `jcol <= |segrep|`, the entries are distinct
  columns below jcol, and an unreached one lies below the representative of every pivoted nonzero of the column (it
  is below the panel's first column, the nonzero was pivoted inside the panel); the search then never appends an
  entry a second time, so at most `jcol` entries are ever written. -/
namespace Slu.ColDfs

/-- the state captured in a real `dgstrf` run (shrunk): columns 0, 1 form a relaxed supernode (`xsup = [0, 2, …]`,
`supno = [0, 0, …]`); the list of its last column 1, `lsub[4..8) = 0 2 4 1`, holds row 0, which was pivoted at column 0
of the same supernode (`perm_r[0] = 0 < 1`).  Column 2 has the nonzeros 0 and 3. -/
def exReal : Input :=
  { m := 5, jcol := 2, maxsuper := 4,
    perm_r := #[0, 1, -1, -1, -1], nseg := 0,
    lsubCol := #[0, 3, -1, 7, 7],
    segrep := #[-7, -7, -7, -7, -7],
    repfnz := #[-1, -1, -1, -1, -1],
    xprune := #[99999, 8, -7, -7, -7],
    marker := #[1, 1, 1, -1, 1, -1, -1, -1, -1, -1, -1, -1, -1, -1, -1],
    parent := #[4, 4, 4, 4, 4], xplore := #[9, 9, 9, 9, 9],
    xsup := #[0, 2, -7, -7, -7], supno := #[0, 0, 0, -7, -7],
    lsub := #[0, 2, 4, 1,  0, 2, 4, 1,  -5, -5, -5, -5],
    xlsub := #[0, 4, 8, -7, -7, -7] }

theorem exReal_wf : wfIn exReal = true := by decide +kernel
theorem exReal_vis0 : visited0 exReal.jcol exReal.repfnz = [] := by decide +kernel
example : wfIn exReal = true := exReal_wf
/-- the stronger clause "pivoted rows of the list of `s` pivot at `s` or beyond" fails on it -/
example : (adjRows exReal.env exReal.lsub 1).all
    (fun row => rd exReal.perm_r row = EMPTY || (1 : Int) ≤ rd exReal.perm_r row) = false := by decide +kernel
/-- row 0 starts the search at representative 1, whose list is scanned without a descent (rows 0 and 1 only lower
`repfnz[1]`), rows 2, 4 and then the second nonzero 3 are appended -/
example : (columnDfs exReal (fuelBound exReal)).map
    (fun o => (o.nseg, slice o.segrep 0 o.nseg, slice o.repfnz 0 2, slice o.lsub 8 11)) =
    some (1, [1], [-1, 0], [2, 4, 3]) := by decide +kernel
example := colDfs_segrep_topo exReal exReal_wf exReal_vis0
example := colDfs_lsub_nodup exReal exReal_wf

/-- second column (jcol = 3) of a panel that starts at column 2: `segrep[0..2) = 1 0` are the segments the panel search
found for column 2; column 3 has reached neither (`repfnz` all EMPTY).  Its nonzero row 2 was pivoted inside the panel
(at column 2).  There is not room for `nseg + jcol = 5` entries beyond the `#visited = 0` already listed
(`|segrep| = 4`, evaluated below), yet nothing is written beyond `segrep[2]`. -/
def exPanel : Input :=
  { m := 4, jcol := 3, maxsuper := 4,
    perm_r := #[0, 1, 2, -1], nseg := 2,
    lsubCol := #[2, 3, -1, 7],
    segrep := #[1, 0, -7, -7],
    repfnz := #[-1, -1, -1, -1],
    xprune := #[2, 4, 6, -7],
    marker := #[0, 1, 2, 2, -1, -1, -1, -1, 2, 2, 2, 2],
    parent := #[4, 4, 4, 4], xplore := #[9, 9, 9, 9],
    xsup := #[0, 1, 2, 3, -7], supno := #[0, 1, 2, 2, -7],
    lsub := #[0, 2,  1, 2,  2, 3,  -5, -5],
    xlsub := #[0, 2, 4, 6, -7] }

theorem exPanel_wf : wfIn exPanel = true := by decide +kernel
example : wfIn exPanel = true := exPanel_wf
example : decide (exPanel.nseg + exPanel.jcol ≤ exPanel.segrep.size + (visited0 exPanel.jcol exPanel.repfnz).length) = false := by
  decide +kernel
example : (columnDfs exPanel (fuelBound exPanel)).map
    (fun o => (o.nseg, slice o.segrep 0 o.nseg, slice o.repfnz 0 3, slice o.lsub 6 7)) =
    some (3, [1, 0, 2], [-1, -1, 2], [3]) := by decide +kernel
example := colDfs_eq_recursive exPanel exPanel_wf

end Slu.ColDfs
