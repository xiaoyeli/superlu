import SluProofs.Lemmas.SymbArrays
import SluProofs.Lemmas.SymbPack
import SluProofs.Lemmas.SymbContain
import SluProofs.Lemmas.RelaxOk
import SluProofs.Props.C02
import SluProofs.Props.C10
/-
C03 — Returned L and U are structurally well-formed.

`Slu.Struct.wfb` is the C03 predicate as a Boolean conjunction; the drivers apply `wfSC`, the same tests in the same
order with a message for the first that fails (the two are not related by a theorem, only compared on `exF` below).
This file proves `wfb` sound for the property's clauses written with
quantifiers (`WF`) and gives the meaning of the `countnz` formulae and of `fixupL`.  For the set-level model
`Slu.Symb.symbNaive`, which predicts the whole returned structure, it states that the prediction is always
well-formed (`symbNaive_wf`, `symbNaive_WF`) and that it contains every nonzero of the exact factors of `B = Pr·A·Pc`:
first under the hypothesis `RelaxOk` (`symbNaive_contains_factors`, `…_numeric`), then with `RelaxOk` derived from the
column elimination tree for the inputs `sp_preorder` and `relax_snode` / `heap_relax_snode` produce (`…_coletree`,
`…_spPreorder`, `…_sym`); the elimination tree of `A + Aᵀ` suffices only when the pivots stay on the diagonal
(`relaxOk_symetree_fails`, `relaxOk_of_symetree_diag`).
Symmetric pruning: at column level the search on lists cut at ANY symmetric pair meets exactly `reach(t)`
(`column_struct_pruned_search`); at array level (last section, compared with the C code by direct calls, family
`symbarr`) [sdcz]pruneL permutes each list within itself and leaves exactly the pivoted rows before `xprune`
(`pruneL_perm`, `pruneL_cut`, `pruneL_cut_pruneAdj`).  By correspondence only (families `symb`, `lu`): that a pruned
representative and `jcol` form a symmetric pair on the U side (the depth-first search's output), that the C searches
scan `xlsub[k] .. xprune[k]-1`, and pruning on supernode representatives.
-/
namespace Slu.Struct
open Slu

variable {K : Type} [Inhabited K]

/-- **C03 (the checker is sound).** Whatever passes `wfb` satisfies every clause of the property. -/
theorem wfb_sound (F : LUFac K) (ilu : Bool) (hn : F.L.n ≠ 0) (h : wfb F ilu = true) : WF F ilu :=
  ((wfb_iff F ilu hn).mp h).2

/-- positions (p, c) of a `r × w` rectangle on or below the diagonal (L's part, unit diagonal
included) and on or above it (U's part) -/
def lPositions (r w : Nat) : List (Nat × Nat) :=
  (List.range w).flatMap fun c => ((List.range r).filter (fun p => c ≤ p)).map fun p => (p, c)
def uPositions (w : Nat) : List (Nat × Nat) :=
  (List.range w).flatMap fun c => (List.range (c + 1)).map fun p => (p, c)

theorem filter_ge_length (r c : Nat) (h : c ≤ r) : ((List.range r).filter (fun p => c ≤ p)).length = r - c := by
  induction r with
  | zero => simp
  | succ r ih =>
    rw [List.range_succ, List.filter_append, List.length_append]
    by_cases hc : c ≤ r
    · simp [ih hc, hc]; omega
    · obtain rfl : c = r + 1 := by omega
      have : (List.range r).filter (fun p => r + 1 ≤ p) = [] :=
        List.filter_eq_nil_iff.mpr fun p hp => by have := List.mem_range.mp hp; simp; omega
      rw [this]; simp

theorem foldl_add_length {α β : Type} (l : List α) (g : α → List β) (f : α → Nat) (h : ∀ x ∈ l, f x = (g x).length) (acc : Nat) :
    l.foldl (fun a c => a + f c) acc = acc + (l.flatMap g).length := by
  rw [foldl_add_eq_sum, List.length_flatMap, List.map_congr_left h]

/-- **C03 (countnz, L part).** The formula of `countnz` for one supernode — `Σ_c (nsupr - c)` — is the
number of stored positions of L in its rectangle. -/
theorem countnz_snode_L (r w : Nat) (h : w ≤ r) (acc : Nat) :
    (List.range w).foldl (fun a c => a + (r - c)) acc = acc + (lPositions r w).length :=
  foldl_add_length _ _ _ (fun c hc => by
    rw [List.length_map, filter_ge_length r c (by have := List.mem_range.mp hc; omega)]) acc

/-- **C03 (countnz, U part).** `Σ_c (c + 1)` is the number of positions of the supernodal triangle of U. -/
theorem countnz_snode_U (w : Nat) (acc : Nat) :
    (List.range w).foldl (fun a c => a + (c + 1)) acc = acc + (uPositions w).length :=
  foldl_add_length _ _ _ (fun c _ => by rw [List.length_map, List.length_range]) acc

theorem markerFilter_nodup (rows acc : List Nat) (h : acc.Nodup) : (markerFilter rows acc).Nodup :=
  Symb.union_nodup acc rows h

theorem markerFilter_complete (rows acc : List Nat) :
    ∀ x, x ∈ markerFilter rows acc ↔ x ∈ acc ∨ x ∈ rows :=
  Symb.mem_union acc rows

/-- **C03 (fixupL).** If the first `w` subscripts of a supernode's row list are the pivot rows of its
columns `f, f+1, …` (the order in which `[sdcz]pivotL` swaps them to the front) and `perm_r` maps the
pivot row of column `k` to `k`, then after `fixupL` the leading entries are `f, f+1, …, f+w-1`.
No assumption on the number of columns: this covers a single-column matrix with several rows. -/
theorem fixupL_spec (permR : Nat → Nat) (piv : Nat → Nat) (hperm : ∀ k, permR (piv k) = k)
    (rows : List Nat) (f w : Nat) (hw : w ≤ rows.length) (hlead : ∀ c < w, rows[c]! = piv (f + c)) :
    ∀ c < w, (fixupRows permR rows)[c]! = f + c := by
  intro c hc
  rw [fixupRows, Symb.getElem!_map_of_lt _ _ _ (by omega), hlead c hc, hperm]

/-- trailing rows stay distinct under `fixupL` when `perm_r` is injective -/
theorem fixupL_nodup (permR : Nat → Nat) (hinj : Function.Injective permR) (rows : List Nat) (h : rows.Nodup) :
    (fixupRows permR rows).Nodup := by
  simpa [fixupRows] using List.Nodup.map hinj h

/-! non-vacuity: a 3x3 factor with one 2-column supernode and a singleton passes the checker -/
def exF : LUFac Nat :=
  { L := { m := 3, n := 3, nsuper := 1, xsup := #[0, 2, 3], supno := #[0, 0, 1], xlsub := #[0, 3, 3, 4],
           lsub := #[0, 1, 2, 2], xlusup := #[0, 3, 6, 7], lusup := #[1, 2, 3, 4, 5, 6, 7] },
    U := { m := 3, n := 3, colptr := #[0, 0, 0, 2], rowind := #[0, 1], val := #[8, 9] },
    nnzL := 6, nnzU := 6 }
example : wfb exF = true := by decide +kernel
example : wfSC exF = none := by decide +kernel

end Slu.Struct

/-! ### The model: the set-level symbolic factorization predicts a well-formed structure

`Slu.Symb.symbNaive` (lean/Slu/Model/Symb.lean) predicts the whole structure `[sdcz]gstrf` returns and is
compared with it exactly on every case of family `symb`. -/
namespace Slu.Symb
open Slu Slu.Struct

/-- **C03 (model, partition).**  For EVERY input — any column lists, any `relax_end`, any `maxsuper` —
the predicted supernodes partition the columns `0..n-1` into consecutive non-empty ranges and `supno`
is the matching map (the clauses `first`, `last`, `nonempty`, `col_to_sup` of `WF`). -/
theorem symbNaive_partition (m n maxsuper : Nat) (cols : Nat → List Nat) (relaxEnd : Nat → Option Nat) (hn : n ≠ 0) :
    let F := toFac m (symbNaive n maxsuper cols relaxEnd)
    F.L.xsup[0]! = 0 ∧ F.L.xsup[F.L.nsuper + 1]! = n ∧
    (∀ s < F.L.nsuper + 1, F.L.xsup[s]! < F.L.xsup[s + 1]!) ∧
    (∀ s < F.L.nsuper + 1, ∀ c < F.L.xsup[s + 1]! - F.L.xsup[s]!, F.L.supno[F.L.xsup[s]! + c]! = s) := by
  intro F
  have h := symbNaive_wfOut n maxsuper cols relaxEnd
  simp only [F, toFac_xsup, toFac_supno, List.getElem!_toArray, h.nsuper_succ m hn]
  exact ⟨h.x0, h.xn, h.xlt, h.sup_add⟩

/-- **C03 (model, leading entries).**  For EVERY input the row list of every predicted supernode, read
back from the packed arrays, starts with the supernode's own columns in order. -/
theorem symbNaive_leading (m n maxsuper : Nat) (cols : Nat → List Nat) (relaxEnd : Nat → Option Nat) (hn : n ≠ 0) :
    let F := toFac m (symbNaive n maxsuper cols relaxEnd)
    ∀ s < F.L.nsuper + 1, ∀ c < F.L.xsup[s + 1]! - F.L.xsup[s]!, (rowsOf F.L s)[c]! = F.L.xsup[s]! + c := by
  intro F s hs c hc
  have h := symbNaive_wfOut n maxsuper cols relaxEnd
  have hs' := Nat.lt_of_lt_of_eq hs (h.nsuper_succ m hn)
  simp only [F, toFac_xsup, List.getElem!_toArray] at hc ⊢
  rw [h.rowsOf_toFac m s hs']
  exact h.lead s hs' c hc

/-- **C03 (model, rows below and U rows).**  For EVERY input: the entries of a predicted row list after
the leading ones are distinct rows strictly below the supernode, and every predicted U column holds
distinct rows strictly above its column's supernode. -/
theorem symbNaive_trailing_and_U (m n maxsuper : Nat) (cols : Nat → List Nat) (relaxEnd : Nat → Option Nat) (hn : n ≠ 0) :
    let F := toFac m (symbNaive n maxsuper cols relaxEnd)
    (∀ s < F.L.nsuper + 1, (∀ r ∈ (rowsOf F.L s).drop (F.L.xsup[s + 1]! - F.L.xsup[s]!), F.L.xsup[s + 1]! - 1 < r) ∧
        ((rowsOf F.L s).drop (F.L.xsup[s + 1]! - F.L.xsup[s]!)).Nodup) ∧
    (∀ j < n, (∀ r ∈ ucolRows F j, r < F.L.xsup[F.L.supno[j]!]!) ∧ (ucolRows F j).Nodup) := by
  intro F
  have h := symbNaive_wfOut n maxsuper cols relaxEnd
  constructor
  · intro s hs
    have hs' := Nat.lt_of_lt_of_eq hs (h.nsuper_succ m hn)
    simp only [F, toFac_xsup, List.getElem!_toArray]
    rw [h.rowsOf_toFac m s hs']
    exact ⟨h.below s hs', h.rnodup s hs'⟩
  · intro j hj
    simp only [F, toFac_xsup, toFac_supno, List.getElem!_toArray]
    rw [h.ucolRows_toFac m j hj]
    exact ⟨h.uabove j hj, h.unodup j hj⟩

/-- **C03 (model, complete).**  For every pattern with row indices `< m`, `n ≤ m`, every `relax_end`
function and every `maxsuper`, the predicted structure passes the checker `wfb`; hence (`wfb_sound`) it
satisfies every clause of the property. -/
theorem symbNaive_wf (m n maxsuper : Nat) (cols : Nat → List Nat) (relaxEnd : Nat → Option Nat) (hnm : n ≤ m)
    (hcols : ∀ j < n, ∀ r ∈ cols j, r < m) : wfb (toFac m (symbNaive n maxsuper cols relaxEnd)) = true := by
  by_cases hn : n = 0
  · exact wfb_of_n_zero _ _ hn
  · exact toFac_wfb m _ (by rw [symbNaive_n]; exact hn) (symbNaive_wfOut n maxsuper cols relaxEnd)
      (symbNaive_rows_lt m n maxsuper cols relaxEnd hnm hcols)

theorem symbNaive_WF (m n maxsuper : Nat) (cols : Nat → List Nat) (relaxEnd : Nat → Option Nat) (hn : n ≠ 0) (hnm : n ≤ m)
    (hcols : ∀ j < n, ∀ r ∈ cols j, r < m) : WF (toFac m (symbNaive n maxsuper cols relaxEnd)) false :=
  wfb_sound _ false (by rw [toFac_n, symbNaive_n]; exact hn) (symbNaive_wf m n maxsuper cols relaxEnd hnm hcols)

/-! non-vacuity: a 3x3 pattern (columns {0,1,2}, {1,2}, {0,2}; `maxsuper = 2`, no relaxed supernode):
columns 0,1 form a T2 supernode, column 2 does not join it (`2 - 0 < maxsuper` fails) and reaches the
supernode through row 0, so its U part is the whole segment [0..1] -/
def exCols : Nat → List Nat := fun j => if j = 0 then [0, 1, 2] else if j = 1 then [1, 2] else [0, 2]
example : (symbNaive 3 2 exCols (fun _ => none)).xsup = [0, 2, 3] := by decide +kernel
example : (symbNaive 3 2 exCols (fun _ => none)).rows = [[0, 1, 2], [2]] := by decide +kernel
example : (symbNaive 3 2 exCols (fun _ => none)).ucols = [[], [], [0, 1]] := by decide +kernel
example : ∀ j < 3, ∀ r ∈ exCols j, r < 3 := by decide
/-- a relaxed supernode [0..1] (as `relax_end[0] = 1` asks) followed by an ordinary column -/
example : (symbNaive 3 2 exCols (fun j => if j = 0 then some 1 else none)).rows = [[0, 1, 2], [2]] := by decide +kernel

end Slu.Symb

/-! ### Soundness: the predicted structure contains every nonzero of the exact factors

Rows in PIVOT numbering (`B = Pr·A·Pc`; the pivot of column `j` is row `j`), as in `Slu.Symb`.  The pattern
handed to the symbolic model is any `cols` with `B(i,j) ≠ 0 → i ∈ cols j`.

Relaxed supernodes (R1) need `RelaxOk n cols relaxEnd`: no column of a relaxed supernode `[j..k]` has an
entry in a row above `j`.  This is what R1's "no U part outside the supernode" presupposes, and it is
NECESSARY (an entry `B(r,c) ≠ 0`, `r < j ≤ c ≤ k`, generically gives `U(r,c) ≠ 0`, which the prediction
`ucols[c] = []` does not hold; example at the end of this section).  In this section it is a hypothesis; the next
two sections derive it from the column elimination tree, in both modes.
With `relaxEnd = fun _ => none` it holds trivially (`relaxOk_none`). -/
namespace Slu.Symb
open Slu Slu.Struct

theorem relaxOk_none (n : Nat) (cols : Nat → List Nat) : RelaxOk n cols (fun _ => none) := by
  intro j k h; cases h

/-- **C03 (soundness, column level).**  For ANY exact factorization `B = L·U` of an `n × n` matrix
over a field — L unit lower triangular, U upper triangular with nonzero diagonal, so L and U are THE factors
without row interchanges of B — and any pattern `cols` covering the nonzeros of B: every nonzero of `L(:,j)`
lies in the column-level structure `struct(j) = {j} ∪ {r > j : r ∈ reach(j)}` and every nonzero of `U(:,j)` in
`{j} ∪ {k < j : k ∈ reach(j)}`, where `reach(j)` is the closure of the rows of `B(:,j)` under "a reached
row `k < j` adds the rows of `struct(k)`".  This is the heart of the soundness of symbolic factorization:
the update of column `j` by column `k` happens only if `U(k,j) ≠ 0`, i.e. only for reached `k`, and then
adds at most the rows of `struct(k)`. -/
theorem column_struct_contains_numeric {K : Type} [Field K] (n : Nat) (B L U : Nat → Nat → K) (cols : Nat → List Nat)
    (hcols : ∀ i < n, ∀ j < n, B i j ≠ 0 → i ∈ cols j)
    (hB : ∀ i < n, ∀ j < n, B i j = ∑ t ∈ Finset.range n, L i t * U t j)
    (hL1 : ∀ i < n, L i i = 1) (hL0 : ∀ i < n, ∀ t < n, i < t → L i t = 0)
    (hU0 : ∀ t < n, ∀ j < n, j < t → U t j = 0) (hUd : ∀ j < n, U j j ≠ 0) :
    ∀ j < n, (∀ i < n, L i j ≠ 0 → ColStruct cols j i) ∧ (∀ k < n, U k j ≠ 0 → ColUStruct cols j k) :=
  colStruct_contains_LU n B L U cols hcols ⟨hB, hL1, hL0, hU0, hUd⟩

/-- **C03 (the pruned search computes the column-level structure).**  `LStruct cols k r` / `UStruct cols j k`:
the off-diagonal parts of `ColStruct` / `ColUStruct`.  Let `p` cut the row list of any columns `k` at ANY
column `c` forming a symmetric pair with `k` (`k < c`, `c ∈ struct(L_k)`, `k ∈ struct(U(:,c))`) — what
[sdcz]pruneL does.  Then for every column `t` the rows met by the search of [sdcz]column_dfs on the
PRUNED lists (`HitsPruned`: the rows of `B(:,t)`, and the rows in the scanned part of the list of every
column reached from a pivotal row `s < t` of `B(:,t)` through scanned pivotal rows) are exactly
`reach(t) = ColReach cols t`; in particular the pivotal ones (`< t`) are the structure of `U(:,t)` and
the non-pivotal ones (`> t`) the structure of `L(:,t)`. -/
theorem column_struct_pruned_search (cols : Nat → List Nat) (p : Nat → Option Nat)
    (hp : ∀ k c, p k = some c → SymPair (LStruct cols) (UStruct cols) k c) (t r : Nat) :
    (ColReach cols t r ↔ HitsPruned (LStruct cols) p t (fun s => s ∈ cols t ∧ s < t) (fun r => r ∈ cols t) r) ∧
    (ColUStruct cols t r ↔ r = t ∨ (r < t ∧ HitsPruned (LStruct cols) p t (fun s => s ∈ cols t ∧ s < t) (fun r => r ∈ cols t) r)) ∧
    (ColStruct cols t r ↔ r = t ∨ (t < r ∧ HitsPruned (LStruct cols) p t (fun s => s ∈ cols t ∧ s < t) (fun r => r ∈ cols t) r)) := by
  have h := colReach_iff_prunedSearch cols p hp t r
  exact ⟨h, by unfold ColUStruct; rw [h], by unfold ColStruct; rw [h]⟩

/-- **C03 (the pruned search finds every numeric nonzero).**  Setting of `column_struct_contains_numeric`
and of `column_struct_pruned_search`: every nonzero of `U(:,t)` above the diagonal and every nonzero of
`L(:,t)` below it is met by the search for column `t` on the pruned lists. -/
theorem pruned_search_contains_numeric {K : Type} [Field K] (n : Nat) (B L U : Nat → Nat → K) (cols : Nat → List Nat)
    (hcols : ∀ i < n, ∀ j < n, B i j ≠ 0 → i ∈ cols j)
    (hB : ∀ i < n, ∀ j < n, B i j = ∑ t ∈ Finset.range n, L i t * U t j)
    (hL1 : ∀ i < n, L i i = 1) (hL0 : ∀ i < n, ∀ t < n, i < t → L i t = 0)
    (hU0 : ∀ t < n, ∀ j < n, j < t → U t j = 0) (hUd : ∀ j < n, U j j ≠ 0)
    (p : Nat → Option Nat) (hp : ∀ k c, p k = some c → SymPair (LStruct cols) (UStruct cols) k c) :
    ∀ t < n,
      (∀ k < t, U k t ≠ 0 → HitsPruned (LStruct cols) p t (fun s => s ∈ cols t ∧ s < t) (fun r => r ∈ cols t) k) ∧
      (∀ i < n, t < i → L i t ≠ 0 → HitsPruned (LStruct cols) p t (fun s => s ∈ cols t ∧ s < t) (fun r => r ∈ cols t) i) := by
  intro t ht
  have h : IsLU n B L U := ⟨hB, hL1, hL0, hU0, hUd⟩
  exact ⟨fun k hk hne => (colReach_iff_prunedSearch cols p hp t k).mp (h.fillU hcols (Nat.le_of_lt hk) ht hne),
    fun i hi hti hne => (colReach_iff_prunedSearch cols p hp t i).mp (h.fillL hcols hi hti hne)⟩

/-- **C03 (soundness of the predicted structure, any exact factorization).**  Same setting; any `maxsuper`,
any `relaxEnd` with `RelaxOk`.  For every column `j`, with `s = supno[j]` its predicted supernode:
every nonzero `L(i,j)` has its row `i` in the row list of `s` at or after position `j - xsup[s]` (the part
of the shared list that column `j` stores: the rows `j..last(s)` and the rows below the supernode), and
every nonzero `U(k,j)` has its row `k` among the predicted U rows of column `j` or among the rows
`xsup[s] .. j` of the supernode's own dense block. -/
theorem symbNaive_contains_factors {K : Type} [Field K] (n maxsuper : Nat) (B L U : Nat → Nat → K)
    (cols : Nat → List Nat) (relaxEnd : Nat → Option Nat)
    (hcols : ∀ i < n, ∀ j < n, B i j ≠ 0 → i ∈ cols j)
    (hB : ∀ i < n, ∀ j < n, B i j = ∑ t ∈ Finset.range n, L i t * U t j)
    (hL1 : ∀ i < n, L i i = 1) (hL0 : ∀ i < n, ∀ t < n, i < t → L i t = 0)
    (hU0 : ∀ t < n, ∀ j < n, j < t → U t j = 0) (hUd : ∀ j < n, U j j ≠ 0)
    (hrelax : RelaxOk n cols relaxEnd) :
    let o := symbNaive n maxsuper cols relaxEnd
    ∀ j < n,
      (∀ i < n, L i j ≠ 0 → i ∈ (o.rows[o.supno[j]!]!).drop (j - o.xsup[o.supno[j]!]!)) ∧
      (∀ k < n, U k j ≠ 0 → k ∈ o.ucols[j]! ∨ (o.xsup[o.supno[j]!]! ≤ k ∧ k ≤ j)) := by
  intro o j hj
  obtain ⟨h1, h2⟩ := colStruct_contains_LU n B L U cols hcols ⟨hB, hL1, hL0, hU0, hUd⟩ j hj
  obtain ⟨g1, g2⟩ := symbNaive_contains_colStruct n maxsuper cols relaxEnd hrelax j hj
  exact ⟨fun i hi hne => g1 i (h1 i hi hne), fun k hk hne => g2 k (h2 k hk hne)⟩

/-- **C03 (soundness of the predicted structure, numeric model).**  Let the numeric model `LU.luFactor`
(exact arithmetic over a field, any threshold `0 ≤ u ≤ 1` — `u = 0` is `DiagPivotThresh = 0` —, any
candidate order, any reuse state) factor a square matrix successfully, choosing the diagonal pivots: the
rows are already in pivot numbering, `piv k = k`.  Then for any pattern `cols` covering the nonzeros of the
matrix, any `maxsuper`, any `relaxEnd` with `RelaxOk`: the conclusion of `symbNaive_contains_factors` for the
computed `L(:,j)` and `U(0..j, j)`. -/
theorem symbNaive_contains_numeric {K : Type} [Field K] [Mag K Rat] (laws : LU.MagLaws K) (P : LU.Params K Rat)
    (hu0 : 0 ≤ P.u) (hu1 : P.u ≤ 1) (hcol : ∀ j, (P.col j).size = P.m) (hsq : P.m = P.n) (b : Bool)
    (hinfo : (LU.luFactor P b).info = 0) (hpiv : ∀ k < P.n, (LU.luFactor P b).piv.getD k 0 = k)
    (maxsuper : Nat) (cols : Nat → List Nat) (relaxEnd : Nat → Option Nat)
    (hcols : ∀ i < P.n, ∀ j < P.n, (P.col j).get i ≠ 0 → i ∈ cols j)
    (hrelax : RelaxOk P.n cols relaxEnd) :
    let o := symbNaive P.n maxsuper cols relaxEnd
    ∀ j < P.n,
      (∀ i, ((LU.luFactor P b).L.getD j #[]).get i ≠ 0 → i ∈ (o.rows[o.supno[j]!]!).drop (j - o.xsup[o.supno[j]!]!)) ∧
      (∀ k, ((LU.luFactor P b).U.getD j #[]).getD k 0 ≠ 0 → k ∈ o.ucols[j]! ∨ (o.xsup[o.supno[j]!]! ≤ k ∧ k ≤ j)) := by
  intro o j hj
  obtain ⟨hlu, hout⟩ := LU.luFactor_isLU laws P hu0 hu1 hcol hsq b hinfo hpiv
  obtain ⟨g1, g2⟩ := symbNaive_contains_factors P.n maxsuper _ _ _ cols relaxEnd hcols hlu.prod hlu.diag hlu.lower
    hlu.upper hlu.piv hrelax j hj
  exact ⟨fun i hne => g1 i (Nat.lt_of_not_le fun hi => hne (hout j hj i hi).1) hne,
    fun k hne => g2 k (Nat.lt_of_not_le fun hk => hne (hout j hj k hk).2) hne⟩

/-! non-vacuity: a 4x4 matrix with fill-in, diagonal pivots (`u = 0`, the diagonal is preferred)

        4 1 . 1                                   L(3,1) = -1/15 although B(3,1) = 0   (fill in L)
    B = 1 4 . .     columns 0,1 and 2,3 form      U(1,3) = -1/4  although B(1,3) = 0   (fill in U)
        . . 4 1     T2 supernodes
        1 . 1 4                                                                                     -/
def fillCols : Nat → LU.Vec Rat
  | 0 => #[4, 1, 0, 1]
  | 1 => #[1, 4, 0, 0]
  | 2 => #[0, 0, 4, 1]
  | _ => #[1, 0, 1, 4]

def fillP : LU.Params Rat Rat :=
  { m := 4, n := 4, col := fillCols, u := 0, order := fun _ => [0, 1, 2, 3], oldPiv := fun _ => 0, diagRow := fun j => j }

def fillPat : Nat → List Nat := fun j => (List.range 4).filter fun i => (fillCols j).get i != 0

example : (List.range 4).map fillPat = [[0, 1, 3], [0, 1], [2, 3], [0, 2, 3]] := by decide +kernel

/-- the factorization of `fillP`, evaluated once; the statements below rewrite with it -/
theorem fillLU : (LU.luFactor fillP false).info = 0 ∧ (LU.luFactor fillP false).piv = #[0, 1, 2, 3] ∧
    (LU.luFactor fillP false).L = #[#[1, 1/4, 0, 1/4], #[0, 1, 0, -1/15], #[0, 0, 1, 1/4], #[0, 0, 0, 1]] ∧
    (LU.luFactor fillP false).U = #[#[4], #[1, 15/4], #[0, 0, 4], #[1, -1/4, 1, 209/60]] := by decide +kernel

example : (LU.luFactor fillP false).L.getD 1 #[] = #[0, 1, 0, -1/15] := by rw [fillLU.2.2.1]; rfl
example : (LU.luFactor fillP false).U.getD 3 #[] = #[1, -1/4, 1, 209/60] := by rw [fillLU.2.2.2]; rfl
/-- the column-level structure, computed: `struct(1) = {1, 3}`, `reach(3) = {0, 2, 3, 1}` -/
example : colStructL fillPat 1 = [1, 3] ∧ colReachL fillPat 3 = [0, 2, 3, 1] := by decide +kernel
example : (symbNaive 4 2 fillPat (fun _ => none)).xsup = [0, 2, 4] ∧ (symbNaive 4 2 fillPat (fun _ => none)).supno = [0, 0, 1, 1] ∧
    (symbNaive 4 2 fillPat (fun _ => none)).rows = [[0, 1, 3], [2, 3]] ∧
    (symbNaive 4 2 fillPat (fun _ => none)).ucols = [[], [], [], [0, 1]] := by decide +kernel

/-- all hypotheses of `symbNaive_contains_numeric` about the matrix hold for `fillP`; what is left is `RelaxOk` -/
theorem fill_contains_of (relaxEnd : Nat → Option Nat) (hrelax : RelaxOk 4 fillPat relaxEnd) :
    let o := symbNaive 4 2 fillPat relaxEnd
    ∀ j < 4,
      (∀ i, ((LU.luFactor fillP false).L.getD j #[]).get i ≠ 0 → i ∈ (o.rows[o.supno[j]!]!).drop (j - o.xsup[o.supno[j]!]!)) ∧
      (∀ k, ((LU.luFactor fillP false).U.getD j #[]).getD k 0 ≠ 0 → k ∈ o.ucols[j]! ∨ (o.xsup[o.supno[j]!]! ≤ k ∧ k ≤ j)) :=
  symbNaive_contains_numeric LU.magLaws_rat fillP (le_refl _) (by decide)
  (by intro j; match j with | 0 => rfl | 1 => rfl | 2 => rfl | (_ + 3) => rfl) rfl false
  fillLU.1 (by rw [fillLU.2.1]; decide) 2 fillPat relaxEnd (by decide +kernel) hrelax

/-- all hypotheses of `symbNaive_contains_numeric` hold for this matrix (no relaxed supernode) … -/
theorem fill_contains :
    let o := symbNaive 4 2 fillPat (fun _ => none)
    ∀ j < 4,
      (∀ i, ((LU.luFactor fillP false).L.getD j #[]).get i ≠ 0 → i ∈ (o.rows[o.supno[j]!]!).drop (j - o.xsup[o.supno[j]!]!)) ∧
      (∀ k, ((LU.luFactor fillP false).U.getD j #[]).getD k 0 ≠ 0 → k ∈ o.ucols[j]! ∨ (o.xsup[o.supno[j]!]! ≤ k ∧ k ≤ j)) :=
  fill_contains_of _ (relaxOk_none _ _)

/-- … and the theorem places the fill entry `L(3,1) ≠ 0 = B(3,1)` in the stored part `[1, 3]` of the row
list `[0, 1, 3]` of supernode 0, and the fill entry `U(1,3) ≠ 0 = B(1,3)` in the predicted U column `[0, 1]` -/
example : (fillCols 1).get 3 = 0 ∧ ((LU.luFactor fillP false).L.getD 1 #[]).get 3 ≠ 0 ∧
    3 ∈ ((symbNaive 4 2 fillPat (fun _ => none)).rows[0]!).drop 1 := by
  have h : ((LU.luFactor fillP false).L.getD 1 #[]).get 3 ≠ 0 := by rw [fillLU.2.2.1]; decide +kernel
  exact ⟨by decide +kernel, h, (fill_contains 1 (by decide)).1 3 h⟩
example : (fillCols 3).get 1 = 0 ∧ ((LU.luFactor fillP false).U.getD 3 #[]).getD 1 0 ≠ 0 ∧
    1 ∈ (symbNaive 4 2 fillPat (fun _ => none)).ucols[3]! := by
  have h : ((LU.luFactor fillP false).U.getD 3 #[]).getD 1 0 ≠ 0 := by rw [fillLU.2.2.2]; decide +kernel
  exact ⟨by decide +kernel, h,
    ((fill_contains 3 (by decide)).2 1 h).resolve_right (by decide +kernel)⟩

/-! non-vacuity of the pruning statements on `fillPat`: `(0, 1)` is a symmetric pair (`B(1,0) ≠ 0`,
`B(0,1) ≠ 0`); cutting column 0 at column 1 removes row 3 from its list, and the search for column 3
still meets row 3 — through the fill entry `3 ∈ struct(1)` -/
def fillCut : Nat → Option Nat
  | 0 => some 1
  | _ => none

theorem fillCut_sym : ∀ k c, fillCut k = some c → SymPair (LStruct fillPat) (UStruct fillPat) k c := by
  intro k c h
  match k with
  | 0 =>
    cases h
    exact ⟨by decide, ⟨by decide, ColReach.base (by decide +kernel)⟩, ⟨by decide, ColReach.base (by decide +kernel)⟩⟩
  | (_ + 1) => simp [fillCut] at h

/-- row 3 is in the full list of column 0 but not in the list scanned by the search for column 3 … -/
example : LStruct fillPat 0 3 ∧ ¬ PrunedStruct (LStruct fillPat) fillCut 3 0 3 :=
  ⟨⟨by decide, ColReach.base (by decide +kernel)⟩, fun h => absurd (h.2 1 rfl (by decide)) (by decide)⟩
/-- … the fill row 3 of column 1 is scanned, and the theorem gives the reach of column 3 on the cut lists -/
example : PrunedStruct (LStruct fillPat) fillCut 3 1 3 :=
  ⟨⟨by decide, ColReach.step (k := 0) (ColReach.base (by decide +kernel)) (by decide) (by decide) (ColReach.base (by decide +kernel))⟩,
    fun c h => by simp [fillCut] at h⟩
example (r : Nat) := column_struct_pruned_search fillPat fillCut fillCut_sym 3 r

/-- with a relaxed supernode `[0..1]` (`relax_end[0] = 1`; `RelaxOk` holds: nothing lies above row 0) the
hypotheses hold as well -/
example := fill_contains_of (fun j => if j = 0 then some 1 else none)
  (by
    intro j k h c hc _ r _
    by_cases hj : j = 0
    · omega
    · simp [hj] at h)

/-- `RelaxOk` cannot be dropped: declaring `[2..3]` a relaxed supernode although column 3 has an entry in
row 0 makes the prediction lose `U(0,3) = 1` (R1 gives the columns of a relaxed supernode no U part) -/
example : ¬ RelaxOk 4 fillPat (fun j => if j = 2 then some 3 else none) := by
  intro h
  have := h 2 3 rfl 3 (by decide) (by decide) 0 (by decide +kernel)
  omega
example :
    let o := symbNaive 4 2 fillPat (fun j => if j = 2 then some 3 else none)
    ((LU.luFactor fillP false).U.getD 3 #[]).getD 0 0 ≠ 0 ∧ 0 ∉ o.ucols[3]! ∧ ¬ o.xsup[o.supno[3]!]! ≤ 0 := by
  rw [fillLU.2.2.2]; decide +kernel

end Slu.Symb

/-! ### `RelaxOk` from the column elimination tree

Numbering.  `acol c` = rows of column `c` of `A·Pc` in ORIGINAL row numbering (the columns in the order
the factorization uses, i.e. after `sp_preorder`); `π` = `perm_r` (original row → pivot step); the pattern
handed to `symbNaive` is `fun c => (acol c).map π` — the shape of `Slu.Symb.permutedCols`.  Only injectivity
of `π` on the rows `< nr` is used.

Where the hypotheses of `relaxOk_of_subtrees` (Lemmas/RelaxOk.lean) come from for the real inputs
(`SymmetricMode = NO`):
  * `Heap n et`                                       `coletree_isHeap`, `spPreorder_spec`;
  * `et` postordered (`hpost`)                        `spPreorder_subtrees`;
  * every relaxed supernode is a whole subtree        `relaxSnode_subtrees` (in `relaxEndOf_subtrees`);
  * of two columns that share a row the later is an
    ancestor of the earlier in `coletree`             `coletree_shareDesc` (from `liu_cert`: Liu's algorithm makes the
                                                      later end of every edge an ancestor of the earlier end);
  * the tree `sp_preorder` returns is the relabelled
    `coletree` of the columns before postordering     `spPreorder_spec` (used inside `shareDesc_spPreorder`).
So `symbNaive_contains_factors_spPreorder` has NO hypothesis on the tree left (that `p` is a permutation C10 checks
with `isPerm` on every run).  In `relaxOk_of_coletree` and `symbNaive_contains_numeric_coletree` the tree is `coletree` of
the very columns that are factored and "postordered" is a hypothesis (`spPreorder_subtrees` is about the relabelled tree,
which is the `…_spPreorder` form).
NOT covered: the identification of `permutedCols A perm_c perm_r` with
`fun c => ((sp_preorder view).col c).map perm_r` (inverse of `perm_c` computed by a loop) is by correspondence
only. -/
namespace Slu.Symb
open Slu Slu.Struct Slu.Order

/-- **what `relax_end` records**, in both modes (`relaxEndOf … false` = `relax_snode.c` on a postordered heap-ordered
forest, `relaxEndOf … true` = heap_relax_snode.c on ANY heap-ordered forest): `relaxEnd j = some k` only if `j ≤ k < n` and the
columns `j..k` are exactly the subtree of `k` (`relaxSnode_subtrees`, `heapRelaxSnode_subtrees`; entries outside `0..n-1` are EMPTY) -/
theorem relaxEndOf_subtrees (n relax : Nat) (et : Array Nat) (sym : Bool) (h : Heap n et)
    (hpost : sym = false → ∀ v < n, ∃ lo, ∀ u < n, Desc n et u v ↔ lo ≤ u ∧ u ≤ v) :
    ∀ j k, relaxEndOf n relax et sym j = some k →
      j ≤ k ∧ k < n ∧ ∀ u, u < n → (Desc n et u k ↔ j ≤ u ∧ u ≤ k) := by
  cases sym
  exacts [relaxSnode_subtrees relax h (hpost rfl), heapRelaxSnode_subtrees relax h]

/-- **C03 (`RelaxOk`, any tree with `ShareDesc`).**  `et` heap ordered — and postordered unless in SymmetricMode —, two columns
of `cols` that share a row related in `et`, every pivot row `t < n` structurally nonzero in column `t`
(`RowFill n cols t t`; `rowFill_diag_of_LU` derives it from `U(t,t) ≠ 0`): the relaxed supernodes
`relax_snode` / `heap_relax_snode` finds in `et` satisfy `RelaxOk` for `cols`. -/
theorem relaxOk_of_etree (n relax : Nat) (cols : Nat → List Nat) (et : Array Nat) (sym : Bool) (h : Heap n et)
    (hs : ShareDesc n cols et)
    (hpost : sym = false → ∀ v < n, ∃ lo, ∀ u < n, Desc n et u v ↔ lo ≤ u ∧ u ≤ v)
    (hpiv : ∀ t, t < n → RowFill n cols t t) :
    RelaxOk n cols (relaxEndOf n relax et sym) :=
  relaxOk_of_subtrees h hs hpiv (relaxEndOf_subtrees n relax et sym h hpost)

/-- **C03 (`RelaxOk` from the column elimination tree).**  `acol` = columns of `A·Pc` (original row numbers
`< nr`), `π` injective on the rows (`perm_r`), `et = coletree nr n acol` postordered, pivot rows structurally
nonzero: the relaxed supernodes of `relax_snode` on `et` have no entry of `Pr·A·Pc` in a row pivotal before
their first column. -/
theorem relaxOk_of_coletree (nr n relax : Nat) (acol : Nat → List Nat) (π : Nat → Nat)
    (hrow : ∀ c, c < n → ∀ i ∈ acol c, i < nr)
    (hπ : ∀ i, i < nr → ∀ i', i' < nr → π i = π i' → i = i')
    (hpost : ∀ v < n, ∃ lo, ∀ u < n, Desc n (coletree nr n acol) u v ↔ lo ≤ u ∧ u ≤ v)
    (hpiv : ∀ t, t < n → RowFill n (fun c => (acol c).map π) t t) :
    RelaxOk n (fun c => (acol c).map π) (relaxEndOf n relax (coletree nr n acol) false) :=
  relaxOk_of_etree n relax _ _ false (coletree_isHeap nr n acol)
    ((coletree_shareDesc nr n acol hrow).map_rows nr hrow π hπ) (fun _ => hpost) hpiv

/-- **the tree `sp_preorder` returns fits the columns it returns**: in `(spPreorder A p false).etree`, of two
columns of the permuted view `A·Pc` that share a row the later one is an ancestor of the earlier one.  (The
returned tree is the postorder relabelling of `coletree` of the columns before postordering; this is the
part of "it is the column elimination tree of `A·Pc`" that the row-merge argument needs.) -/
theorem shareDesc_spPreorder (A : Pat) (p : Array Nat) (hp : isPerm A.n p = true)
    (hrow : ∀ r ∈ A.rowind.toList, r < A.m) :
    ShareDesc A.n ((spPreorder A p false).view A).col (spPreorder A p false).etree := by
  have S := spPreorder_spec A p false hp
  exact shareDesc_relabel (q := fun j => (postOf A p false).getD j 0)
    (coletree_shareDesc A.m A.n (permView A p).col fun _ _ r hr => hrow r (View.mem_col hr)) S.heap S.qlt S.qsurj S.etree S.col

/-- **C03 (`RelaxOk`, real inputs).**  For every stored pattern `A` (row indices `< m`), every column
permutation `p`, every `relax`, every injective `π` (`perm_r`), `SymmetricMode = NO`: with the view and the
tree `sp_preorder` returns, `relax_end = relax_snode(etree)` satisfies `RelaxOk` for `Pr·A·Pc`, provided every
pivot row is structurally nonzero in its pivot column. -/
theorem relaxOk_of_spPreorder (A : Pat) (p : Array Nat) (hp : isPerm A.n p = true)
    (hrow : ∀ r ∈ A.rowind.toList, r < A.m) (relax : Nat) (π : Nat → Nat)
    (hπ : ∀ i, i < A.m → ∀ i', i' < A.m → π i = π i' → i = i')
    (hpiv : ∀ t, t < A.n → RowFill A.n (fun c => (((spPreorder A p false).view A).col c).map π) t t) :
    RelaxOk A.n (fun c => (((spPreorder A p false).view A).col c).map π)
      (relaxEndOf A.n relax (spPreorder A p false).etree false) :=
  relaxOk_of_etree A.n relax _ _ false (spPreorder_spec A p false hp).heap
    ((shareDesc_spPreorder A p hp hrow).map_view A.m hrow π hπ) (fun _ => spPreorder_subtrees A p hp) hpiv

/-- **C03 (soundness of the predicted structure, real inputs of the symbolic phase).**  `symbNaive_contains_factors`
WITHOUT the hypothesis `RelaxOk`: `B = Pr·A·Pc = L·U` exactly over a field (L unit lower, U upper, `U(j,j) ≠ 0`), `π = perm_r`
injective, `relax_end` computed by `relax_snode` (`relaxEndOf … false`) from the tree and the column view `sp_preorder` returns
for ANY pattern `A` and ANY column permutation `p` (`SymmetricMode = NO`), every `maxsuper` and every `relax`.  No hypothesis
about the tree is left: heap order, postorder, "is the column elimination tree" and "relaxed supernodes are whole subtrees"
are theorems of C10. -/
theorem symbNaive_contains_factors_spPreorder {K : Type} [Field K] (A : Pat) (p : Array Nat) (maxsuper relax : Nat)
    (B L U : Nat → Nat → K) (π : Nat → Nat)
    (hp : isPerm A.n p = true) (hrow : ∀ r ∈ A.rowind.toList, r < A.m)
    (hπ : ∀ i, i < A.m → ∀ i', i' < A.m → π i = π i' → i = i')
    (hcols : ∀ i < A.n, ∀ j < A.n, B i j ≠ 0 → i ∈ (((spPreorder A p false).view A).col j).map π)
    (hB : ∀ i < A.n, ∀ j < A.n, B i j = ∑ t ∈ Finset.range A.n, L i t * U t j)
    (hL1 : ∀ i < A.n, L i i = 1) (hL0 : ∀ i < A.n, ∀ t < A.n, i < t → L i t = 0)
    (hU0 : ∀ t < A.n, ∀ j < A.n, j < t → U t j = 0) (hUd : ∀ j < A.n, U j j ≠ 0) :
    let o := symbNaive A.n maxsuper (fun c => (((spPreorder A p false).view A).col c).map π)
      (relaxEndOf A.n relax (spPreorder A p false).etree false)
    ∀ j < A.n,
      (∀ i < A.n, L i j ≠ 0 → i ∈ (o.rows[o.supno[j]!]!).drop (j - o.xsup[o.supno[j]!]!)) ∧
      (∀ k < A.n, U k j ≠ 0 → k ∈ o.ucols[j]! ∨ (o.xsup[o.supno[j]!]! ≤ k ∧ k ≤ j)) :=
  symbNaive_contains_factors A.n maxsuper B L U _ _ hcols hB hL1 hL0 hU0 hUd
    (relaxOk_of_spPreorder A p hp hrow relax π hπ (rowFill_diag_of_LU A.n B L U _ hcols ⟨hB, hL1, hL0, hU0, hUd⟩))

/-- **C03 (soundness of the predicted structure, numeric model, column elimination tree).**
`symbNaive_contains_numeric` without `RelaxOk`: rows already in pivot numbering (`piv k = k`), `cols` any
pattern with row indices `< m` covering the nonzeros of the matrix, `relax_end` from `relax_snode` on
`coletree m n cols`, postordered. -/
theorem symbNaive_contains_numeric_coletree {K : Type} [Field K] [Mag K Rat] (laws : LU.MagLaws K) (P : LU.Params K Rat)
    (hu0 : 0 ≤ P.u) (hu1 : P.u ≤ 1) (hcol : ∀ j, (P.col j).size = P.m) (hsq : P.m = P.n) (b : Bool)
    (hinfo : (LU.luFactor P b).info = 0) (hpiv : ∀ k < P.n, (LU.luFactor P b).piv.getD k 0 = k)
    (maxsuper relax : Nat) (cols : Nat → List Nat)
    (hcols : ∀ i < P.n, ∀ j < P.n, (P.col j).get i ≠ 0 → i ∈ cols j)
    (hrow : ∀ c, c < P.n → ∀ i ∈ cols c, i < P.m)
    (hpost : ∀ v < P.n, ∃ lo, ∀ u < P.n, Desc P.n (coletree P.m P.n cols) u v ↔ lo ≤ u ∧ u ≤ v) :
    let o := symbNaive P.n maxsuper cols (relaxEndOf P.n relax (coletree P.m P.n cols) false)
    ∀ j < P.n,
      (∀ i, ((LU.luFactor P b).L.getD j #[]).get i ≠ 0 → i ∈ (o.rows[o.supno[j]!]!).drop (j - o.xsup[o.supno[j]!]!)) ∧
      (∀ k, ((LU.luFactor P b).U.getD j #[]).getD k 0 ≠ 0 → k ∈ o.ucols[j]! ∨ (o.xsup[o.supno[j]!]! ≤ k ∧ k ≤ j)) := by
  refine symbNaive_contains_numeric laws P hu0 hu1 hcol hsq b hinfo hpiv maxsuper cols _ hcols ?_
  exact relaxOk_of_etree P.n relax cols _ false (coletree_isHeap P.m P.n cols) (coletree_shareDesc P.m P.n cols hrow) (fun _ => hpost)
    (rowFill_diag_of_LU P.n _ _ _ cols hcols (LU.luFactor_isLU laws P hu0 hu1 hcol hsq b hinfo hpiv).1)

/-! non-vacuity: a 5x5 matrix whose column elimination tree has two leaf subtrees `{0,1}`, `{2,3}` under the
root 4; `relax = 2` makes both relaxed supernodes of two columns.  `perm_r = (1 0 3 2 4)` is not the identity.

    pivot numbering                      original row numbers of the columns (`rxAcol`)
        1 1 . . .                        col 0: {0,1}   col 1: {0,1,4}   col 2: {2,3}   col 3: {2,3}   col 4: {0,2,4}
        1 2 . . 1
    B = . . 1 1 .   = L·U,  L = I + E(1,0) + E(3,2) + E(4,1),  U = I + E(0,1) + E(1,4) + E(2,3) + E(3,4)
        . . 1 2 1
        . 1 . . 2                                                                                      -/
def rxAcol : Nat → List Nat
  | 0 => [0, 1]
  | 1 => [0, 1, 4]
  | 2 => [2, 3]
  | 3 => [2, 3]
  | _ => [0, 2, 4]

def rxPi : Nat → Nat := fun i => [1, 0, 3, 2, 4].getD i i

def rxMat (rows : List (List Rat)) : Nat → Nat → Rat := fun i j => (rows.getD i []).getD j 0
def rxB := rxMat [[1,1,0,0,0],[1,2,0,0,1],[0,0,1,1,0],[0,0,1,2,1],[0,1,0,0,2]]
def rxL := rxMat [[1,0,0,0,0],[1,1,0,0,0],[0,0,1,0,0],[0,0,1,1,0],[0,1,0,0,1]]
def rxU := rxMat [[1,1,0,0,0],[0,1,0,0,1],[0,0,1,1,0],[0,0,0,1,1],[0,0,0,0,1]]

/-- the tree (evaluated once; the statements below rewrite with it), and the two relaxed supernodes `[0..1]`, `[2..3]` -/
theorem rx_tree : coletree 5 5 rxAcol = #[1, 4, 3, 4, 5] := by decide +kernel
example : coletree 5 5 rxAcol = #[1, 4, 3, 4, 5] := rx_tree
example : (List.range 5).map (relaxEndOf 5 2 (coletree 5 5 rxAcol) false) = [some 1, none, some 3, none, none] := by
  rw [rx_tree]; decide +kernel

theorem rx_isLU : IsLU 5 rxB rxL rxU :=
  ⟨by decide +kernel, by decide +kernel, by decide +kernel, by decide +kernel, by decide +kernel⟩
theorem rx_cols : ∀ i < 5, ∀ j < 5, rxB i j ≠ 0 → i ∈ (rxAcol j).map rxPi := by decide +kernel

/-- the tree is postordered: the subtrees are `0..0`, `0..1`, `2..2`, `2..3`, `0..4` -/
theorem rx_post : ∀ v < 5, ∃ lo, ∀ u < 5, Desc 5 (coletree 5 5 rxAcol) u v ↔ lo ≤ u ∧ u ≤ v := by
  intro v hv
  refine ⟨[0, 0, 2, 2, 0].getD v 0, fun u hu => ?_⟩
  rw [desc_iff_mem_order (coletree_isHeap 5 5 rxAcol) (Nat.le_of_lt hv), rx_tree]
  revert v u
  decide +kernel

/-- `RelaxOk` holds (derived from the tree, not evaluated; it says e.g. that columns 2, 3 have no entry in the rows 0, 1) -/
theorem rx_relaxOk : RelaxOk 5 (fun c => (rxAcol c).map rxPi) (relaxEndOf 5 2 (coletree 5 5 rxAcol) false) :=
  relaxOk_of_coletree 5 5 2 rxAcol rxPi (by decide) (by decide) rx_post
    (rowFill_diag_of_LU 5 rxB rxL rxU _ rx_cols rx_isLU)

/-- every hypothesis of `symbNaive_contains_factors` and of `relaxOk_of_coletree` holds for this matrix … -/
theorem rx_contains :
    let o := symbNaive 5 3 (fun c => (rxAcol c).map rxPi) (relaxEndOf 5 2 (coletree 5 5 rxAcol) false)
    ∀ j < 5,
      (∀ i < 5, rxL i j ≠ 0 → i ∈ (o.rows[o.supno[j]!]!).drop (j - o.xsup[o.supno[j]!]!)) ∧
      (∀ k < 5, rxU k j ≠ 0 → k ∈ o.ucols[j]! ∨ (o.xsup[o.supno[j]!]! ≤ k ∧ k ≤ j)) :=
  symbNaive_contains_factors 5 3 rxB rxL rxU _ _ rx_cols rx_isLU.prod rx_isLU.diag rx_isLU.lower rx_isLU.upper rx_isLU.piv rx_relaxOk

/-- … the prediction has the two relaxed supernodes and the singleton `{4}`, and `RelaxOk` holds -/
example :
    let o := symbNaive 5 3 (fun c => (rxAcol c).map rxPi) (relaxEndOf 5 2 (coletree 5 5 rxAcol) false)
    o.xsup = [0, 2, 4, 5] ∧ o.rows = [[0, 1, 4], [2, 3], [4]] ∧ o.ucols = [[], [], [], [], [0, 1, 2, 3]] := by
  rw [rx_tree]; decide +kernel
example : RelaxOk 5 (fun c => (rxAcol c).map rxPi) (relaxEndOf 5 2 (coletree 5 5 rxAcol) false) := rx_relaxOk

/-- the same through `sp_preorder`: `rxA` stores the five columns in the order 4,0,1,2,3 and `p = (4 0 1 2 3)`
puts them back; every hypothesis of `symbNaive_contains_factors_spPreorder` is decided, none is about the tree -/
def rxA : Pat := { m := 5, n := 5, colptr := #[0, 3, 5, 8, 10, 12], rowind := #[0, 2, 4, 0, 1, 0, 1, 4, 2, 3, 2, 3] }

example : (spPreorder rxA #[4, 0, 1, 2, 3] false).etree = #[1, 4, 3, 4, 5] ∧
    (spPreorder rxA #[4, 0, 1, 2, 3] false).permc = #[4, 0, 1, 2, 3] := by decide +kernel

example :
    let o := symbNaive 5 3 (fun c => (((spPreorder rxA #[4, 0, 1, 2, 3] false).view rxA).col c).map rxPi)
      (relaxEndOf 5 2 (spPreorder rxA #[4, 0, 1, 2, 3] false).etree false)
    ∀ j < 5,
      (∀ i < 5, rxL i j ≠ 0 → i ∈ (o.rows[o.supno[j]!]!).drop (j - o.xsup[o.supno[j]!]!)) ∧
      (∀ k < 5, rxU k j ≠ 0 → k ∈ o.ucols[j]! ∨ (o.xsup[o.supno[j]!]! ≤ k ∧ k ≤ j)) :=
  symbNaive_contains_factors_spPreorder rxA #[4, 0, 1, 2, 3] 3 2 rxB rxL rxU rxPi (by decide) (by decide) (by decide)
    (by decide +kernel) rx_isLU.prod rx_isLU.diag rx_isLU.lower rx_isLU.upper rx_isLU.piv

/-- the hypothesis "the tree is the column elimination tree of the factored columns" cannot be dropped: with
the rows of column 3 moved to `{0,3}` the SAME tree `#[1,4,3,4,5]` (heap ordered, postordered, same relaxed
supernodes) no longer has `ShareDesc` — columns 0 and 3 share row 0 but 3 is not an ancestor of 0 — and
`RelaxOk` fails: column 3 of the supernode `[2..3]` has an entry in pivot row 1 -/
def rxBad : Nat → List Nat
  | 3 => [0, 3]
  | c => rxAcol c
example : ¬ RelaxOk 5 (fun c => (rxBad c).map rxPi) (relaxEndOf 5 2 (coletree 5 5 rxAcol) false) := by
  intro h
  have := h 2 3 (by rw [rx_tree]; decide +kernel) 3 (by decide) (by decide) 1 (by decide)
  omega
example : ¬ ShareDesc 5 rxBad (coletree 5 5 rxAcol) := by
  intro h
  have hd := h 0 3 (by decide) (by decide) ⟨0, by decide, by decide⟩
  rw [desc_iff_mem_order (coletree_isHeap 5 5 rxAcol) (by decide), rx_tree] at hd
  revert hd
  decide +kernel

/-! ### SymmetricMode: `heap_relax_snode`

With `options.SymmetricMode = YES`, `sp_preorder` does not postorder: it returns the column elimination tree of
`A·Pc` exactly as `sp_coletree` computes it (`spPreorder A p true`, `spPreorder_sym_view`; the model is compared with sp_preorder.c on
every run and `spPreorder_perm` covers both settings) and `relax_end` comes from `heap_relax_snode`
(`relaxEndOf … true`).  The tree is still the COLUMN elimination tree of the factored columns — it is the
column ORDERING that SymmetricMode takes from `A + Aᵀ` (`get_perm_c`, MMD_AT_PLUS_A), not the tree — so
`ShareDesc` holds without any relabelling (`coletree_shareDesc`), and `heapRelaxSnode_subtrees` (Lemmas/HeapRelax.lean:
on ANY heap-ordered forest every recorded supernode is exactly a subtree) replaces `relaxSnode_subtrees` +
`spPreorder_subtrees`.  `relaxOk_of_subtrees` needs no postordered tree.  Hence the `_sym` theorems
below hold for EVERY pattern, every row permutation and every `relax`, with no symmetry hypothesis.

What would NOT hold is the same with the elimination tree of `A + Aᵀ` (`sp_symetree` of `at_plus_a`) in place
of the column elimination tree: that tree bounds the structure only when the pivots stay on the diagonal.
`relaxOk_symetree_fails` is a 3×3 pattern with an exact factorization under a row interchange in which a
relaxed supernode that is a whole subtree of the `A + Aᵀ` tree has an entry above itself;
`relaxOk_of_entryDesc` / `relaxOk_of_symetree_diag` is the version that does hold: rows in their original
numbering (pivots on the diagonal), any pattern — structurally symmetric or not — whose entries above the
diagonal are edges of the graph the tree was computed from. -/

/-- **C03 (`RelaxOk` from the column elimination tree, SymmetricMode).**  As `relaxOk_of_coletree`, for
`heap_relax_snode`, without the hypothesis that the tree is postordered. -/
theorem relaxOk_of_coletree_sym (nr n relax : Nat) (acol : Nat → List Nat) (π : Nat → Nat)
    (hrow : ∀ c, c < n → ∀ i ∈ acol c, i < nr)
    (hπ : ∀ i, i < nr → ∀ i', i' < nr → π i = π i' → i = i')
    (hpiv : ∀ t, t < n → RowFill n (fun c => (acol c).map π) t t) :
    RelaxOk n (fun c => (acol c).map π) (relaxEndOf n relax (coletree nr n acol) true) :=
  relaxOk_of_etree n relax _ _ true (coletree_isHeap nr n acol)
    ((coletree_shareDesc nr n acol hrow).map_rows nr hrow π hπ) nofun hpiv

theorem spPreorder_sym_view (A : Pat) (p : Array Nat) :
    (spPreorder A p true).view A = permView A p ∧
    (spPreorder A p true).etree = coletree A.m A.n (permView A p).col := ⟨rfl, rfl⟩

/-- **the tree `sp_preorder` returns in SymmetricMode fits the columns it returns** (no relabelling) -/
theorem shareDesc_spPreorder_sym (A : Pat) (p : Array Nat) (hrow : ∀ r ∈ A.rowind.toList, r < A.m) :
    ShareDesc A.n ((spPreorder A p true).view A).col (spPreorder A p true).etree :=
  coletree_shareDesc A.m A.n (permView A p).col fun _ _ r hr => hrow r (View.mem_col hr)

/-- **C03 (`RelaxOk`, real inputs, SymmetricMode).**  For every stored pattern `A` (row indices `< m`), every
column ordering `p` (not even required to be a permutation), every `relax`, every injective `π` (`perm_r`):
with the view and the tree `sp_preorder` returns in SymmetricMode, `relax_end = heap_relax_snode(etree)`
satisfies `RelaxOk` for `Pr·A·Pc`, provided every pivot row is structurally nonzero in its pivot column. -/
theorem relaxOk_of_spPreorder_sym (A : Pat) (p : Array Nat)
    (hrow : ∀ r ∈ A.rowind.toList, r < A.m) (relax : Nat) (π : Nat → Nat)
    (hπ : ∀ i, i < A.m → ∀ i', i' < A.m → π i = π i' → i = i')
    (hpiv : ∀ t, t < A.n → RowFill A.n (fun c => (((spPreorder A p true).view A).col c).map π) t t) :
    RelaxOk A.n (fun c => (((spPreorder A p true).view A).col c).map π)
      (relaxEndOf A.n relax (spPreorder A p true).etree true) :=
  relaxOk_of_etree A.n relax _ _ true (coletree_isHeap A.m A.n (permView A p).col)
    ((shareDesc_spPreorder_sym A p hrow).map_view A.m hrow π hπ) nofun hpiv

/-- **C03 (soundness of the predicted structure, real inputs of the symbolic phase, SymmetricMode).**
`symbNaive_contains_factors_spPreorder` for `SymmetricMode = YES`: the tree and the column view are what
`sp_preorder` returns without postordering, `relax_end` is computed by `heap_relax_snode`.  ANY pattern `A`
(no structural symmetry assumed), ANY column ordering, ANY injective row permutation `π` (the pivots need not
be on the diagonal), `B = Pr·A·Pc = L·U` exactly with nonzero pivots: every nonzero of `L(:,j)` and `U(:,j)`
lies in the predicted structure.  No hypothesis about the tree is left. -/
theorem symbNaive_contains_factors_spPreorder_sym {K : Type} [Field K] (A : Pat) (p : Array Nat)
    (maxsuper relax : Nat) (B L U : Nat → Nat → K) (π : Nat → Nat)
    (hrow : ∀ r ∈ A.rowind.toList, r < A.m)
    (hπ : ∀ i, i < A.m → ∀ i', i' < A.m → π i = π i' → i = i')
    (hcols : ∀ i < A.n, ∀ j < A.n, B i j ≠ 0 → i ∈ (((spPreorder A p true).view A).col j).map π)
    (hB : ∀ i < A.n, ∀ j < A.n, B i j = ∑ t ∈ Finset.range A.n, L i t * U t j)
    (hL1 : ∀ i < A.n, L i i = 1) (hL0 : ∀ i < A.n, ∀ t < A.n, i < t → L i t = 0)
    (hU0 : ∀ t < A.n, ∀ j < A.n, j < t → U t j = 0) (hUd : ∀ j < A.n, U j j ≠ 0) :
    let o := symbNaive A.n maxsuper (fun c => (((spPreorder A p true).view A).col c).map π)
      (relaxEndOf A.n relax (spPreorder A p true).etree true)
    ∀ j < A.n,
      (∀ i < A.n, L i j ≠ 0 → i ∈ (o.rows[o.supno[j]!]!).drop (j - o.xsup[o.supno[j]!]!)) ∧
      (∀ k < A.n, U k j ≠ 0 → k ∈ o.ucols[j]! ∨ (o.xsup[o.supno[j]!]! ≤ k ∧ k ≤ j)) :=
  symbNaive_contains_factors A.n maxsuper B L U _ _ hcols hB hL1 hL0 hU0 hUd
    (relaxOk_of_spPreorder_sym A p hrow relax π hπ (rowFill_diag_of_LU A.n B L U _ hcols ⟨hB, hL1, hL0, hU0, hUd⟩))

/-! non-vacuity (SymmetricMode): the matrix `rxB` with rows and columns 1,2,3 rotated (old 2,3,1), so that the
factors stay triangular: `syB = syL·syU`; `perm_r = (1 0 3 2 4)` as before.  Columns of `A·Pc` in original row
numbers: {1,2}, {0,3}, {0,3}, {1,2,4}, {2,3,4}.  Their column elimination tree `[3,2,4,4,5]` (0→3→4, 1→2→4) is
heap ordered and NOT postordered: the subtree of 3 is `{0,3}`.  `relax = 2`: the subtree `{1,2}` of 2 passes the
contiguity test and becomes the relaxed supernode `[1..2]`; the subtree `{0,3}` of 3 fails it, its leaf 0 is
recorded alone.  `syA` stores the five columns in the order 4,0,1,2,3 and `p = (4 0 1 2 3)` puts them back. -/
def syA : Pat := { m := 5, n := 5, colptr := #[0, 3, 5, 7, 9, 12], rowind := #[2, 3, 4, 1, 2, 0, 3, 0, 3, 1, 2, 4] }
def syB := rxMat [[1,0,0,1,0],[0,1,1,0,0],[0,1,2,0,1],[1,0,0,2,1],[0,0,0,1,2]]
def syL := rxMat [[1,0,0,0,0],[0,1,0,0,0],[0,1,1,0,0],[1,0,0,1,0],[0,0,0,1,1]]
def syU := rxMat [[1,0,0,1,0],[0,1,1,0,0],[0,0,1,0,1],[0,0,0,1,1],[0,0,0,0,1]]

theorem sy_tree : (spPreorder syA #[4, 0, 1, 2, 3] true).etree = #[3, 2, 4, 4, 5] := by decide +kernel
example : (spPreorder syA #[4, 0, 1, 2, 3] true).etree = #[3, 2, 4, 4, 5] := sy_tree
example : (List.range 5).map (relaxEndOf 5 2 (spPreorder syA #[4, 0, 1, 2, 3] true).etree true) =
    [some 0, some 2, none, none, none] := by rw [sy_tree]; decide +kernel
/-- the tree is not postordered: 1 and 2 lie between 0 and 3 and are no descendants of 3 -/
example : ¬ ∀ v < 5, ∃ lo, ∀ u < 5, Desc 5 (spPreorder syA #[4, 0, 1, 2, 3] true).etree u v ↔ lo ≤ u ∧ u ≤ v := by
  intro hp
  obtain ⟨lo, hlo⟩ := hp 3 (by decide)
  have hheap : Heap 5 (spPreorder syA #[4, 0, 1, 2, 3] true).etree := (coletree_isHeap _ _ _)
  have e3 : (spPreorder syA #[4, 0, 1, 2, 3] true).etree.getD 0 0 = 3 := by rw [sy_tree]; rfl
  have h1 : Desc 5 (spPreorder syA #[4, 0, 1, 2, 3] true).etree 0 3 :=
    Desc.step (by decide) (by rw [e3]; exact Desc.refl _)
  have h2 := (hlo 2 (by decide)).mpr ⟨by have := ((hlo 0 (by decide)).mp h1).1; omega, by decide⟩
  rw [desc_iff_mem_order hheap (by decide), sy_tree] at h2
  revert h2
  decide +kernel

/-- every hypothesis of `symbNaive_contains_factors_spPreorder_sym` is decided, none is about the tree … -/
example :
    let o := symbNaive 5 3 (fun c => (((spPreorder syA #[4, 0, 1, 2, 3] true).view syA).col c).map rxPi)
      (relaxEndOf 5 2 (spPreorder syA #[4, 0, 1, 2, 3] true).etree true)
    ∀ j < 5,
      (∀ i < 5, syL i j ≠ 0 → i ∈ (o.rows[o.supno[j]!]!).drop (j - o.xsup[o.supno[j]!]!)) ∧
      (∀ k < 5, syU k j ≠ 0 → k ∈ o.ucols[j]! ∨ (o.xsup[o.supno[j]!]! ≤ k ∧ k ≤ j)) :=
  symbNaive_contains_factors_spPreorder_sym syA #[4, 0, 1, 2, 3] 3 2 syB syL syU rxPi (by decide) (by decide)
    (by decide +kernel) (by decide +kernel) (by decide +kernel) (by decide +kernel) (by decide +kernel) (by decide +kernel)

/-- … and the prediction does contain the relaxed supernode `[1..2]` -/
example :
    let o := symbNaive 5 3 (fun c => (((spPreorder syA #[4, 0, 1, 2, 3] true).view syA).col c).map rxPi)
      (relaxEndOf 5 2 (spPreorder syA #[4, 0, 1, 2, 3] true).etree true)
    o.xsup = [0, 1, 3, 5] ∧ o.rows = [[0, 3], [1, 2], [3, 4]] ∧ o.ucols = [[], [], [], [0], [1, 2]] := by
  rw [sy_tree]; decide +kernel

/-! #### the elimination tree of `A + Aᵀ` instead of the column elimination tree

`exS`: columns {2}, {1,2}, {0,2} (original rows).  `A + Aᵀ` has the edges 0–2, 1–2, its elimination tree is
`[2,2,3]` (two leaves 0, 1 under the root 2) and with `relax = 1` heap_relax_snode records the two leaves as
supernodes `[0..0]`, `[1..1]` — each a whole subtree.  With the row permutation `perm_r = (2 1 0)` (row 2 is
the pivot row of column 0), `B = Pr·A = [[1,1,1],[0,1,0],[0,0,1]]` is unit upper triangular, so `B = I·B` is an
exact factorization with nonzero pivots.  Column 1 of the supernode `[1..1]` has the entry `B(0,1)` ABOVE the
supernode: `RelaxOk` is false.  (The column elimination tree of the same columns is the chain `[1,2,3]`, all
three columns share row 2, and there `[1..1]` is not recorded: `RelaxOk` holds, as `relaxOk_of_coletree_sym`
says.) -/
def exS : Pat := { m := 3, n := 3, colptr := #[0, 1, 3, 5], rowind := #[2, 1, 2, 0, 2] }
def exSPi : Nat → Nat := fun i => [2, 1, 0].getD i i

theorem exS_trees : symetree 3 (atPlusA exS).col = #[2, 2, 3] ∧ coletree 3 3 exS.col = #[1, 2, 3] := by decide +kernel
example : symetree 3 (atPlusA exS).col = #[2, 2, 3] ∧ coletree 3 3 exS.col = #[1, 2, 3] := exS_trees
example : (List.range 3).map (relaxEndOf 3 1 (symetree 3 (atPlusA exS).col) true) = [some 0, some 1, none] ∧
    (List.range 3).map (relaxEndOf 3 1 (coletree 3 3 exS.col) true) = [some 0, none, none] := by
  rw [exS_trees.1, exS_trees.2]; decide +kernel
/-- the supernode `[1..1]` IS a whole subtree of the tree of `A + Aᵀ` -/
example : ∀ u, u < 3 → (Desc 3 (symetree 3 (atPlusA exS).col) u 1 ↔ 1 ≤ u ∧ u ≤ 1) :=
  (relaxEndOf_subtrees 3 1 _ true (symetree_heap 3 _).2 nofun 1 1 (by rw [exS_trees.1]; decide +kernel)).2.2
/-- every pivot row of `B = Pr·A` is structurally nonzero in its pivot column (the diagonal of `B` is stored) -/
example : ∀ t, t < 3 → RowFill 3 (fun c => (exS.col c).map exSPi) t t := by
  intro t ht
  refine RowFill.orig ht ?_
  revert t
  decide
/-- **a whole subtree of the `A + Aᵀ` tree with an entry above itself**: column 1 has an entry in pivot row 0 -/
theorem relaxOk_symetree_fails :
    ¬ RelaxOk 3 (fun c => (exS.col c).map exSPi) (relaxEndOf 3 1 (symetree 3 (atPlusA exS).col) true) := by
  intro h
  have := h 1 1 (by rw [exS_trees.1]; decide +kernel) 1 (by decide) (by decide) 0 (by decide)
  omega
/-- with the column elimination tree of the same columns `RelaxOk` holds (derived, not evaluated) -/
example : RelaxOk 3 (fun c => (exS.col c).map exSPi) (relaxEndOf 3 1 (coletree 3 3 exS.col) true) :=
  relaxOk_of_coletree_sym 3 3 1 exS.col exSPi (by decide) (by decide)
    (fun t ht => RowFill.orig ht (by revert t; decide))

/-- **what does hold for the tree of `A + Aᵀ`: pivots on the diagonal.**  For EVERY pattern `A` (structurally
symmetric or not), rows in their own numbering (no row interchange), every `relax`: the supernodes that
heap_relax_snode records in the elimination tree of `A + Aᵀ` (`sp_symetree` of `at_plus_a`) have no entry
above themselves. -/
theorem relaxOk_of_symetree_diag (A : Pat) (relax : Nat) :
    RelaxOk A.n A.col (relaxEndOf A.n relax (symetree A.n (atPlusA A).col) true) :=
  relaxOk_of_entryDesc
    (entryDesc_symetree A.n (atPlusA A).col A.col fun c hc r hr hrc =>
      atPlusA_col A c hc ▸ (mem_apaCol ..).mpr ⟨by omega, Or.inl hr⟩)
    (relaxEndOf_subtrees A.n relax _ true (symetree_heap A.n _).2 nofun)

/-- hence, with pivots on the diagonal (`A = L·U` exactly, no row interchange), the prediction made with the
relaxed supernodes of the `A + Aᵀ` tree contains the factors — any pattern -/
theorem symbNaive_contains_factors_symetree_diag {K : Type} [Field K] (A : Pat) (maxsuper relax : Nat)
    (B L U : Nat → Nat → K)
    (hcols : ∀ i < A.n, ∀ j < A.n, B i j ≠ 0 → i ∈ A.col j)
    (hB : ∀ i < A.n, ∀ j < A.n, B i j = ∑ t ∈ Finset.range A.n, L i t * U t j)
    (hL1 : ∀ i < A.n, L i i = 1) (hL0 : ∀ i < A.n, ∀ t < A.n, i < t → L i t = 0)
    (hU0 : ∀ t < A.n, ∀ j < A.n, j < t → U t j = 0) (hUd : ∀ j < A.n, U j j ≠ 0) :
    let o := symbNaive A.n maxsuper A.col (relaxEndOf A.n relax (symetree A.n (atPlusA A).col) true)
    ∀ j < A.n,
      (∀ i < A.n, L i j ≠ 0 → i ∈ (o.rows[o.supno[j]!]!).drop (j - o.xsup[o.supno[j]!]!)) ∧
      (∀ k < A.n, U k j ≠ 0 → k ∈ o.ucols[j]! ∨ (o.xsup[o.supno[j]!]! ≤ k ∧ k ≤ j)) :=
  symbNaive_contains_factors A.n maxsuper B L U A.col _ hcols hB hL1 hL0 hU0 hUd (relaxOk_of_symetree_diag A relax)

/-- non-vacuity: on `exS` itself (unsymmetric) without the row interchange the statement applies -/
example : RelaxOk 3 exS.col (relaxEndOf 3 1 (symetree 3 (atPlusA exS).col) true) := relaxOk_of_symetree_diag exS 1

end Slu.Symb

/-! ## Array-level routines of the symbolic factorization (Slu/Model/SymbArrays.lean; family `symbarr`)

The three routines below are compared with the C code by DIRECT calls (family `symbarr`); the theorems hold for
all array contents satisfying the explicit decidable well-formedness predicates. -/
namespace Slu.SymbArr
open Slu Slu.Struct

/-- **dsnode_dfs.c**: the subscripts of the relaxed supernode `jcol..kcol` (first copy, `lsub[xlsub[jcol] ..)`) are
the rows of its columns in first-seen order; no duplicates. -/
theorem snodeDfs_nodup {jcol kcol : Nat} {asub xaB xaE : Array Nat} {marker : Array Int} {lsub xlsub xprune : Array Nat}
    (xsup : Array Nat) (supno : Array Int) (h : SnodeWf jcol kcol asub xaB xaE marker lsub xlsub xprune) :
    let o := snodeDfs jcol kcol asub xaB xaE xprune marker xsup supno lsub xlsub
    let len := (markerFilter (snodeRows jcol kcol asub xaB xaE) []).length
    (segList o.lsub (xlsub.getD jcol 0) len).Nodup := by
  intro o len
  exact (snodeDfs_main xsup supno h).seg.symm ▸ markerFilter_nodup _ _ List.nodup_nil

/-- **dsnode_dfs.c**: the stored list is the UNION of the row sets of columns `jcol..kcol`; when the supernode has more
than one column the second copy (`lsub[xlsub[kcol] .. xlsub[kcol+1])`, the one pruning works on) is identical to the
first; `xlsub`/`xprune` delimit exactly these lists; `nzlmax` is respected (nothing outside is written). -/
theorem snodeDfs_union {jcol kcol : Nat} {asub xaB xaE : Array Nat} {marker : Array Int} {lsub xlsub xprune : Array Nat}
    (xsup : Array Nat) (supno : Array Int) (h : SnodeWf jcol kcol asub xaB xaE marker lsub xlsub xprune) :
    let o := snodeDfs jcol kcol asub xaB xaE xprune marker xsup supno lsub xlsub
    let first := xlsub.getD jcol 0
    let len := (markerFilter (snodeRows jcol kcol asub xaB xaE) []).length
    let stop := first + (if jcol < kcol then 2 else 1) * len
    (∀ r, r ∈ segList o.lsub first len ↔ ∃ i, jcol ≤ i ∧ i ≤ kcol ∧ r ∈ colRows asub xaB xaE i) ∧
    (jcol < kcol → segList o.lsub (first + len) len = segList o.lsub first len) ∧
    (jcol < kcol → ∀ i, jcol < i → i ≤ kcol → o.xlsub.getD i 0 = first + len) ∧
    o.xlsub.getD (kcol+1) 0 = stop ∧ o.xprune.getD kcol 0 = stop ∧ stop ≤ lsub.size ∧ o.lsub.size = lsub.size ∧
    (∀ k, k < first ∨ stop ≤ k → o.lsub.getD k 0 = lsub.getD k 0) := by
  intro o first len stop
  have m := snodeDfs_main xsup supno h
  refine ⟨?_, fun hh => by rw [m.dup hh, m.seg], fun _ => m.xl_in, m.xl_end, m.xp, h.cap, m.size, m.frame⟩
  intro r
  rw [m.seg, markerFilter_complete]
  simp only [List.not_mem_nil, false_or, snodeRows, List.mem_flatMap, List.mem_range'_1]
  constructor
  · rintro ⟨i, ⟨h1, h2⟩, h3⟩; exact ⟨i, h1, by omega, h3⟩
  · rintro ⟨i, h1, h2, h3⟩; exact ⟨i, ⟨h1, by omega⟩, h3⟩

/-- the marker array afterwards: `marker[r] = kcol` exactly on the rows of the supernode, untouched elsewhere -/
theorem snodeDfs_marker {jcol kcol : Nat} {asub xaB xaE : Array Nat} {marker : Array Int} {lsub xlsub xprune : Array Nat}
    (xsup : Array Nat) (supno : Array Int) (h : SnodeWf jcol kcol asub xaB xaE marker lsub xlsub xprune) :
    let o := snodeDfs jcol kcol asub xaB xaE xprune marker xsup supno lsub xlsub
    let U := markerFilter (snodeRows jcol kcol asub xaB xaE) []
    (∀ r, r < marker.size → (o.marker.getD r EMPTY = (kcol : Int) ↔ r ∈ U)) ∧
    (∀ r, r ∉ U → o.marker.getD r EMPTY = marker.getD r EMPTY) :=
  ⟨(snodeDfs_main xsup supno h).mark, (snodeDfs_main xsup supno h).mark_else⟩

/-- **dsnode_dfs.c, supernode bookkeeping**: `supno[jcol..kcol+1]` all receive the new supernode number
`nsuper = supno[jcol] + 1`, `xsup[nsuper+1] = kcol+1`, nothing else in `supno`/`xsup` changes. -/
theorem snodeDfs_supno (jcol kcol : Nat) (asub xaB xaE xprune : Array Nat) (marker : Array Int)
    (xsup : Array Nat) (supno : Array Int) (lsub xlsub : Array Nat) (hle : jcol ≤ kcol) :
    let o := snodeDfs jcol kcol asub xaB xaE xprune marker xsup supno lsub xlsub
    let nsuper : Int := supno.getD jcol 0 + 1
    (∀ i, jcol ≤ i → i ≤ kcol + 1 → i < supno.size → o.supno.getD i 0 = nsuper) ∧
    (∀ i, i < jcol ∨ kcol + 1 < i → o.supno.getD i 0 = supno.getD i 0) ∧
    ((nsuper + 1).toNat < xsup.size → o.xsup.getD (nsuper + 1).toNat 0 = kcol + 1) ∧
    (∀ s, s ≠ (nsuper + 1).toNat → o.xsup.getD s 0 = xsup.getD s 0) := by
  intro o nsuper
  obtain ⟨_, _, _, _, e5, e6⟩ := snodeDfs_unfold jcol kcol asub xaB xaE xprune marker xsup supno lsub xlsub
  have hs : (snodeLoop jcol kcol asub xaB xaE marker supno lsub xlsub).supno =
      (List.range' jcol (kcol + 1 - jcol)).foldl (fun s i => s.setIfInBounds i nsuper) (supno.setIfInBounds jcol nsuper) :=
    congrArg SnodeSt.supno (snodeCols_eq kcol nsuper asub xaB xaE _ _)
  have e5' : o.supno = _ := e5
  have e6' : o.xsup = _ := e6
  refine ⟨?_, ?_, ?_, ?_⟩
  · intro i h1 h2 h3
    rw [e5', getD_setIfInBounds]
    by_cases hk : i = kcol + 1
    · subst hk; rw [if_pos ⟨rfl, by rw [hs, (foldl_setRange _ (0 : Int) _ _ _).1]; simpa using h3⟩]
    · rw [if_neg (fun hh => hk hh.1.symm), hs, (foldl_setRange _ _ _ _ _).2.1 i h1 (by omega) (by simpa using h3)]
  · intro i hi
    rw [e5', getD_setIfInBounds_ne _ _ _ (by omega), hs, (foldl_setRange _ _ _ _ _).2.2 i (by omega), getD_setIfInBounds_ne _ _ _ (by omega)]
  · intro hb; rw [e6', getD_setIfInBounds_self _ _ _ hb]
  · intro s hs'; rw [e6', getD_setIfInBounds_ne _ _ _ (Ne.symm hs')]

/-- a relaxed supernode of three columns (1..3) with overlapping rows, stored out of order in `asub` -/
example : SnodeWf 1 3 #[5,2, 0,4, 2,4,1, 1,3,5] #[2,0,4,7] #[4,2,7,10] #[-1,0,-1,0,-1,-1]
    #[9,9,9, 0,0,0,0,0, 0,0,0,0,0, 0] #[0,3,77,77,77] #[3,77,77,77] := by decide
example : (snodeDfs 1 3 #[5,2, 0,4, 2,4,1, 1,3,5] #[2,0,4,7] #[4,2,7,10] #[3,77,77,77] #[-1,0,-1,0,-1,-1] #[0,1,77,77,77] #[0,0,-1,-1,-1]
    #[9,9,9, 0,0,0,0,0, 0,0,0,0,0, 0] #[0,3,77,77,77]).lsub.toList = [9,9,9, 5,2,4,1,3, 5,2,4,1,3, 0] := by decide

/-- **dpruneL.c, one turn of the loop over `segrep`, ANY current state**: the subscripts are permuted by ONE
permutation `σ` that maps the segment `[xlsub[irep], xlsub[irep+1])` to itself and is the identity elsewhere (so the
pruned segment is a permutation of the original and nothing outside it changes); when the supernode has a single
column the values `lusup[xlusup[irep] + ·]` are permuted by THE SAME `σ` (each pair `(lsub[k], lusup[k])` is preserved),
otherwise `lusup` is untouched. -/
theorem pruneL_step_perm {K : Type} (z : K) (a : PruneArgs) (st : PruneSt K) (i : Nat)
    (h : PruneWf a st.lsub.size st.lusup.size st.xprune.size (a.segrep.getD i 0)) :
    let irep := a.segrep.getD i 0
    let lo := a.xlsub.getD irep 0
    let hi := a.xlsub.getD (irep+1) 0
    let xlu := a.xlusup.getD irep 0
    let o := pruneStep z a st i
    o.lsub.size = st.lsub.size ∧ o.lusup.size = st.lusup.size ∧ o.xprune.size = st.xprune.size ∧
    ∃ σ : Equiv.Perm ℕ, (∀ k, k < lo ∨ hi ≤ k → σ k = k) ∧ (∀ k, lo ≤ k → k < hi → lo ≤ σ k ∧ σ k < hi) ∧
      (∀ k, o.lsub.getD k 0 = st.lsub.getD (σ k) 0) ∧
      (movnumOf a irep = true → ∀ k, lo ≤ k → k < hi → o.lusup.getD (xlu + (k - lo)) z = st.lusup.getD (xlu + (σ k - lo)) z) ∧
      (movnumOf a irep = false → o.lusup = st.lusup) ∧
      (∀ q, q < xlu ∨ xlu + (hi - lo) ≤ q → o.lusup.getD q z = st.lusup.getD q z) := by
  have ok := pruneStep_ok z a st i h
  obtain ⟨σ, s1, s3, s4, _⟩ := ok.perm.perm
  exact ⟨ok.perm.size_ls, ok.perm.size_lu, ok.szX, σ, s1, perm_maps_seg s1, s3, s4, ok.perm.lu_same,
    fun q hq => ok.perm.lu_frame q (hq.imp_left fun hq => by rwa [Nat.sub_self])⟩

/-- **dpruneL.c, one turn, the cut**: when the turn partitions `irep` (`prunes`: the skip tests pass, not pruned yet,
pivot row present), afterwards `xprune[irep] = p` with `xlsub[irep] ≤ p ≤ xlsub[irep+1]`, EVERY entry of
`[xlsub[irep], p)` is a pivoted row and EVERY entry of `[p, xlsub[irep+1])` is not; a leading run of pivoted rows
(the diagonal block) stays in place; no other `xprune` entry changes.  Otherwise the state is unchanged.
The partition loop is run with fuel `hi - lo`; `pruneL_partition_terminates` shows the fuel is not what ends it. -/
theorem pruneL_step_cut {K : Type} (z : K) (a : PruneArgs) (st : PruneSt K) (i : Nat)
    (h : PruneWf a st.lsub.size st.lusup.size st.xprune.size (a.segrep.getD i 0)) :
    let irep := a.segrep.getD i 0
    let lo := a.xlsub.getD irep 0
    let hi := a.xlsub.getD (irep+1) 0
    let o := pruneStep z a st i
    (prunes a st irep = false → o = st) ∧
    (prunes a st irep = true →
      lo ≤ o.xprune.getD irep 0 ∧ o.xprune.getD irep 0 ≤ hi ∧
      (∀ k, lo ≤ k → k < o.xprune.getD irep 0 → pivoted a.permR (o.lsub.getD k 0) = true) ∧
      (∀ k, o.xprune.getD irep 0 ≤ k → k < hi → pivoted a.permR (o.lsub.getD k 0) = false) ∧
      (∀ e, (∀ k, lo ≤ k → k < e → pivoted a.permR (st.lsub.getD k 0) = true) → ∀ k, k < e → o.lsub.getD k 0 = st.lsub.getD k 0) ∧
      (∀ j, j ≠ irep → o.xprune.getD j 0 = st.xprune.getD j 0)) := by
  have ok := pruneStep_ok z a st i h
  obtain ⟨σ, _, s3, _, s5⟩ := ok.perm.perm
  exact ⟨ok.same, fun hp => ⟨(ok.cut hp).1, (ok.cut hp).2.1, (ok.cut hp).2.2.1, (ok.cut hp).2.2.2,
    fun e he k hk => by rw [s3, s5 e he k hk], ok.xprune⟩⟩

/-- **termination of the partition loop**: any larger fuel gives the same result, i.e. the `while (kmin <= kmax)`
loop of dpruneL.c:120-151 ends through its own test for all inputs (each turn shrinks `kmax - kmin`). -/
theorem pruneL_partition_terminates {K : Type} (z : K) (permR : Array Int) (movnum : Bool) (xlu xl lo hi g : Nat)
    (ls : Array Nat) (lu : Array K) :
    partLoop z permR movnum xlu xl (hi - lo + g) lo hi ls lu = partLoop z permR movnum xlu xl (hi - lo) lo hi ls lu :=
  partLoop_fuel_add z permR movnum xlu xl (hi - lo) g lo hi ls lu (le_refl _)

/-- **dpruneL.c, the whole call**: `lsub` afterwards is `lsub` before read through ONE permutation `σ` of the
positions, and `σ` is the identity on every position that lies in no segment `[xlsub[irep], xlsub[irep+1])` of a
listed representative: as a multiset `lsub` is unchanged and everything outside the processed segments is unchanged;
all sizes are kept.  (That `σ` maps each segment to itself is `pruneL_step_perm`, turn by turn.) -/
theorem pruneL_perm {K : Type} (z : K) (a : PruneArgs) (nseg : Nat) (st : PruneSt K)
    (hwf : ∀ i < nseg, PruneWf a st.lsub.size st.lusup.size st.xprune.size (a.segrep.getD i 0)) :
    let o := pruneL z a nseg st
    o.lsub.size = st.lsub.size ∧ o.lusup.size = st.lusup.size ∧ o.xprune.size = st.xprune.size ∧
    ∃ σ : Equiv.Perm ℕ, (∀ k, o.lsub.getD k 0 = st.lsub.getD (σ k) 0) ∧
      (∀ k, (∀ i < nseg, ¬ (a.xlsub.getD (a.segrep.getD i 0) 0 ≤ k ∧ k < a.xlsub.getD (a.segrep.getD i 0 + 1) 0)) → σ k = k) := by
  obtain ⟨a1, a2, a3, σ, s1, s2⟩ := pruneL_fold_inv z a (List.range nseg) st (fun i hi => hwf i (List.mem_range.1 hi))
  exact ⟨a1, a2, a3, σ, s1, fun k hk => s2 (· = k)
    (fun i hi => Or.inr fun k' h1 h2 e => hk i (List.mem_range.1 hi) (e ▸ ⟨h1, h2⟩)) k rfl⟩

/-- **dpruneL.c, the whole call, per list**: with `xlsub` monotone the permutation of `pruneL_perm` maps the list
`[xlsub[c], xlsub[c+1])` of EVERY column `c` to itself — after the call each column's list is a permutation of what it
was before the call. -/
theorem pruneL_segperm {K : Type} (z : K) (a : PruneArgs) (nseg : Nat) (st : PruneSt K)
    (hwf : ∀ i < nseg, PruneWf a st.lsub.size st.lusup.size st.xprune.size (a.segrep.getD i 0) ∧ a.segrep.getD i 0 + 1 < a.xlsub.size)
    (hmono : ∀ i j, i ≤ j → j < a.xlsub.size → a.xlsub.getD i 0 ≤ a.xlsub.getD j 0) :
    ∃ σ : Equiv.Perm ℕ, (∀ k, (pruneL z a nseg st).lsub.getD k 0 = st.lsub.getD (σ k) 0) ∧
      (∀ c, c + 1 < a.xlsub.size → ∀ k, a.xlsub.getD c 0 ≤ k → k < a.xlsub.getD (c+1) 0 →
        a.xlsub.getD c 0 ≤ σ k ∧ σ k < a.xlsub.getD (c+1) 0) := by
  obtain ⟨_, _, _, σ, s1, s2⟩ := pruneL_fold_inv z a (List.range nseg) st (fun i hi => (hwf i (List.mem_range.1 hi)).1)
  refine ⟨σ, s1, fun c hc k k1 k2 => s2 (fun k => a.xlsub.getD c 0 ≤ k ∧ k < a.xlsub.getD (c+1) 0) (fun i hi => ?_) k ⟨k1, k2⟩⟩
  by_cases hci : a.segrep.getD i 0 = c
  · exact Or.inl fun k h1 h2 => hci ▸ ⟨h1, h2⟩
  · exact Or.inr fun k h1 h2 hk => by
      have := seg_disjoint hmono (hwf i (List.mem_range.1 hi)).2 hc hci h1 h2; omega

/-- **link to `prune_preserves_reach` / `luFactor_pruned_dfs` (Props/C02.lean; proved in Lemmas/Prune.lean)**.  `rowOf` is the FINAL pivot
numbering; at the call the pivoted rows are exactly those numbered `≤ jcol`, and `pivrow` is number `jcol`.  When a
turn partitions `irep`, the rows left in `[xlsub[irep], xprune[irep])`, in pivot numbering, are exactly
`LU.pruneAdj p adj irep` for the cut `p irep = some jcol` of the full list `adj irep`, and `jcol ∈ adj irep` — the first
half of `LU.PruneOkAdj` / `Symb.PruneOk` (`struct irep jcol`: the pair is symmetric on the L side, checked by the
`do_prune` search).  What remains of `PruneOk` is the fill property of the pair, which `Symb.fillSym_colStruct` gives
for the symbolic structure whenever `irep` is in the U-structure of `jcol` (`irep ∈ segrep`, `repfnz[irep] ≠ EMPTY`:
the depth-first search's output, family `symb`/`lu` by correspondence). -/
theorem pruneL_cut_pruneAdj {K : Type} (z : K) (a : PruneArgs) (st : PruneSt K) (i : Nat) (rowOf : Nat → Nat)
    (h : PruneWf a st.lsub.size st.lusup.size st.xprune.size (a.segrep.getD i 0))
    (hpiv : ∀ r, pivoted a.permR r = true ↔ rowOf r ≤ a.jcol) (hpr : rowOf a.pivrow = a.jcol)
    (hp : prunes a st (a.segrep.getD i 0) = true) :
    let irep := a.segrep.getD i 0
    let lo := a.xlsub.getD irep 0
    let hi := a.xlsub.getD (irep+1) 0
    let o := pruneStep z a st i
    let adj : Nat → List Nat := fun _ => (segList st.lsub lo (hi - lo)).map rowOf
    let p : Nat → Option Nat := fun k => if k = irep then some a.jcol else none
    a.jcol ∈ adj irep ∧
    ∀ x, x ∈ (segList o.lsub lo (o.xprune.getD irep 0 - lo)).map rowOf ↔ x ∈ LU.pruneAdj p adj irep := by
  have ok := pruneStep_ok z a st i h
  obtain ⟨c1, c2, c3, c4⟩ := ok.cut hp
  obtain ⟨σ, s1, s3, _⟩ := ok.perm.perm
  have s2 := perm_maps_seg s1
  refine ⟨?_, fun x => ?_⟩
  · -- the `do_prune` search found the pivot row
    obtain ⟨k, hk, hk2⟩ := List.any_eq_true.mp (Bool.and_eq_true_iff.mp (Bool.and_eq_true_iff.mp hp).2).2
    rw [List.mem_range'_1] at hk
    exact (mem_segList_map ..).mpr ⟨k, hk.1, by omega, by rw [show st.lsub.getD k 0 = a.pivrow by simpa using hk2, hpr]⟩
  · rw [LU.mem_pruneAdj, mem_segList_map, mem_segList_map, if_pos rfl]
    constructor
    · rintro ⟨k, h1, h2, rfl⟩
      have hr := s2 k h1 (by omega)
      exact ⟨⟨σ k, hr.1, by omega, by rw [← s3]⟩, fun c hc => Option.some.inj hc ▸ (hpiv _).1 (c3 k h1 (by omega))⟩
    · rintro ⟨⟨k', h1, h2, rfl⟩, hle⟩
      -- `k' = σ k` with `k` in the segment, and `k` lies before the cut because its row is pivoted
      have hin := perm_maps_seg (σ := σ.symm) (fun k hk => σ.symm_apply_eq.2 (s1 k hk).symm) k' h1 (by omega)
      have hpv : pivoted a.permR ((pruneStep z a st i).lsub.getD (σ.symm k') 0) = true := by
        rw [s3, Equiv.apply_symm_apply]; exact (hpiv _).2 (hle _ rfl)
      refine ⟨σ.symm k', hin.1, ?_, by rw [s3, Equiv.apply_symm_apply]⟩
      by_contra hcon
      rw [c4 (σ.symm k') (by omega) hin.2] at hpv
      exact Bool.noConfusion hpv

/-- **dpruneL.c, the whole call, the cut**: with `xlsub` monotone (so the lists of different columns are disjoint),
(1) every cut that holds before the call holds after it, and (2) if turn `i` partitions its representative (the tests
of dpruneL.c:82-109 pass in the state reached after turns `0..i-1`), then AFTER THE CALL the list of `segrep[i]` is cut
at `xprune[segrep[i]]`: every entry before it is a pivoted row, every entry from it on is not. -/
theorem pruneL_cut {K : Type} (z : K) (a : PruneArgs) (nseg : Nat) (st : PruneSt K)
    (hwf : ∀ i < nseg, PruneWf a st.lsub.size st.lusup.size st.xprune.size (a.segrep.getD i 0) ∧ a.segrep.getD i 0 + 1 < a.xlsub.size)
    (hmono : ∀ i j, i ≤ j → j < a.xlsub.size → a.xlsub.getD i 0 ≤ a.xlsub.getD j 0) :
    (∀ c, c + 1 < a.xlsub.size → CutAt a st c → CutAt a (pruneL z a nseg st) c) ∧
    (∀ i, i < nseg → prunes a ((List.range i).foldl (pruneStep z a) st) (a.segrep.getD i 0) = true →
      CutAt a (pruneL z a nseg st) (a.segrep.getD i 0)) := by
  -- by induction on the number of turns made: every cut there was at the start or that a turn has made holds now
  suffices key : ∀ n, n ≤ nseg → (∀ c, c + 1 < a.xlsub.size → CutAt a st c → CutAt a ((List.range n).foldl (pruneStep z a) st) c) ∧
      ∀ i, i < n → prunes a ((List.range i).foldl (pruneStep z a) st) (a.segrep.getD i 0) = true →
        CutAt a ((List.range n).foldl (pruneStep z a) st) (a.segrep.getD i 0) from key nseg (le_refl _)
  intro n
  induction n with
  | zero => exact fun _ => ⟨fun _ _ h => h, nofun⟩
  | succ n ih =>
    intro hn
    obtain ⟨c1, c2⟩ := ih (Nat.le_of_succ_le hn)
    obtain ⟨y1, y2, y3, _⟩ := pruneL_fold_inv z a (List.range n) st fun j hj => (hwf j (by have := List.mem_range.1 hj; omega)).1
    have ok := pruneStep_ok z a ((List.range n).foldl (pruneStep z a) st) n (by rw [y1, y2, y3]; exact (hwf n hn).1)
    rw [foldl_range_succ]
    refine ⟨fun c hc h => ok.cutAt hmono (hwf n hn).2 hc (c1 c hc h), fun i hi hp => ?_⟩
    rcases Nat.lt_succ_iff_lt_or_eq.1 hi with hi | rfl
    · exact ok.cutAt hmono (hwf n hn).2 (hwf i (by omega)).2 (c2 i hi hp)
    · exact ok.cut hp

/-- a singleton supernode (column 0) whose list `[3,0,4,5,2]` is partitioned at column 3: rows 3,4,2 are pivoted -/
def exPruneArgs : PruneArgs := ⟨3, #[-1,2,1,0,3,-1], 4, #[0], #[0,-1,-1,-1], #[0,1,2,3,4], #[0,1,2,3,3], #[0,5,6,7,8], #[0,5,6,7,8]⟩
def exPruneSt : PruneSt Int := ⟨#[3,0,4,5,2, 2, 1, 4], #[10,11,12,13,14, 15, 16, 17], #[5,6,7,8]⟩
example : PruneWf exPruneArgs 8 8 4 0 := by decide
example : prunes exPruneArgs exPruneSt 0 = true := by decide
example : (pruneL (0 : Int) exPruneArgs 1 exPruneSt).lsub.toList = [3,2,4,5,0, 2, 1, 4] ∧
    (pruneL (0 : Int) exPruneArgs 1 exPruneSt).lusup.toList = [10,14,12,13,11, 15, 16, 17] ∧
    (pruneL (0 : Int) exPruneArgs 1 exPruneSt).xprune.toList = [3,6,7,8] := by decide

/-- the hypotheses of `pruneL_cut` on the example state: monotone `xlsub`, turn 0 partitions column 0 -/
example : (∀ i < 1, PruneWf exPruneArgs exPruneSt.lsub.size exPruneSt.lusup.size exPruneSt.xprune.size (exPruneArgs.segrep.getD i 0) ∧
    exPruneArgs.segrep.getD i 0 + 1 < exPruneArgs.xlsub.size) ∧
    (∀ i < 5, ∀ j < 5, i ≤ j → exPruneArgs.xlsub.getD i 0 ≤ exPruneArgs.xlsub.getD j 0) := by decide

/-- **dcopy_to_ucol.c**: with `R = ucolAllRows a` (the rows `lsub[isub ..]` of the kept segments — other supernode
than `jcol`'s, `repfnz ≠ EMPTY` — concatenated in the order `segrep[nseg-1], …, segrep[0]`) and `nextu0 = xusub[jcol]`:
`usub[nextu0 + t] = perm_r[R[t]]`, `ucol[nextu0 + t]` = the value `dense` held for row `R[t]` (zero if that row was
gathered before: never when the segments are disjoint, `R.Nodup`), `dense` is zero on `R` afterwards and unchanged
elsewhere, `usub`/`ucol` are unchanged outside `[nextu0, nextu0 + |R|)`, `xusub[jcol+1] = nextu0 + |R|` and no other
`xusub` entry changes.  With `perm_r` injective on `R` the U column has no repeated row. -/
theorem copyToUcol_spec {K : Type} (z : K) (a : UcolArgs) (xusub : Array Nat) (usub : Array Int) (ucol dense : Array K)
    (h : UcolWf a xusub usub.size ucol.size dense.size) :
    let R := ucolAllRows a
    let nextu0 := xusub.getD a.jcol 0
    let o := copyToUcol z a xusub usub ucol dense
    o.1.nextu = nextu0 + R.length ∧ o.2.getD (a.jcol+1) 0 = nextu0 + R.length ∧
    (∀ k, k ≠ a.jcol + 1 → o.2.getD k 0 = xusub.getD k 0) ∧
    (∀ t, t < R.length → o.1.usub.getD (nextu0 + t) 0 = a.permR.getD (R.getD t 0) EMPTY) ∧
    (∀ t, t < R.length → o.1.ucol.getD (nextu0 + t) z = if R.getD t 0 ∈ R.take t then z else dense.getD (R.getD t 0) z) ∧
    (R.Nodup → ∀ t, t < R.length → o.1.ucol.getD (nextu0 + t) z = dense.getD (R.getD t 0) z) ∧
    (∀ r, o.1.dense.getD r z = if r ∈ R then z else dense.getD r z) ∧
    (∀ k, k < nextu0 ∨ nextu0 + R.length ≤ k → o.1.usub.getD k 0 = usub.getD k 0 ∧ o.1.ucol.getD k z = ucol.getD k z) ∧
    o.1.usub.size = usub.size ∧ o.1.ucol.size = ucol.size ∧ o.1.dense.size = dense.size ∧
    (R.Nodup → (∀ r ∈ R, ∀ r' ∈ R, a.permR.getD r EMPTY = a.permR.getD r' EMPTY → r = r') →
      ((List.range R.length).map (fun t => o.1.usub.getD (nextu0 + t) 0)).Nodup) ∧
    (∀ bound : Int, (∀ r ∈ R, 0 ≤ a.permR.getD r EMPTY ∧ a.permR.getD r EMPTY < bound) →
      ∀ t, t < R.length → 0 ≤ o.1.usub.getD (nextu0 + t) 0 ∧ o.1.usub.getD (nextu0 + t) 0 < bound) := by
  intro R nextu0 o
  obtain ⟨inv, x1, x2⟩ := copyToUcol_inv z a xusub usub ucol dense h
  refine ⟨inv.nextu, x1, x2, inv.usub.seg, inv.ucol.seg, fun hnd t ht => ?_, R.take_length ▸ inv.dense,
    fun k hk => ⟨inv.usub.frame k hk, inv.ucol.frame k hk⟩, inv.usub.size, inv.ucol.size, inv.szD,
    fun hnd hinj => ?_, fun bound hb t ht => ?_⟩
  · -- `R[t]` heads `R.drop t`, which shares nothing with `R.take t`
    rw [inv.ucol.seg t ht, if_neg]
    intro hmem
    have hd : R.getD t 0 ∈ R.drop t := by rw [List.drop_eq_getElem_cons ht, list_getD_eq_getElem R t ht 0]; exact List.mem_cons_self
    exact (List.nodup_append.mp (by rwa [List.take_append_drop])).2.2 _ hmem _ hd rfl
  · have e : (List.range R.length).map (fun t => o.1.usub.getD (nextu0 + t) 0) = R.map (fun r => a.permR.getD r EMPTY) :=
      List.ext_getElem (by simp) fun t h1 _ => by
        have ht : t < R.length := by simpa using h1
        simp only [List.getElem_map, List.getElem_range]
        rw [inv.usub.seg t ht, list_getD_eq_getElem R t ht 0]
    rw [e]; exact hnd.map_on hinj
  · rw [inv.usub.seg t ht]; exact hb _ (list_getD_eq_getElem R t ht 0 ▸ List.getElem_mem ht)

/-- two segments (supernode 1 = columns 1..2, fragment of supernode 0), column 4 in its own supernode -/
def exUcolArgs : UcolArgs := ⟨4, 3, #[0, 3, 2], #[0, -1, 1, 3, -1], #[1, 3, 0, 2, -1, -1], #[0, 1, 3, 4, 5], #[0, 1, 1, 2, 3],
  #[2, 5, 0, 3, 4, 1, 4], #[0, 2, 5, 5, 7]⟩
example : UcolWf exUcolArgs #[0, 0, 1, 1, 2, 77] 7 7 6 := by decide
example : ucolAllRows exUcolArgs = [0, 3, 1, 2] := by decide
example : (copyToUcol (0 : Int) exUcolArgs #[0, 0, 1, 1, 2, 77] #[9, 9, 50, 51, 52, 53, 54] #[7, 7, 60, 61, 62, 63, 64] #[11, 12, 13, 14, 15, 16]).1.usub.toList
      = [9, 9, 1, 2, 3, 0, 54] ∧
    (copyToUcol (0 : Int) exUcolArgs #[0, 0, 1, 1, 2, 77] #[9, 9, 50, 51, 52, 53, 54] #[7, 7, 60, 61, 62, 63, 64] #[11, 12, 13, 14, 15, 16]).1.ucol.toList
      = [7, 7, 11, 14, 12, 13, 64] ∧
    (copyToUcol (0 : Int) exUcolArgs #[0, 0, 1, 1, 2, 77] #[9, 9, 50, 51, 52, 53, 54] #[7, 7, 60, 61, 62, 63, 64] #[11, 12, 13, 14, 15, 16]).1.dense.toList
      = [0, 0, 0, 0, 15, 16] ∧
    (copyToUcol (0 : Int) exUcolArgs #[0, 0, 1, 1, 2, 77] #[9, 9, 50, 51, 52, 53, 54] #[7, 7, 60, 61, 62, 63, 64] #[11, 12, 13, 14, 15, 16]).2.toList
      = [0, 0, 1, 1, 2, 6] := by decide

/-- `kfnz = repfnz[krep]` and `fsupc = xsup[supno[krep]]` of dcopy_to_ucol.c:77, 80, under names for `UcolLead` -/
def kfnzOf (a : UcolArgs) (krep : Nat) : Nat := (a.repfnz.getD krep EMPTY).toNat
def fsupcOf (a : UcolArgs) (krep : Nat) : Nat := a.xsup.getD (a.supno.getD krep 0).toNat 0

/-- what `copyToUcol` needs of the L structure and of the search (decidable): for every kept segment `kfnz..krep`,
`kfnz` lies in the supernode of `krep`, the supernode's list starts with its own pivot rows in column order
(`perm_r[lsub[xlsub[fsupc] + (c - fsupc)]] = c`: what `[sdcz]pivotL` maintains), and `krep` is a column before the
supernode of `jcol` -/
def UcolLead (a : UcolArgs) : Prop :=
  ∀ ksub ∈ List.range a.nseg, ucolKeeps a (a.segrep.getD (a.nseg - 1 - ksub) 0) = true →
    fsupcOf a (a.segrep.getD (a.nseg - 1 - ksub) 0) ≤ kfnzOf a (a.segrep.getD (a.nseg - 1 - ksub) 0) ∧
    kfnzOf a (a.segrep.getD (a.nseg - 1 - ksub) 0) ≤ a.segrep.getD (a.nseg - 1 - ksub) 0 ∧
    a.segrep.getD (a.nseg - 1 - ksub) 0 < a.xsup.getD (a.supno.getD a.jcol 0).toNat 0 ∧
    ∀ c ∈ List.range' (kfnzOf a (a.segrep.getD (a.nseg - 1 - ksub) 0))
        (a.segrep.getD (a.nseg - 1 - ksub) 0 + 1 - kfnzOf a (a.segrep.getD (a.nseg - 1 - ksub) 0)),
      a.permR.getD (a.lsub.getD (a.xlsub.getD (fsupcOf a (a.segrep.getD (a.nseg - 1 - ksub) 0)) 0 +
        (c - fsupcOf a (a.segrep.getD (a.nseg - 1 - ksub) 0))) 0) EMPTY = (c : Int)

instance (a : UcolArgs) : Decidable (UcolLead a) := by unfold UcolLead; infer_instance

/-- **the C03 clause "U holds only rows strictly above each column's supernode", at the array level**: under
`UcolLead` every row index written to `usub` for column `jcol` is a column number `c` with
`0 ≤ c < xsup[supno[jcol]]` -/
theorem copyToUcol_above {K : Type} (z : K) (a : UcolArgs) (xusub : Array Nat) (usub : Array Int) (ucol dense : Array K)
    (h : UcolWf a xusub usub.size ucol.size dense.size) (hl : UcolLead a) :
    ∀ t, t < (ucolAllRows a).length →
      0 ≤ (copyToUcol z a xusub usub ucol dense).1.usub.getD (xusub.getD a.jcol 0 + t) 0 ∧
      (copyToUcol z a xusub usub ucol dense).1.usub.getD (xusub.getD a.jcol 0 + t) 0 < (a.xsup.getD (a.supno.getD a.jcol 0).toNat 0 : Int) := by
  -- what is written is `perm_r` of the gathered rows: a bound on `perm_r` over them is a bound on it
  intro t ht
  rw [(copyToUcol_inv z a xusub usub ucol dense h).1.usub.seg t ht, ← List.getElem_eq_getD (h := ht)]
  obtain ⟨ksub, hk, hr⟩ := List.mem_flatMap.mp (List.getElem_mem ht)
  generalize (ucolAllRows a)[t] = r at hr ⊢
  have hg := hl ksub hk
  unfold kfnzOf fsupcOf at hg
  rw [ucolRows] at hr
  generalize a.segrep.getD (a.nseg - 1 - ksub) 0 = krep at hr hg
  generalize (a.repfnz.getD krep EMPTY).toNat = kfnz at hr hg
  generalize a.xsup.getD (a.supno.getD krep 0).toNat 0 = fsupc at hr hg
  split at hr
  · next hkeep =>
    -- row `t` of the segment is the pivot row of column `kfnz + t ≤ krep`, a column before the supernode of `jcol`
    obtain ⟨g1, g0, g2, g3⟩ := hg hkeep
    simp only [segList, List.mem_map, List.mem_range] at hr
    obtain ⟨t, ht, rfl⟩ := hr
    have := g3 (kfnz + t) (by rw [List.mem_range'_1]; omega)
    rw [show a.xlsub.getD fsupc 0 + (kfnz + t - fsupc) = a.xlsub.getD fsupc 0 + kfnz - fsupc + t by omega] at this
    rw [this]
    exact ⟨Int.natCast_nonneg _, by exact_mod_cast (by omega : kfnz + t < _)⟩
  · simp at hr

example : UcolLead exUcolArgs := by decide

end Slu.SymbArr

