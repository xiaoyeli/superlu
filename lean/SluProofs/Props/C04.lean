import SluProofs.Lemmas.LUInv
import SluProofs.Lemmas.Transversal
/-
C04 — Exact singularity is reported, never silently solved.

About `Slu.LU.luFactor` (exact arithmetic): a nonzero `info` is `j+1` for the FIRST column `j` whose
pivot candidates are all exactly zero (or absent); the columns before it form a valid factorization
(the full invariant of C02 holds for them); success implies a nonzero diagonal of U — both for
every threshold `0 ≤ u ≤ 1`, including `u = 0` (any nonzero diagonal accepted); and the
driver glue returns the right-hand side untouched without solving.

STRUCTURAL SINGULARITY (square case) is a theorem about the model: `luFactor_success_has_transversal` — `info = 0`
implies that some permutation `σ` of the rows has `A(σ j, j) ≠ 0` in every column (by the determinant,
Lemmas/Transversal.lean) — hence `structurally_singular_is_reported` / `structurally_singular_info`:
a matrix whose sparsity pattern has no transversal (`StructSingular`; in particular every Hall
violation, `structSingular_of_hall*`, `hall_violation_is_reported`: k columns whose entries lie in
fewer than k rows) returns `info = j+1` for a column `j < n`, whatever the values, the threshold in
[0, 1], the candidate order, the diagonal rows and the reuse state.  Over any field with `MagLaws`
(instances `Rat`, `Cx Rat`).  What stays tied by correspondence (family `lu`, classes with Hall
violations, empty and duplicate columns) is that the imperative code returns the model's `info`.
-/
namespace Slu.LU
open Slu

variable {K : Type} [Field K] [Mag K Rat]

/-- **C04 (the only possible values).** `info` is 0 or `j+1` for a column `j < n`. -/
theorem luFactor_info_range (laws : MagLaws K) (P : Params K Rat) (b : Bool) :
    (luFactor P b).info = 0 ∨ ∃ j < P.n, (luFactor P b).info = j + 1 ∧ (run P b j).info = 0 ∧
      run P b (j + 1) = luFactor P b := by
  by_cases h : (luFactor P b).info = 0
  · exact Or.inl h
  · obtain ⟨j, hf⟩ := luFactor_first_fail laws P b h
    exact Or.inr ⟨j, hf.lt, hf.info, hf.ok, hf.stop⟩

/-- **C04 (exactly when).** `info = j+1` iff the first `j` columns were factored without a zero pivot
and every pivot candidate of column `j` (after elimination by those columns) is exactly zero. -/
theorem luFactor_info_iff (laws : MagLaws K) (P : Params K Rat) (b : Bool) (j : Nat) (hj : j < P.n) :
    (luFactor P b).info = j + 1 ↔
      ((run P b j).info = 0 ∧ ∀ c ∈ stepCands P (run P b j) j, (Mag.abs1 c.2 : Rat) = 0) := by
  refine ⟨fun h => ?_, fun ⟨h0, hall⟩ => ?_⟩
  · have hf := luFactor_info_succ laws P b j h
    exact ⟨hf.ok, hf.zero⟩
  have hs := (step_info laws P (run P b j) j h0).2.mpr hall
  rw [← run_succ] at hs
  rw [luFactor_eq_run, run_stuck P b (j + 1) P.n (by omega) (by rw [hs]; omega)]
  exact hs

/-- **C04 (leading block).** When column `j` is reported, the pivots chosen before it form a valid
factorization of the first `j` columns: the whole C02 invariant (identity, unit lower L, nonzero
diagonal, distinct pivot rows, multiplier bounds) holds for them. -/
theorem luFactor_leading_block (laws : MagLaws K) (P : Params K Rat) (hu0 : 0 ≤ P.u) (hu1 : P.u ≤ 1)
    (hcol : ∀ j, (P.col j).size = P.m) (b : Bool) (j : Nat) (h : (luFactor P b).info = j + 1) :
    Inv P (run P b j) j :=
  run_inv laws P hu0 hu1 hcol b j (luFactor_info_succ laws P b j h).ok

/-- **C04 (success is never reported with a zero on U's diagonal).** -/
theorem luFactor_success_diag_nonzero (laws : MagLaws K) (P : Params K Rat) (hu0 : 0 ≤ P.u) (hu1 : P.u ≤ 1)
    (hcol : ∀ j, (P.col j).size = P.m) (b : Bool) (h : (luFactor P b).info = 0) (k : Nat) (hk : k < P.n) :
    ((luFactor P b).U.getD k #[]).getD k 0 ≠ 0 :=
  (run_inv laws P hu0 hu1 hcol b P.n h).udiag k hk

/-- the simple driver's glue (SRC/dgssv.c:225-231): factor, then solve only when `info = 0` -/
def gssvGlue (P : Params K Rat) (permC : Array Nat) (B : List (Vec K)) : Nat × List (Vec K) :=
  let st := luFactor P false
  if st.info ≠ 0 then (st.info, B) else (0, B.map (gstrsN st.piv st.L st.U permC))

theorem gssvGlue_eq (P : Params K Rat) (permC : Array Nat) (B : List (Vec K)) :
    gssvGlue P permC B = ((luFactor P false).info, if (luFactor P false).info = 0 then
      B.map (gstrsN (luFactor P false).piv (luFactor P false).L (luFactor P false).U permC) else B) := by
  unfold gssvGlue
  by_cases h : (luFactor P false).info = 0 <;> simp [h]

/-- **C04 (no solve, right-hand side untouched).** -/
theorem gssv_singular_B_untouched (P : Params K Rat) (permC : Array Nat) (B : List (Vec K))
    (h : (gssvGlue P permC B).1 ≠ 0) : (gssvGlue P permC B).2 = B := by
  rw [gssvGlue_eq] at h ⊢
  exact if_neg h

/-- **C04 (success needs a transversal).** Square case: the nonzero pattern of a matrix whose factorization succeeds has
a perfect matching.  Every threshold `0 ≤ u ≤ 1`, candidate order, reuse state. -/
theorem luFactor_success_has_transversal (laws : MagLaws K) (P : Params K Rat) (hu0 : 0 ≤ P.u) (hu1 : P.u ≤ 1)
    (hcol : ∀ j, (P.col j).size = P.m) (hsq : P.m = P.n) (b : Bool) (h : (luFactor P b).info = 0) :
    ∃ σ : Equiv.Perm (Fin P.n), ∀ j : Fin P.n, (P.col j).get (σ j) ≠ 0 :=
  inv_transversal P _ hsq (run_inv laws P hu0 hu1 hcol b P.n h)

theorem luFactor_success_has_transversal_legal (laws : MagLaws K) (P : Params K Rat) (hP : Legal P)
    (hsq : P.m = P.n) (b : Bool) (h : (luFactor P b).info = 0) :
    ∃ σ : Equiv.Perm (Fin P.n), ∀ j : Fin P.n, (P.col j).get (σ j) ≠ 0 :=
  luFactor_success_has_transversal laws P (le_of_lt hP.u_pos) hP.u_le_one hP.col_size hsq b h

/-- `pat j` lists the rows where column `j` MAY be nonzero (the sparsity pattern; explicit zeros are
allowed).  The pattern is structurally singular when it has no transversal: no permutation `σ` of
`0..n-1` with `σ j ∈ pat j` for every column `j` — so every matrix with that pattern is singular. -/
def StructSingular (n : Nat) (pat : Nat → List Nat) : Prop :=
  ¬ ∃ σ : Equiv.Perm (Fin n), ∀ j : Fin n, (σ j : Nat) ∈ pat j

theorem structSingular_of_hall (n : Nat) (pat : Nat → List Nat) (S T : Finset Nat)
    (hS : ∀ j ∈ S, j < n) (hT : ∀ j ∈ S, ∀ i ∈ pat j, i ∈ T) (hcard : T.card < S.card) :
    StructSingular n pat :=
  no_transversal_of_hall n (fun j i => i ∈ pat j) S T hS hT hcard

theorem structSingular_of_hall_union (n : Nat) (pat : Nat → List Nat) (S : Finset Nat)
    (hS : ∀ j ∈ S, j < n) (hcard : (S.biUnion fun j => (pat j).toFinset).card < S.card) :
    StructSingular n pat :=
  structSingular_of_hall n pat S _ hS
    (fun j hj _ hi => Finset.mem_biUnion.mpr ⟨j, hj, List.mem_toFinset.mpr hi⟩) hcard

theorem structSingular_of_hall_list (n : Nat) (pat : Nat → List Nat) (cols rows : List Nat)
    (hnd : cols.Nodup) (hS : ∀ j ∈ cols, j < n) (hT : ∀ j ∈ cols, ∀ i ∈ pat j, i ∈ rows)
    (hlen : rows.length < cols.length) : StructSingular n pat :=
  structSingular_of_hall n pat cols.toFinset rows.toFinset
    (fun j hj => hS j (List.mem_toFinset.mp hj))
    (fun j hj i hi => List.mem_toFinset.mpr (hT j (List.mem_toFinset.mp hj) i hi))
    (by rw [List.toFinset_card_of_nodup hnd]; exact lt_of_le_of_lt (List.toFinset_card_le rows) hlen)

/-- **C04 (every structurally singular matrix is reported).** Square case.  If the pattern `pat` has
no transversal and the values respect it (`A(i,j) ≠ 0 → i ∈ pat j`), the factorization returns
`info ≠ 0` — for every choice of values, every threshold `0 ≤ u ≤ 1`, every candidate order, every
remembered pivot sequence and reuse state `b`, every choice of diagonal rows. -/
theorem structurally_singular_is_reported (laws : MagLaws K) (P : Params K Rat) (hu0 : 0 ≤ P.u) (hu1 : P.u ≤ 1)
    (hcol : ∀ j, (P.col j).size = P.m) (hsq : P.m = P.n) (pat : Nat → List Nat)
    (hpat : ∀ j < P.n, ∀ i < P.n, (P.col j).get i ≠ 0 → i ∈ pat j)
    (hs : StructSingular P.n pat) (b : Bool) : (luFactor P b).info ≠ 0 := by
  intro h
  obtain ⟨σ, hσ⟩ := luFactor_success_has_transversal laws P hu0 hu1 hcol hsq b h
  exact hs ⟨σ, fun j => hpat j j.2 (σ j) (σ j).2 (hσ j)⟩

/-- **C04 (what is reported).** Then `info = j+1` for a column `j < n`: the first `j` columns were
factored without a zero pivot and every pivot candidate of column `j` is exactly zero. -/
theorem structurally_singular_info (laws : MagLaws K) (P : Params K Rat) (hu0 : 0 ≤ P.u) (hu1 : P.u ≤ 1)
    (hcol : ∀ j, (P.col j).size = P.m) (hsq : P.m = P.n) (pat : Nat → List Nat)
    (hpat : ∀ j < P.n, ∀ i < P.n, (P.col j).get i ≠ 0 → i ∈ pat j)
    (hs : StructSingular P.n pat) (b : Bool) :
    ∃ j < P.n, (luFactor P b).info = j + 1 ∧ (run P b j).info = 0 ∧
      ∀ c ∈ stepCands P (run P b j) j, (Mag.abs1 c.2 : Rat) = 0 := by
  obtain ⟨j, hf⟩ :=
    luFactor_first_fail laws P b (structurally_singular_is_reported laws P hu0 hu1 hcol hsq pat hpat hs b)
  exact ⟨j, hf.lt, hf.info, hf.ok, hf.zero⟩

/-- **C04 (Hall violation is reported).** `k` distinct columns whose nonzeros lie in fewer than `k`
rows: `info = j+1 > 0` for some column `j`. -/
theorem hall_violation_is_reported (laws : MagLaws K) (P : Params K Rat) (hu0 : 0 ≤ P.u) (hu1 : P.u ≤ 1)
    (hcol : ∀ j, (P.col j).size = P.m) (hsq : P.m = P.n) (cols rows : List Nat)
    (hnd : cols.Nodup) (hS : ∀ j ∈ cols, j < P.n)
    (hT : ∀ j ∈ cols, ∀ i < P.n, (P.col j).get i ≠ 0 → i ∈ rows)
    (hlen : rows.length < cols.length) (b : Bool) :
    ∃ j < P.n, (luFactor P b).info = j + 1 := by
  classical
  -- the numeric pattern itself
  let pat : Nat → List Nat := fun j => (List.range P.n).filter fun i => decide ((P.col j).get i ≠ 0)
  have hpat : ∀ j < P.n, ∀ i < P.n, (P.col j).get i ≠ 0 → i ∈ pat j := by
    intro j _ i hi hne
    simp only [pat, List.mem_filter, List.mem_range, decide_eq_true_eq]
    exact ⟨hi, hne⟩
  have hs : StructSingular P.n pat := by
    apply structSingular_of_hall_list P.n pat cols rows hnd hS _ hlen
    intro j hj i hi
    simp only [pat, List.mem_filter, List.mem_range, decide_eq_true_eq] at hi
    exact hT j hj i hi.1 hi.2
  obtain ⟨j, hj, h1, _⟩ := structurally_singular_info laws P hu0 hu1 hcol hsq pat hpat hs b
  exact ⟨j, hj, h1⟩

/-! non-vacuity: a matrix with two equal columns is reported at column 1 (info = 2), the first
column having been factored -/
def exSing : Params Rat Rat :=
  { m := 2, n := 2, col := fun _ => #[1, 2], u := 1, order := fun _ => [0, 1],
    oldPiv := fun _ => 0, diagRow := fun j => j }
example : (luFactor exSing false).info = 2 := by decide +kernel

/-! non-vacuity of the structural clauses.  A 3x3 matrix with a Hall violation (harness class
"hall"): columns 0 and 1 have their only entry in row 0, so two columns live in one row.  The model
reports column 1 (`info = 2`), and the theorems apply to it. -/
def exHallCols : Nat → Vec Rat
  | 0 => #[1, 0, 0]
  | 1 => #[2, 0, 0]
  | _ => #[1, 1, 1]

def exHall : Params Rat Rat :=
  { m := 3, n := 3, col := exHallCols, u := 1, order := fun _ => [0, 1, 2], oldPiv := fun _ => 0, diagRow := fun j => j }

def exHallPat : Nat → List Nat
  | 0 => [0]
  | 1 => [0]
  | _ => [0, 1, 2]

theorem exHall_col_size (j : Nat) : (exHall.col j).size = exHall.m := by
  match j with | 0 => rfl | 1 => rfl | (_ + 2) => rfl

theorem exHall_respects : ∀ j < exHall.n, ∀ i < exHall.n, (exHall.col j).get i ≠ 0 → i ∈ exHallPat j := by
  decide +kernel

/-- columns {0, 1} ⊆ rows {0}: a Hall violation -/
theorem exHall_structSingular : StructSingular 3 exHallPat :=
  structSingular_of_hall_list 3 exHallPat [0, 1] [0] (by decide) (by decide) (by decide) (by decide)

example : (luFactor exHall false).info = 2 := by decide +kernel
example : (luFactor exHall false).info ≠ 0 :=
  structurally_singular_is_reported magLaws_rat exHall (by decide) (by decide) exHall_col_size rfl
    exHallPat exHall_respects exHall_structSingular false
/-- whatever the threshold (here `u = 0`: any nonzero pivot accepted), the candidate order and the reuse state -/
def exHall' : Params Rat Rat :=
  { exHall with u := 0, order := fun _ => [2, 1, 0], oldPiv := fun j => 2 - j }
example : (luFactor exHall' true).info ≠ 0 :=
  structurally_singular_is_reported magLaws_rat exHall' (by decide) (by decide) exHall_col_size rfl
    exHallPat exHall_respects exHall_structSingular true
example : (luFactor exHall' true).info = 2 := by decide +kernel
example : ∃ j < 3, (luFactor exHall false).info = j + 1 :=
  hall_violation_is_reported magLaws_rat exHall (by decide) (by decide) exHall_col_size rfl [0, 1] [0]
    (by decide) (by decide) (by decide +kernel) (by decide) false
/-- the same pattern over the Gaussian rationals -/
example (P : Params (Cx Rat) Rat) (hu0 : 0 ≤ P.u) (hu1 : P.u ≤ 1) (hcol : ∀ j, (P.col j).size = P.m)
    (hm : P.m = 3) (hn : P.n = 3)
    (hpat : ∀ j < P.n, ∀ i < P.n, (P.col j).get i ≠ 0 → i ∈ exHallPat j) (b : Bool) :
    (luFactor P b).info ≠ 0 :=
  structurally_singular_is_reported magLaws_cx P hu0 hu1 hcol (by omega) exHallPat hpat
    (hn ▸ exHall_structSingular) b

/-! a nonsingular 3x3 matrix whose diagonal is NOT a transversal (`A(0,0) = 0`, row 0 has its only
entry in column 1): the factorization succeeds, the theorem yields a transversal, and one is
exhibited (rows 1, 0, 2 for columns 0, 1, 2: entries 2, 1, 5) -/
def exNSCols : Nat → Vec Rat
  | 0 => #[0, 2, 1]
  | 1 => #[1, 0, 3]
  | _ => #[0, 1, 5]

def exNS : Params Rat Rat :=
  { m := 3, n := 3, col := exNSCols, u := 1, order := fun _ => [0, 1, 2], oldPiv := fun _ => 0, diagRow := fun j => j }

theorem exNS_col_size (j : Nat) : (exNS.col j).size = exNS.m := by
  match j with | 0 => rfl | 1 => rfl | (_ + 2) => rfl

theorem exNS_info : (luFactor exNS false).info = 0 := by decide +kernel
/-- the pivot sequence itself (rows 1, 2, 0) is not the transversal: `A(0, 2) = 0` -/
example : (luFactor exNS false).piv = #[1, 2, 0] ∧ (exNS.col 2).get 0 = 0 := by decide +kernel
example : ∃ σ : Equiv.Perm (Fin 3), ∀ j : Fin 3, (exNS.col j).get (σ j) ≠ 0 :=
  luFactor_success_has_transversal magLaws_rat exNS (by decide) (by decide) exNS_col_size rfl false exNS_info
example : ∀ j : Fin 3, (exNS.col j).get ((Equiv.swap (0 : Fin 3) 1) j) ≠ 0 := by decide +kernel
/-- the identity is not a transversal of this matrix -/
example : ¬ ∀ j : Fin 3, (exNS.col j).get ((Equiv.refl (Fin 3)) j) ≠ 0 := by decide +kernel

end Slu.LU
