import Slu.Model.Gssvx
import Slu.Model.Refine
import SluProofs.Lemmas.Gssvx
import SluProofs.Lemmas.GssvxExact
import SluProofs.Lemmas.RefineResid
import SluProofs.Lemmas.RefineLoop
import SluProofs.Lemmas.Equil
import SluProofs.Lemmas.GssvxLU
/-
C05 — the expert driver `[sdcz]gssvx` solves `op(A) X = B` and changes A and B only as documented.

The theorems are about `Slu.Gssvx.gssvx`, the statement mirror of the driver's glue (compared bit for bit
with the C code on every run).  The mutation clauses hold in any arithmetic, in particular for the
floating-point instances that are executed; the solution clauses are exact, over every commutative ring
with the laws of `ScalarLaws` (`Rat` for real data, `Cx Rat` with the library's `zz_mult`, `zd_mult` and
conjugation for complex data).  The inner solver is first a parameter (`gssvx_solves`), then the LU model
`luFactor` / `gstrs` on `A_eq * Pc`, the matrix the driver hands to `gstrf` (`gssvx_solves_with_lu`), then
also the bit-mirror refinement loop (`gssvx_solves_with_lu_refine`).

Outside the exact statements: the column order (`get_perm_c`; every permutation is covered), the symbolic
and supernodal organisation of `gstrf` (C02/C03 tie it to `luFactor`), convergence and stopping rule of the
refinement in floating point (here it is a no-op on an exact solution), and rounding (Props/Rounding.lean).

Reading: `es` are the stored entries of A (SLU_NC) or of A' (SLU_NR); `opMul op es x i` is
`(op(stored matrix) x)_i`; `docOp o` is the documented operator in storage coordinates (SLU_NR:
`A x = (A')' x`, `A' x`, `A^H x = conj(A') x`); `cell M ld i j = M[i + j*ld]`.
-/
namespace Slu.Gssvx
open Slu Slu.Equil Slu.Lacon Slu.LU

section anyarith
variable {K R : Type} [Mag K R] [HasConj K] [Inhabited K]
variable [Zero R] [One R] [Mul R] [Div R] [LT R] [DecidableLT R] [LE R] [DecidableLE R] [BEq R]

/-- **C05 (A on exit).** In any arithmetic, A on exit is A on entry with every stored value replaced by
the C11 scaling `laqgsEntry` for the returned `equed`, `R`, `C`, whatever the factorization and the solve do. -/
theorem gssvx_A_out (d : Bool) (o : Opts) (M : Mach R) (n nrhs ldb ldx : Nat) (es : List (Entry K))
    (r0 c0 : Nat → R) (B X : Array K) (facOk : Bool) (inner : Trans → Array K → Array K) :
    let out := gssvx d o M n nrhs ldb ldx es r0 c0 B X facOk inner
    out.aout = es.map (laqgsEntry out.equed out.r out.c) ∧
    out.aout.length = es.length ∧
    ∀ k (hk : k < es.length), out.aout[k]? = some (
      match out.equed with
      | .N => es[k].val
      | .R => Mag.rscale es[k].val (out.r es[k].row)
      | .C => Mag.rscale es[k].val (out.c es[k].col)
      | .B => Mag.rscale es[k].val (out.c es[k].col * out.r es[k].row)) := by
  intro out
  have h : out.aout = es.map (laqgsEntry out.equed out.r out.c) := by
    simp only [out, gssvx_eq]
    exact equilStep_aout o.equil n es M r0 c0
  refine ⟨h, by rw [h, List.length_map], fun k hk => ?_⟩
  rw [h, List.getElem?_map, List.getElem?_eq_getElem hk, Option.map_some]
  cases out.equed <;> rfl

/-- **C05 (B on exit).** In any arithmetic: nothing outside the leading n rows of the nrhs columns is touched,
nothing at all when nothing is solved; otherwise the block is multiplied by `R` exactly when
`notran && rowequ`, by `C` exactly when `!notran && colequ` (`notran` AFTER the SLU_NR flip of
dgssvx.c:505-511). -/
theorem gssvx_B_out (d : Bool) (o : Opts) (M : Mach R) (n nrhs ldb ldx : Nat) (es : List (Entry K))
    (r0 c0 : Nat → R) (B X : Array K) (facOk : Bool) (inner : Trans → Array K → Array K)
    (hb : n ≤ ldb) (hB : ldb * nrhs ≤ B.size) :
    let out := gssvx d o M n nrhs ldb ldx es r0 c0 B X facOk inner
    let notran := (effTrans o.rowStored o.trans).2
    out.bout.size = B.size ∧
    (∀ k, ¬ (k % ldb < n ∧ k / ldb < nrhs) → out.bout[k]? = B[k]?) ∧
    ((facOk = false ∨ nrhs = 0) → out.bout = B) ∧
    (facOk = true → notran = true → Equed.rowequ out.equed = true →
      ∀ j < nrhs, ∀ i < n, cell out.bout ldb i j = Mag.rscale (cell B ldb i j) (out.r i)) ∧
    (facOk = true → notran = false → Equed.colequ out.equed = true →
      ∀ j < nrhs, ∀ i < n, cell out.bout ldb i j = Mag.rscale (cell B ldb i j) (out.c i)) ∧
    (notran = true → Equed.rowequ out.equed = false → out.bout = B) ∧
    (notran = false → Equed.colequ out.equed = false → out.bout = B) := by
  intro out notran
  simp only [out, notran, gssvx_eq]
  -- what follows holds whatever the equilibration returned and whichever array `notran` selects
  generalize equilStep o.equil n es M r0 c0 = e
  generalize (effTrans o.rowStored o.trans).2 = nt
  generalize hbo : (if facOk = false ∨ nrhs = 0 then B else scaleB nt e.equed n nrhs ldb B e.r e.c) = bout
  have hagree : AgreeOutside n nrhs ldb B bout := by
    rw [← hbo]; split
    · exact ⟨rfl, fun _ _ => rfl⟩
    · exact scaleB_agree ..
  -- inside the block: a solved column forces the second branch, and `scaleB` is a guarded scaling
  have hcell : facOk = true → ∀ j < nrhs, ∀ i < n, cell bout ldb i j =
      sclBy (if nt then Equed.rowequ e.equed else Equed.colequ e.equed) (if nt then e.r else e.c) i (cell B ldb i j) := by
    intro hf j hj i hi
    rw [← hbo, if_neg (solved_of_lt hf hj)]
    exact scaleB_cell n nrhs ldb B _ _ _ _ hi hb hj hB
  have hid : (if nt then Equed.rowequ e.equed else Equed.colequ e.equed) = false → bout = B := by
    intro h; rw [← hbo, scaleB_eq, h]; simp only [Bool.false_eq_true, if_false, ite_self]
  refine ⟨hagree.size, hagree.outside, fun h => by rw [← hbo, if_pos h], ?_, ?_, ?_, ?_⟩
  · intro hf hn hr j hj i hi; rw [hcell hf j hj i hi, sclBy]; simp only [hn, hr, if_true]
  · intro hf hn hc j hj i hi; rw [hcell hf j hj i hi, sclBy]; simp only [hn, hc, if_true, Bool.false_eq_true, if_false]
  · intro hn hr; exact hid (by simp only [hn, hr, if_true])
  · intro hn hc; exact hid (by simp only [hn, hc, Bool.false_eq_true, if_false])

/-- **C05 (X outside the solution block).** In any arithmetic: the rows beyond n of every column (ldx > n)
and every column beyond nrhs are never written, and X is not touched at all when nothing is solved
(singular factorization or nrhs = 0). -/
theorem gssvx_X_padding (d : Bool) (o : Opts) (M : Mach R) (n nrhs ldb ldx : Nat) (es : List (Entry K))
    (r0 c0 : Nat → R) (B X : Array K) (facOk : Bool) (inner : Trans → Array K → Array K) :
    let out := gssvx d o M n nrhs ldb ldx es r0 c0 B X facOk inner
    out.x.size = X.size ∧
    (∀ k, ¬ (k % ldx < n ∧ k / ldx < nrhs) → out.x[k]? = X[k]?) ∧
    ((facOk = false ∨ nrhs = 0) → out.x = X) := by
  intro out
  have hagree : AgreeOutside n nrhs ldx X out.x := by
    simp only [out, gssvx_eq]; split
    · exact ⟨rfl, fun _ _ => rfl⟩
    · rw [unscaleX_eq]
      exact ((copyMat_agree n nrhs ldx X ldb _).trans (setCols_agree n nrhs ldx _ _)).trans (scaleB_agree ..)
  exact ⟨hagree.size, hagree.outside, fun h => by simp only [out, gssvx_eq, if_pos h]⟩

/-- which array scales B, spelled out over storage and Trans (the SLU_NR flip): column storage uses
R for NOTRANS and C for TRANS/CONJ, row storage uses C for NOTRANS and R for TRANS/CONJ -/
theorem gssvx_B_factor_table (t : Trans) :
    (effTrans false t).2 = decide (t = .N) ∧ (effTrans true t).2 = decide (t ≠ .N) := by
  cases t <;> simp [effTrans]

/-- **C05 (Equil = NO is pure).** With a fresh factorization and Equil = NO the driver returns `equed = N`,
leaves R and C alone and changes neither a stored value of A nor an entry of B, in any arithmetic. -/
theorem gssvx_noequil_pure (d : Bool) (o : Opts) (M : Mach R) (n nrhs ldb ldx : Nat) (es : List (Entry K))
    (r0 c0 : Nat → R) (B X : Array K) (facOk : Bool) (inner : Trans → Array K → Array K)
    (h : o.equil = false) :
    let out := gssvx d o M n nrhs ldb ldx es r0 c0 B X facOk inner
    out.equed = .N ∧ out.aout = es.map (·.val) ∧ out.bout = B ∧ out.r = r0 ∧ out.c = c0 := by
  intro out
  simp only [out, gssvx_eq, h, equilStep_noequil, true_and, and_true]
  split
  · rfl
  · cases (effTrans o.rowStored o.trans).2 <;> rfl

end anyarith

/-- **C05 (positive scalings).** Whenever `equed` names the row (column) scaling, every `R[i]` (`C[j]`) the
driver returns lies in the safe range `[1/big, 1/sml]` (as in C11 `gsequ_range`): the scalings can be undone. -/
theorem equed_scalings_positive {K : Type} [Mag K Rat] (equil : Bool) (n : Nat) (es : List (Entry K))
    (M : Mach Rat) (r0 c0 : Nat → Rat) (h0 : 0 < M.sml) (h1 : M.sml ≤ M.big) :
    let e := equilStep equil n es M r0 c0
    (Equed.rowequ e.equed = true → ∀ i, 0 < e.r i ∧ 1 / M.big ≤ e.r i ∧ e.r i ≤ 1 / M.sml) ∧
    (Equed.colequ e.equed = true → ∀ j, 0 < e.c j ∧ 1 / M.big ≤ e.c j ∧ e.c j ≤ 1 / M.sml) := by
  intro e
  rcases equilStep_cases equil n es M r0 c0 with ⟨hq, _⟩ | ⟨hn, hinfo, hr, hc, _⟩
  · rw [show e.equed = .N from hq]
    exact ⟨fun h => Bool.noConfusion h, fun h => Bool.noConfusion h⟩
  · obtain ⟨g1, g2⟩ := gsequ_of_info0 hn hn hinfo
    rw [show e.r = _ from hr, show e.c = _ from hc, gsequ_ok hn hn g1 g2]
    exact ⟨fun _ _ => invClamp_range h0 h1 _, fun _ _ => invClamp_range h0 h1 _⟩

section exact
variable {K : Type} [CommRing K] [Mag K Rat] [HasConj K] [ScalarLaws K] [Inhabited K]

/-- correctness of the inner solver on the EQUILIBRATED matrix (the stored entries with the values
the equilibration step leaves behind), for the three operators `gstrs` knows -/
def InnerCorrect (n : Nat) (esEq : List (Entry K)) (inner : Trans → Array K → Array K) : Prop :=
  ∀ (tr : Trans) (b : Array K), b.size = n →
    (inner tr b).size = n ∧
    ∀ i < n, opMul (opOfTrans tr) esEq (fun k => (inner tr b).getD k default) i = b.getD i default

/-- whatever the storage and Trans, the solve the driver hands to a correct inner solver solves the
DOCUMENTED operator on the matrix the inner solver knows -/
theorem solveCol_correct (o : Opts) (n : Nat) (esEq : List (Entry K)) (hes : InRange n esEq)
    (inner : Trans → Array K → Array K) (hinner : InnerCorrect n esEq inner) (b : Array K) (hb : b.size = n) :
    (solveCol true o inner b).size = n ∧
    ∀ i < n, opMul (docOp o) esEq (fun k => (solveCol true o inner b).getD k default) i = b.getD i default := by
  by_cases hsp : o.rowStored = true ∧ o.trans = .C
  · -- SLU_NR with CONJ: `conj(S) y = b` is solved as `S conj(y) = conj(b)`
    have hy : solveCol true o inner b = (inner .N (b.map HasConj.conj)).map HasConj.conj := if_pos ⟨rfl, hsp⟩
    have hdoc : docOp o = .J := by rw [docOp, if_pos hsp.1, hsp.2]
    obtain ⟨hsz, heq⟩ := hinner .N (b.map HasConj.conj) (by rw [Array.size_map, hb])
    rw [hy, hdoc]
    refine ⟨by rw [Array.size_map, hsz], fun i hi => ?_⟩
    rw [opMul_J, opMul_congr .N n esEq hes _ (fun k => (inner .N (b.map HasConj.conj)).getD k default)
      (fun k hk => by rw [getD_map_of_lt _ _ k (hsz ▸ hk) default, ScalarLaws.conj_conj]) i]
    rw [show opMul .N esEq _ i = _ from heq i hi, getD_map_of_lt _ b i (hb ▸ hi) default, ScalarLaws.conj_conj]
  · have hy : solveCol true o inner b = inner (effTrans o.rowStored o.trans).1 b := if_neg (fun h => hsp h.2)
    rw [hy, docOp_eq_implOp o hsp]
    exact hinner _ b hb

/-- **C05 (solution).** If the inner solver (`gstrs`, plus `gsrfs` when refinement is on) is correct for the
equilibrated (and, for SLU_NR, transposed) matrix, the X returned by the driver solves the DOCUMENTED
system `op(A) X = B` for the caller's ORIGINAL A and B exactly, for every option set. -/
theorem gssvx_solves (o : Opts) (M : Mach Rat) (n nrhs ldb ldx : Nat) (es : List (Entry K))
    (r0 c0 : Nat → Rat) (B X : Array K) (inner : Trans → Array K → Array K)
    (h0 : 0 < M.sml) (h1 : M.sml ≤ M.big) (hes : InRange n es)
    (hb : n ≤ ldb) (hx : n ≤ ldx) (hB : ldb * nrhs ≤ B.size) (hX : ldx * nrhs ≤ X.size)
    (hinner : InnerCorrect n (eqEntries es (equilStep o.equil n es M r0 c0).aout) inner) :
    let out := gssvx true o M n nrhs ldb ldx es r0 c0 B X true inner
    ∀ j < nrhs, ∀ i < n, opMul (docOp o) es (fun k => cell out.x ldx k j) i = cell B ldb i j := by
  intro out j hj i hi
  obtain ⟨hbo, hxc⟩ := gssvx_X_col true o M n nrhs ldb ldx es r0 c0 B X inner hb hx hB hX j hj
  rw [notran_eq_rowLike] at hbo hxc
  -- the equilibrated matrix is `D_r A D_c`, `D_r` and `D_c` being R, C or the identity as `equed` says
  let e := equilStep o.equil n es M r0 c0
  let sr := rowFac e.equed e.r
  let sc := colFac e.equed e.c
  rw [equilStep_aout, eqEntries_laqgs] at hinner
  obtain ⟨hpr, hpc⟩ := equed_scalings_positive o.equil n es M r0 c0 h0 h1
  have hsr : ∀ k, sr k ≠ 0 := fac_ne_zero fun h k => (hpr h k).1
  have hsc : ∀ k, sc k ≠ 0 := fac_ne_zero fun h k => (hpc h k).1
  -- column `j`: the solver gets `D_out b_j` and its answer is scaled by `D_in`
  obtain ⟨hysz, hy⟩ := solveCol_correct o n _ (scaleEs_inRange sr sc es n hes) inner hinner
    (colOf n ldb out.bout j) (colOf_size n ldb out.bout j)
  have hsolve := scaled_solve (docOp o) sr sc es (fun k => (solveCol true o inner (colOf n ldb out.bout j)).getD k default)
    (cell B ldb i j) i (by split; exact hsr i; exact hsc i)
    (by rw [hy i hi, colOf_getD n ldb out.bout j i hi, hbo, scaleB_cell n nrhs ldb B _ _ _ _ hi hb hj hB, sclBy_exact]
        cases (docOp o).rowLike <;> rfl)
  rw [← hsolve]
  refine opMul_congr (docOp o) n es hes _ _ (fun k hk => ?_) i
  rw [hxc k hk, sclBy_exact, getD_eq_of_lt _ k (hysz.symm ▸ hk) _ default]
  cases (docOp o).rowLike <;> rfl

set_option linter.unusedSectionVars false in
/-- the statement mirror of the C code (`documented := false`) differs from the documented behaviour
only for SLU_NR with CONJ, where it solves the TRANSPOSED system `A' X = B` (operator `N` on the
stored A') instead of `A^H X = B` — the open finding recorded in known_findings.json.  On every other
combination the two models are the same function. -/
theorem gssvx_impl_eq_documented (o : Opts) (M : Mach Rat) (n nrhs ldb ldx : Nat) (es : List (Entry K))
    (r0 c0 : Nat → Rat) (B X : Array K) (facOk : Bool) (inner : Trans → Array K → Array K)
    (h : ¬ (o.rowStored = true ∧ o.trans = .C)) :
    gssvx false o M n nrhs ldb ldx es r0 c0 B X facOk inner = gssvx true o M n nrhs ldb ldx es r0 c0 B X facOk inner := by
  have hs : ∀ b, solveCol false o inner b = solveCol true o inner b := by
    intro b
    simp only [solveCol, Bool.false_eq_true, false_and, if_false, true_and]
    rw [if_neg h]
  simp only [gssvx_eq, hs]

omit [Mag K Rat] [ScalarLaws K] in
/-- **C05 (refinement, exact arithmetic).** If `gstrs` is correct and `gsrfs` returns an exact solution
unchanged, the assembled inner solver is correct for every IterRefine setting. -/
theorem innerOf_correct (n : Nat) (esEq : List (Entry K)) (refineOn : Bool)
    (gstrs : Trans → Array K → Array K) (gsrfs : Trans → Array K → Array K → Array K)
    (hg : InnerCorrect n esEq gstrs)
    (hr : ∀ tr b, b.size = n → gsrfs tr b (gstrs tr b) = gstrs tr b) :
    InnerCorrect n esEq (innerOf refineOn gstrs gsrfs) := by
  intro tr b hb
  have h := hg tr b hb
  cases refineOn
  · exact h
  · rw [← hr tr b hb] at h
    exact h

end exact

open Slu.Refine in
/-- **C05 (refinement is a no-op on an exact solution).** In any arithmetic record: if the residual
`[sdcz]gsrfs` forms for `x` is exactly zero, the solver maps the zero vector to the zero vector and adding
zero changes nothing, the loop returns `x` itself, however many passes its stopping rule makes. -/
theorem refine_noop_exact {K : Type} [Inhabited K] (Ar : Arith K Rat) (tr : Trans) (A : CSC K) (safmin eps : Rat)
    (solve : Array K → Array K) (b x : Array K)
    (hres : ∀ i, (resid Ar tr A x b).getD i Ar.kzero = Ar.kzero)
    (hlin : ∀ w : Array K, (∀ i, w.getD i Ar.kzero = Ar.kzero) → ∀ i, (solve w).getD i Ar.kzero = Ar.kzero)
    (hadd : ∀ v : K, Ar.add v Ar.kzero = v) :
    (∀ fuel lstres count, (refineLoop Ar tr A safmin eps solve b fuel x lstres count).1 = x) ∧
    (refineCol Ar tr A safmin eps solve b x).1 = x := by
  have hx' : refineNext Ar tr A solve b x = x := by
    apply Array.ext
    · rw [refineNext, Array.size_map, Array.size_range]
    · intro i h1 h2
      simp only [refineNext, Array.getElem_map, Array.getElem_range]
      rw [hlin _ hres i, hadd, Array.getD_eq_getD_getElem?, Array.getElem?_eq_getElem h2]; rfl
  have hloop : ∀ fuel lstres count, (refineLoop Ar tr A safmin eps solve b fuel x lstres count).1 = x :=
    fun fuel lstres count => (refineLoop_spec Ar tr A safmin eps solve b (fun x' _ => x' = x)
      (fun x' _ _ h _ => by rw [h]; exact hx') fuel x lstres count rfl).1
  exact ⟨hloop, hloop _ _ _⟩

open Slu.Refine in
/-- **C05 (refinement leaves a correct X unchanged, exact arithmetic).** For `[sdcz]gsrfs` run in exact
arithmetic (`ArithLaws`: `arithQ` on `Rat`, `arithQC` on `Cx Rat`): if `x` solves `op(A) x = b`, the residual
formed by `sp_gemv` is exactly zero (`resid_exact`), so the loop returns `x` itself. -/
theorem refine_noop_of_solution {K : Type} [CommRing K] [Inhabited K] [HasConj K] [Mag K Rat] [ScalarLaws K]
    (Ar : Arith K Rat) (laws : ArithLaws Ar) (tr : Trans) (A : CSC K) (safmin eps : Rat)
    (solve : Array K → Array K) (b x : Array K)
    (hsol : ∀ i < b.size, opMul (opOfTrans tr) (cscEntries A) (fun k => x.getD k 0) i = b.getD i 0)
    (hlin : ∀ w : Array K, (∀ i, w.getD i 0 = 0) → ∀ i, (solve w).getD i 0 = 0) :
    (refineCol Ar tr A safmin eps solve b x).1 = x := by
  refine (refine_noop_exact Ar tr A safmin eps solve b x ?_ ?_ ?_).2
  · intro i
    rw [laws.kzero]
    obtain ⟨hs, hv⟩ := resid_exact Ar laws tr A x b
    by_cases hi : i < b.size
    · rw [hv i hi, hsol i hi, sub_self]
    · have : ¬ i < (resid Ar tr A x b).size := by rw [hs]; exact hi
      simp [Array.getD_eq_getD_getElem?, Array.getElem?_eq_none (Nat.le_of_not_lt this)]
  · rw [laws.kzero]; exact hlin
  · intro v; rw [laws.add, laws.kzero, add_zero]

section lu
variable {K : Type} [Field K] [Mag K Rat] [HasConj K] [ScalarLaws K] [Inhabited K]

/-- **C05 (the LU model is a correct inner solver).**  If the factorization `luFactor` of `A_eq * Pc` (any
column permutation, threshold, candidate orders, pivot memory) reports `info = 0`, then
`gstrs(NOTRANS / TRANS / CONJ)` on its factors is a correct inner solver for `A_eq`. -/
theorem innerLU_correct (laws : MagLaws K) (n : Nat) (esEq : List (Entry K)) (hes : InRange n esEq)
    (permC : Array Nat) (hpc : permC.size = n)
    (hperm : ((List.range n).map fun c => permC.getD c 0).Perm (List.range n))
    (u : Rat) (hu0 : 0 < u) (hu1 : u ≤ 1) (order : Nat → List Nat) (oldPiv diagRow : Nat → Nat)
    (h : (luFactor (luParams n esEq permC u order oldPiv diagRow) false).info = 0) :
    InnerCorrect n esEq (innerLU n esEq permC u order oldPiv diagRow) := by
  intro tr b hb
  have inv : Inv (luParams n esEq permC u order oldPiv diagRow)
      (luFactor (luParams n esEq permC u order oldPiv diagRow) false) n := by
    rw [luFactor_eq_run] at h ⊢
    exact run_inv laws _ (le_of_lt hu0) hu1 (luParams_col_size n esEq permC u order oldPiv diagRow) false n h
  exact solveLU_correct n esEq hes permC u order oldPiv diagRow _ inv hpc hperm tr b hb

/-- the expert driver model with the LU model inside (specification level): equilibrate, factor
`A_eq * Pc` (`luFactor`, threshold pivoting), and when `info = 0` run the glue with
`gstrs = solveLU` on those factors and `gsrfs` (which sees the factors) when refinement is on.
Returns `(info, what the driver leaves behind)`. -/
def gssvxLU (o : Opts) (M : Mach Rat) (n nrhs ldb ldx : Nat) (es : List (Entry K))
    (r0 c0 : Nat → Rat) (B X : Array K) (permC : Array Nat) (u : Rat) (order : Nat → List Nat)
    (oldPiv diagRow : Nat → Nat) (gsrfs : St K → Trans → Array K → Array K → Array K) : Nat × Out K Rat :=
  let esEq := eqEntries es (equilStep o.equil n es M r0 c0).aout
  let st := luFactor (luParams n esEq permC u order oldPiv diagRow) false
  (st.info, gssvx true o M n nrhs ldb ldx es r0 c0 B X (st.info == 0)
    (innerOf o.refine (solveLU st permC) (gsrfs st)))

/-- **C05 (end to end, exact arithmetic).**  With the LU model as inner solver: if the factorization of the
equilibrated matrix reports `info = 0`, the returned X solves the DOCUMENTED system `op(A) X = B` for the
caller's ORIGINAL A and B exactly, for every option set.  The only hypothesis on `gsrfs` is that it returns
an exact solution of the equilibrated system unchanged. -/
theorem gssvx_solves_with_lu (laws : MagLaws K) (o : Opts) (M : Mach Rat) (n nrhs ldb ldx : Nat)
    (es : List (Entry K)) (r0 c0 : Nat → Rat) (B X : Array K)
    (h0 : 0 < M.sml) (h1 : M.sml ≤ M.big) (hes : InRange n es)
    (hb : n ≤ ldb) (hx : n ≤ ldx) (hB : ldb * nrhs ≤ B.size) (hX : ldx * nrhs ≤ X.size)
    (permC : Array Nat) (hpc : permC.size = n)
    (hperm : ((List.range n).map fun c => permC.getD c 0).Perm (List.range n))
    (u : Rat) (hu0 : 0 < u) (hu1 : u ≤ 1) (order : Nat → List Nat) (oldPiv diagRow : Nat → Nat)
    (gsrfs : St K → Trans → Array K → Array K → Array K)
    (hr : ∀ st tr (b x : Array K), b.size = n → x.size = n →
      (∀ i < n, opMul (opOfTrans tr) (eqEntries es (equilStep o.equil n es M r0 c0).aout)
        (fun k => x.getD k default) i = b.getD i default) → gsrfs st tr b x = x) :
    let res := gssvxLU o M n nrhs ldb ldx es r0 c0 B X permC u order oldPiv diagRow gsrfs
    res.1 = 0 →
    ∀ j < nrhs, ∀ i < n, opMul (docOp o) es (fun k => cell res.2.x ldx k j) i = cell B ldb i j := by
  intro res hinfo
  let esEq := eqEntries es (equilStep o.equil n es M r0 c0).aout
  let st := luFactor (luParams n esEq permC u order oldPiv diagRow) false
  have hinfo' : st.info = 0 := hinfo
  have hesEq : InRange n esEq := eqEntries_inRange n es _ hes
  have hlu : InnerCorrect n esEq (solveLU st permC) :=
    innerLU_correct laws n esEq hesEq permC hpc hperm u hu0 hu1 order oldPiv diagRow hinfo'
  have hinner : InnerCorrect n esEq (innerOf o.refine (solveLU st permC) (gsrfs st)) := by
    apply innerOf_correct n esEq o.refine _ _ hlu
    intro tr b hbs
    obtain ⟨hs, hsol⟩ := hlu tr b hbs
    exact hr st tr b _ hbs hs hsol
  have hx2 : res.2 = gssvx true o M n nrhs ldb ldx es r0 c0 B X true
      (innerOf o.refine (solveLU st permC) (gsrfs st)) := by
    show gssvx true o M n nrhs ldb ldx es r0 c0 B X (st.info == 0) _ = _
    rw [hinfo']; rfl
  rw [hx2]
  exact gssvx_solves o M n nrhs ldb ldx es r0 c0 B X _ h0 h1 hes hb hx hB hX hinner

set_option linter.unusedSectionVars false in
/-- **C05 (end to end: a failed factorization solves nothing).**  When the factorization of the
equilibrated matrix reports `info ≠ 0`, neither B nor X is touched (any `gsrfs`). -/
theorem gssvxLU_singular (o : Opts) (M : Mach Rat) (n nrhs ldb ldx : Nat)
    (es : List (Entry K)) (r0 c0 : Nat → Rat) (B X : Array K)
    (permC : Array Nat) (u : Rat) (order : Nat → List Nat) (oldPiv diagRow : Nat → Nat)
    (gsrfs : St K → Trans → Array K → Array K → Array K) :
    let res := gssvxLU o M n nrhs ldb ldx es r0 c0 B X permC u order oldPiv diagRow gsrfs
    res.1 ≠ 0 → res.2.x = X ∧ res.2.bout = B := by
  intro res hinfo
  have hf : (res.1 == 0) = false := beq_eq_false_iff_ne.mpr hinfo
  have hx2 : res.2 = gssvx true o M n nrhs ldb ldx es r0 c0 B X (res.1 == 0) _ := rfl
  rw [hx2, hf]
  exact ⟨rfl, rfl⟩

open Slu.Refine in
/-- **C05 (end to end with the modelled refinement loop).**  As `gssvx_solves_with_lu`, with `gsrfs` the
bit-mirror loop `Slu.Refine.refineCol` run in exact arithmetic on a compressed-column copy `Aeq` of the
equilibrated matrix, with `gstrs(trans)` on the LU factors as its solver: no hypothesis about refinement is
left. -/
theorem gssvx_solves_with_lu_refine (laws : MagLaws K) (Ar : Arith K Rat) (alaws : ArithLaws Ar)
    (o : Opts) (M : Mach Rat) (n nrhs ldb ldx : Nat)
    (es : List (Entry K)) (r0 c0 : Nat → Rat) (B X : Array K)
    (h0 : 0 < M.sml) (h1 : M.sml ≤ M.big) (hes : InRange n es)
    (hb : n ≤ ldb) (hx : n ≤ ldx) (hB : ldb * nrhs ≤ B.size) (hX : ldx * nrhs ≤ X.size)
    (permC : Array Nat) (hpc : permC.size = n)
    (hperm : ((List.range n).map fun c => permC.getD c 0).Perm (List.range n))
    (u : Rat) (hu0 : 0 < u) (hu1 : u ≤ 1) (order : Nat → List Nat) (oldPiv diagRow : Nat → Nat)
    (Aeq : CSC K) (hA : cscEntries Aeq = eqEntries es (equilStep o.equil n es M r0 c0).aout)
    (safmin eps : Rat) :
    let res := gssvxLU o M n nrhs ldb ldx es r0 c0 B X permC u order oldPiv diagRow
      (fun st tr b x => (refineCol Ar tr Aeq safmin eps (solveLU st permC tr) b x).1)
    res.1 = 0 →
    ∀ j < nrhs, ∀ i < n, opMul (docOp o) es (fun k => cell res.2.x ldx k j) i = cell B ldb i j := by
  apply gssvx_solves_with_lu laws o M n nrhs ldb ldx es r0 c0 B X h0 h1 hes hb hx hB hX permC hpc hperm
    u hu0 hu1 order oldPiv diagRow
  intro st tr b x hbs hxs hsol
  have hesEq : InRange n (eqEntries es (equilStep o.equil n es M r0 c0).aout) := eqEntries_inRange n es _ hes
  -- `InnerCorrect` reads arrays with `default`, the refinement lemmas with `0`: in range they agree
  apply refine_noop_of_solution Ar alaws tr Aeq safmin eps _ b x
  · intro i hi
    rw [hbs] at hi
    rw [hA, getD_eq_of_lt b i (by omega) 0 default, ← hsol i hi]
    apply opMul_congr _ n _ hesEq
    intro k hk
    exact getD_eq_of_lt x k (by omega) _ _
  · exact solveLU_zero st permC tr

end lu

section examples

def exM : Mach Rat := { sml := 1 / 1000000, big := 1000000, thresh := 1 / 10, small := 1 / 1000, large := 1000 }

/-- 1 x 1 real system `4 x = b`: the exact inner solver -/
def exInner : Trans → Array Rat → Array Rat := fun _ b => b.map (· / 4)

example : InnerCorrect 1 (eqEntries [⟨0, 0, (4 : Rat)⟩] (equilStep true 1 [⟨0, 0, (4 : Rat)⟩] exM (fun _ => 0) (fun _ => 0)).aout) exInner := by
  have h : (equilStep true 1 [⟨0, 0, (4 : Rat)⟩] exM (fun _ => 0) (fun _ => 0)).aout = [4] := by decide +kernel
  rw [h]
  intro tr b hb
  refine ⟨by simp [exInner, hb], ?_⟩
  intro i hi
  obtain rfl : i = 0 := by omega
  have h0 : 0 < b.size := by omega
  cases tr <;>
    simp [opMul, opTerm, eqEntries, opOfTrans, exInner, HasConj.conj, Array.getD_eq_getD_getElem?, Array.getElem?_eq_getElem h0] <;>
    ring

/-- 1 x 1 complex system `i x = b` (`A^H = -i`): the exact inner solver for N, T and C -/
def exInnerC : Trans → Array (Cx Rat) → Array (Cx Rat) := fun tr b =>
  b.map fun z => z * (match tr with | .C => (⟨0, 1⟩ : Cx Rat) | _ => ⟨0, -1⟩)

example : InnerCorrect 1 (eqEntries [⟨0, 0, (⟨0, 1⟩ : Cx Rat)⟩] (equilStep false 1 [⟨0, 0, (⟨0, 1⟩ : Cx Rat)⟩] exM (fun _ => 0) (fun _ => 0)).aout) exInnerC := by
  rw [equilStep_noequil]
  intro tr b hb
  refine ⟨by simp [exInnerC, hb], ?_⟩
  intro i hi
  obtain rfl : i = 0 := by omega
  have h0 : 0 < b.size := by omega
  cases tr <;>
    simp [opMul, opTerm, eqEntries, opOfTrans, exInnerC, HasConj.conj, Array.getD_eq_getD_getElem?, Array.getElem?_eq_getElem h0] <;>
    ext <;> simp

/-- a badly row-scaled 2 x 2 matrix (column-major storage): `equed = R`, `R = (1/2000, 1/4)` -/
def exEs : List (Entry Rat) := [⟨0, 0, 1000⟩, ⟨1, 0, 3⟩, ⟨0, 1, 2000⟩, ⟨1, 1, 4⟩]

example : (equilStep true 2 exEs exM (fun _ => 0) (fun _ => 0)).equed = .R := by decide +kernel
theorem exEs_aout : (equilStep true 2 exEs exM (fun _ => 0) (fun _ => 0)).aout = [1 / 2, 3 / 4, 1, 1] := by decide +kernel
example : (equilStep true 2 exEs exM (fun _ => 0) (fun _ => 0)).aout = [1 / 2, 3 / 4, 1, 1] := exEs_aout
/-- NOTRANS, column storage: B is multiplied by R; TRANS: `equed = R` leaves B alone -/
example : scaleB true .R 2 1 3 #[(8 : Rat), 8, 5] (fun i => if i = 0 then 1 / 2000 else 1 / 4) (fun _ => 7) = #[1 / 250, 2, 5] := by
  decide +kernel
example : scaleB false .R 2 1 3 #[(8 : Rat), 8, 5] (fun i => if i = 0 then 1 / 2000 else 1 / 4) (fun _ => 7) = #[8, 8, 5] := by
  decide +kernel
example : ArithLaws Slu.Refine.arithQ := arithQ_laws
example : ArithLaws Slu.Refine.arithQC := arithQC_laws
example : (0 : Rat) < exM.sml ∧ exM.sml ≤ exM.big := by decide +kernel
example : InRange 2 exEs := by unfold InRange; decide

end examples

section exLU
open Slu.Refine

/-- compressed-column copy of the equilibrated `exEs` (`equed = R`) -/
def exAeq : CSC Rat := { m := 2, n := 2, colptr := #[0, 2, 4], rowind := #[0, 1, 0, 1], val := #[1 / 2, 3 / 4, 1, 1] }
def exOrder : Nat → List Nat := fun _ => [0, 1]
def exGsrfs : St Rat → Trans → Array Rat → Array Rat → Array Rat :=
  fun st tr b x => (refineCol arithQ tr exAeq (1 / 1000000) (1 / 1000000) (solveLU st #[1, 0] tr) b x).1

theorem exAeq_entries : cscEntries exAeq = eqEntries exEs (equilStep true 2 exEs exM (fun _ => 0) (fun _ => 0)).aout := by
  rw [exEs_aout]; rfl
theorem exRunN_info : (gssvxLU ⟨.N, true, false, true⟩ exM 2 1 3 2 exEs (fun _ => 0) (fun _ => 0) #[5000, 11, 77] #[0, 0] #[1, 0] 1 exOrder (fun _ => 0) id exGsrfs).1 = 0 := by
  decide +kernel
example : (gssvxLU ⟨.N, true, false, true⟩ exM 2 1 3 2 exEs (fun _ => 0) (fun _ => 0) #[5000, 11, 77] #[0, 0] #[1, 0] 1 exOrder (fun _ => 0) id exGsrfs).1 = 0 :=
  exRunN_info
example : (gssvxLU ⟨.N, true, false, true⟩ exM 2 1 3 2 exEs (fun _ => 0) (fun _ => 0) #[5000, 11, 77] #[0, 0] #[1, 0] 1 exOrder (fun _ => 0) id exGsrfs).2.x = #[1, 2] := by
  decide +kernel
example : (gssvxLU ⟨.T, true, false, true⟩ exM 2 1 3 2 exEs (fun _ => 0) (fun _ => 0) #[1006, 2008, 77] #[0, 0] #[1, 0] 1 exOrder (fun _ => 0) id exGsrfs).2.x = #[1, 2] := by
  decide +kernel
example := gssvx_solves_with_lu_refine magLaws_rat arithQ arithQ_laws ⟨.N, true, false, true⟩ exM 2 1 3 2 exEs (fun _ => 0) (fun _ => 0)
  #[5000, 11, 77] #[0, 0] (by decide +kernel) (by decide +kernel) (by unfold InRange; decide)
  (by decide) (by decide) (by decide) (by decide) #[1, 0] rfl (by decide) 1 (by decide) (by decide) exOrder (fun _ => 0) id
  exAeq exAeq_entries (1 / 1000000) (1 / 1000000) exRunN_info

/-- complex data, SLU_NR storage (the stored matrix S is A'), Trans = CONJ (the documented system
`A^H x = conj(S) x = b`), column order `permC = [1, 0]`, refinement on: `x = (1, i)` -/
def exEsC : List (Entry (Cx Rat)) := [⟨0, 0, ⟨1, 1⟩⟩, ⟨1, 0, ⟨0, 1⟩⟩, ⟨0, 1, ⟨2, 0⟩⟩, ⟨1, 1, ⟨1, -1⟩⟩]
def exAC : CSC (Cx Rat) := { m := 2, n := 2, colptr := #[0, 2, 4], rowind := #[0, 1, 0, 1], val := #[⟨1, 1⟩, ⟨0, 1⟩, ⟨2, 0⟩, ⟨1, -1⟩] }
def exGsrfsC : St (Cx Rat) → Trans → Array (Cx Rat) → Array (Cx Rat) → Array (Cx Rat) :=
  fun st tr b x => (refineCol arithQC tr exAC (1 / 1000000) (1 / 1000000) (solveLU st #[1, 0] tr) b x).1
def exOC : Opts := ⟨.C, false, true, true⟩

theorem exAC_entries : cscEntries exAC = eqEntries exEsC (equilStep exOC.equil 2 exEsC exM (fun _ => 0) (fun _ => 0)).aout := by
  show _ = eqEntries exEsC (equilStep false 2 exEsC exM (fun _ => 0) (fun _ => 0)).aout
  rw [equilStep_noequil]; rfl

theorem exRunC_info : (gssvxLU exOC exM 2 1 2 2 exEsC (fun _ => 0) (fun _ => 0) #[⟨1, 1⟩, ⟨-1, 0⟩] #[0, 0] #[1, 0] (1 / 2) exOrder (fun _ => 0) id exGsrfsC).1 = 0 := by
  decide +kernel
example : (gssvxLU exOC exM 2 1 2 2 exEsC (fun _ => 0) (fun _ => 0) #[⟨1, 1⟩, ⟨-1, 0⟩] #[0, 0] #[1, 0] (1 / 2) exOrder (fun _ => 0) id exGsrfsC).1 = 0 :=
  exRunC_info
example : (gssvxLU exOC exM 2 1 2 2 exEsC (fun _ => 0) (fun _ => 0) #[⟨1, 1⟩, ⟨-1, 0⟩] #[0, 0] #[1, 0] (1 / 2) exOrder (fun _ => 0) id exGsrfsC).2.x = #[⟨1, 0⟩, ⟨0, 1⟩] := by
  decide +kernel
example := gssvx_solves_with_lu_refine magLaws_cx arithQC arithQC_laws exOC exM 2 1 2 2 exEsC (fun _ => 0) (fun _ => 0)
  #[⟨1, 1⟩, ⟨-1, 0⟩] #[0, 0] (by decide +kernel) (by decide +kernel) (by unfold InRange; decide)
  (by decide) (by decide) (by decide) (by decide) #[1, 0] rfl (by decide) (1 / 2) (by decide +kernel) (by decide +kernel) exOrder (fun _ => 0) id
  exAC exAC_entries (1 / 1000000) (1 / 1000000) exRunC_info
end exLU

end Slu.Gssvx
