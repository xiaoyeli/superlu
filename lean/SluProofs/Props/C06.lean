import SluProofs.Lemmas.History
-- `[HasConj K]` is in scope for `solveWith`; most statements below do not mention it
set_option linter.unusedSectionVars false
/-
C06 — Refactor / re-solve histories are as good as a fresh factorization.

Theorems about `Slu.History.stepCall` / `runHistory` (the expert driver's call histories over
Fact ∈ {DOFACT, SamePattern, SamePattern_SameRowPerm, FACTORED}), in exact arithmetic over an
arbitrary field `K` with a magnitude satisfying `MagLaws` (`K = Rat` is exercised below), for every
history length, every matrix, threshold `0 < u ≤ 1`, candidate order, Trans, every value of the
oracles (column ordering / etree of a DOFACT call, equilibration outcome `(equed, R, C)`), and —
for the factoring theorems — EVERY prior state: remembered pivots that are stale, fail the
threshold test, or are not even pivots of this pattern are all covered, because the LU invariant
`Slu.LU.Inv` is proved for arbitrary `(usepr, oldPiv)` (`run_inv`).
-/
namespace Slu.History
open Slu Slu.LU

variable {K : Type} [Field K] [Mag K Rat] [HasConj K]

/-- **C06 (a reuse call is a factorization of ITS matrix).**  After any factoring call — fresh,
ordering reused, or ordering + pivots + storage reused — from any prior state, the factor state is
exactly `luFactor` of that call's own problem: its matrix `diag(R) A diag(C)` in the column order in
force, with the reuse flag and the remembered pivots of the prior state as parameters.  Every theorem
of C02 and C04 (`luFactor_identity`, `luFactor_unit_lower`, `luFactor_diag_nonzero`,
`luFactor_pivots_injective`, `luFactor_multiplier_bound`, `luFactor_info_iff`, …), being stated for all
reuse flags and all remembered pivots, therefore applies verbatim. -/
theorem factoring_call_is_luFactor (s : DriverState K Rat) (c : Call K Rat) (hf : c.fact ≠ .FACTORED) :
    (stepCall s c).1.fac = luFactor (paramsOf s c) (c.fact == .SamePattern_SameRowPerm) ∧
    (stepCall s c).1.P = paramsOf s c ∧
    (stepCall s c).2.info = (luFactor (paramsOf s c) (c.fact == .SamePattern_SameRowPerm)).info ∧
    ∀ j i jc, jc = (invPerm (callPermC s c)).getD j 0 → i < (c.A jc).size →
      ((paramsOf s c).col j).get i = scaleEntry c.equed c.Rs c.Cs i jc ((c.A jc).get i) := by
  rw [stepCall_factor_state s c hf]
  exact ⟨factorCall_fac s c, factorCall_P s c, stepCall_factor_info s c hf, fun j i jc h1 h2 => paramsOf_col_get s c j i jc h1 h2⟩

/-- **C06 (established from any prior state).**  A factoring call that returns `info = 0` leaves a
state that holds a factorization satisfying the full C02 invariant for that call's matrix —
whatever the prior state was (no hypothesis on `s`). -/
theorem factoring_step_establishes_inv (laws : MagLaws K) (s : DriverState K Rat) (c : Call K Rat)
    (hf : c.fact ≠ .FACTORED) (hok : CallOK c) (h0 : (stepCall s c).2.info = 0) :
    (stepCall s c).1.factored = true ∧ (stepCall s c).1.P = paramsOf s c ∧
    Inv (paramsOf s c) (stepCall s c).1.fac c.n := by
  have hinfo : (factorCall s c).fac.info = 0 := by rw [← stepCall_factor_info s c hf]; exact h0
  rw [stepCall_factor_state s c hf]
  have hfd : (factorCall s c).factored = true := (factorCall_factored s c).mpr hinfo
  exact ⟨hfd, rfl, (factorCall_inv laws s c hok).inv hfd⟩

/-- **C06 (one step).**  Every call — factoring with any Fact value, or FACTORED —
leaves a state satisfying the history invariant; factoring calls need no invariant of the prior
state at all. -/
theorem history_inv (laws : MagLaws K) (s : DriverState K Rat) (c : Call K Rat)
    (hok : c.fact ≠ .FACTORED → CallOK c) (h : HInv s) : HInv (stepCall s c).1 := by
  by_cases hf : c.fact = .FACTORED
  · rw [stepCall_factored s c hf]; exact h
  · rw [stepCall_factor_state s c hf]; exact factorCall_inv laws s c (hok hf)

/-- **C06 (re-solving never alters the factors).**  A FACTORED call returns the state it was given:
L, U, the pivots (`perm_r`), `perm_c`, etree, `equed`, `R`, `C` are all unchanged, and its output is
the solve phase applied with exactly those factors. -/
theorem factored_step_preserves_factors (s : DriverState K Rat) (c : Call K Rat) (hf : c.fact = .FACTORED) :
    (stepCall s c).1 = s ∧
    (stepCall s c).1.fac.L = s.fac.L ∧ (stepCall s c).1.fac.U = s.fac.U ∧ (stepCall s c).1.fac.piv = s.fac.piv ∧
    (stepCall s c).1.permC = s.permC ∧ (stepCall s c).1.etree = s.etree ∧
    (stepCall s c).1.equed = s.equed ∧ (stepCall s c).1.Rs = s.Rs ∧ (stepCall s c).1.Cs = s.Cs ∧
    (stepCall s c).2.info = 0 ∧ (stepCall s c).2.X = c.B.map (solveWith s c.trans) := by
  rw [stepCall_factored s c hf]
  exact ⟨rfl, rfl, rfl, rfl, rfl, rfl, rfl, rfl, rfl, rfl, rfl⟩

/-- any number of re-solves, under any Trans, leaves the state untouched -/
theorem resolves_preserve_state (s : DriverState K Rat) (cs : List (Call K Rat)) (h : ∀ c ∈ cs, c.fact = .FACTORED) :
    (runHistory s cs).1 = s := by
  induction cs generalizing s with
  | nil => rfl
  | cons c cs ih =>
    rw [runHistory_cons, (factored_step_preserves_factors s c (h c List.mem_cons_self)).1]
    exact ih s (fun c' hc' => h c' (List.mem_cons_of_mem _ hc'))

/-- **C06 (a re-solve is as good as the solve of the factoring call).**  After a successful factoring
call `c`, any number of re-solves later, a FACTORED call with right-hand sides `B` and `Trans = t`
returns exactly what `c` itself would have returned for that `B` and `t`: re-solving loses nothing. -/
theorem resolve_equals_solve_at_factor_time (s : DriverState K Rat) (c : Call K Rat) (hc : c.fact ≠ .FACTORED)
    (hinfo : (stepCall s c).2.info = 0) (mid : List (Call K Rat)) (hmid : ∀ c' ∈ mid, c'.fact = .FACTORED)
    (r : Call K Rat) (hr : r.fact = .FACTORED) :
    (stepCall (runHistory (stepCall s c).1 mid).1 r).2.X =
      (stepCall s { c with B := r.B, trans := r.trans }).2.X := by
  rw [resolves_preserve_state _ mid hmid, stepCall_factored _ r hr]
  -- the call with `r`'s right-hand sides factors the same matrix from the same state
  have hsame : factorCall s { c with B := r.B, trans := r.trans } = factorCall s c := rfl
  obtain ⟨h1, h2, -, h4, -⟩ := (stepCall_outSpec s { c with B := r.B, trans := r.trans }).2 hc
  rw [h1, hsame] at h2 h4
  rw [h4 (h2.trans ((stepCall_factor_info s c hc).symm.trans hinfo)), stepCall_factor_state s c hc]

/-- **C06 (whole histories).**  For every history (any length, any order of Fact values) whose factoring calls are
legal, started in a state satisfying the invariant (e.g. `init`): the invariant holds after every call and at the end,
and every call's output is as `OutSpec` says. -/
theorem history_all (laws : MagLaws K) (s0 : DriverState K Rat) (cs : List (Call K Rat))
    (h0 : HInv s0) (hok : ∀ c ∈ cs, c.fact ≠ .FACTORED → CallOK c) :
    HInv (runHistory s0 cs).1 ∧
    ∀ e ∈ trace s0 cs, HInv e.2.2.1 ∧ OutSpec e.1 e.2.1 e.2.2.1 e.2.2.2 := by
  induction cs generalizing s0 with
  | nil => exact ⟨h0, fun e he => by simp [trace] at he⟩
  | cons c cs ih =>
    have h1 : HInv (stepCall s0 c).1 := history_inv laws s0 c (hok c List.mem_cons_self) h0
    obtain ⟨ha, hb⟩ := ih (stepCall s0 c).1 h1 (fun c' hc' => hok c' (List.mem_cons_of_mem _ hc'))
    refine ⟨by rw [runHistory_cons]; exact ha, ?_⟩
    intro e he
    simp only [trace, List.mem_cons] at he
    rcases he with rfl | he
    · exact ⟨h1, stepCall_outSpec s0 c⟩
    · exact hb e he

/-- it claims no factorization -/
theorem init_inv : HInv (init : DriverState K Rat) := by
  intro h; simp [init] at h

/-- **C06 (the state at the end belongs to the LAST factoring call).**  If a history ends with a
factoring call `c` followed only by re-solves, the final state is `factorCall` of `c` applied to the
state reached before it: its factors are `luFactor` of `c`'s matrix, not of any earlier one. -/
theorem history_last_factoring (s0 : DriverState K Rat) (pre post : List (Call K Rat)) (c : Call K Rat)
    (hc : c.fact ≠ .FACTORED) (hpost : ∀ c' ∈ post, c'.fact = .FACTORED) :
    (runHistory s0 (pre ++ c :: post)).1 = factorCall (runHistory s0 pre).1 c := by
  rw [runHistory_append, runHistory_cons, resolves_preserve_state _ post hpost, stepCall_factor_state _ c hc]

/-- **C06 (identity at the end of any history).**  After any legal history that ends with a successful
factoring call `c` followed by re-solves, `(Pr A Pc)(i,j) = Σ_{k ≤ j} L(i,k) U(k,j)` holds for `c`'s
matrix (equilibrated, in the column order in force) and the factors in the final state — exactly as for
a fresh factorization of that matrix. -/
theorem history_identity (laws : MagLaws K) (s0 : DriverState K Rat) (pre post : List (Call K Rat)) (c : Call K Rat)
    (hc : c.fact ≠ .FACTORED) (hok : CallOK c) (hpost : ∀ c' ∈ post, c'.fact = .FACTORED)
    (hinfo : (factorCall (runHistory s0 pre).1 c).fac.info = 0)
    (j : Nat) (hj : j < c.n) (i : Nat) (hi : i < c.n) :
    ((paramsOf (runHistory s0 pre).1 c).col j).get i =
      ((List.range (j + 1)).map fun k =>
        ((runHistory s0 (pre ++ c :: post)).1.fac.U.getD j #[]).getD k 0 *
        ((runHistory s0 (pre ++ c :: post)).1.fac.L.getD k #[]).get i).sum := by
  rw [history_last_factoring s0 pre post c hc hpost]
  have hfd := (factorCall_factored (runHistory s0 pre).1 c).mpr hinfo
  have inv := (factorCall_inv laws (runHistory s0 pre).1 c hok).inv hfd
  exact inv.identity j hj i hi

/-- **C06 (kept means kept).**  If a SamePattern_SameRowPerm call reports that every remembered pivot
was kept (`reused`), the factorization succeeded and the new pivot sequence is exactly the remembered
one: `perm_r` is unchanged. -/
theorem reuse_kept_same_pivots (s : DriverState K Rat) (c : Call K Rat)
    (h : (factorCall s c).fac.usepr = true) :
    c.fact = .SamePattern_SameRowPerm ∧ (factorCall s c).fac.info = 0 ∧
    (factorCall s c).fac.piv = ((List.range c.n).map fun j => s.fac.piv.getD j 0).toArray := by
  have hh : (run (paramsOf s c) (c.fact == .SamePattern_SameRowPerm) (paramsOf s c).n).usepr = true := h
  obtain ⟨hb, hi, hp⟩ := run_usepr_true (paramsOf s c) _ _ hh
  refine ⟨by simpa using hb, hi, hp⟩

/-- **C06 (abandoned means abandoned for good), for one call of the policy.**  Called with the reuse flag off, the policy
returns it off (`pivotChoice_spec`: it can only come out set when it went in set).  `step` hands the policy the flag of
its state; the statement for a whole `run` is not proved.  A factorization that ends with the flag cleared still
satisfies the invariant: `factoring_step_establishes_inv` has no hypothesis on the flag. -/
theorem reuse_flag_never_set_again (j : Nat) (cands : List (Nat × K)) (thr : Rat → Rat) (oldRow diagRow : Nat) :
    (pivotChoice (R := Rat) j cands thr false oldRow diagRow).usepr = false := by
  rcases pivotChoice_spec j cands thr false oldRow diagRow with ⟨_, e⟩ | ⟨_, pos, c, b, e, _, _, _, hb⟩
  · rw [e]
  · rw [e]
    cases b with
    | false => rfl
    | true => exact absurd (hb rfl).1 Bool.false_ne_true

end Slu.History

/-! ### Non-vacuity: a history in which the remembered pivot MUST be abandoned -/
namespace Slu.History
open Slu Slu.LU

theorem magLawsRat : MagLaws Rat := LU.magLaws_rat

/-- step 1: fresh factorization of [[4,1],[2,3]] (columns #[4,2], #[1,3]); the pivots are rows 0, 1 -/
def exA1 : Nat → Vec Rat
  | 0 => #[4, 2]
  | _ => #[1, 3]
/-- step 2: same pattern, values [[1,1],[8,3]]: in column 0 the remembered row 0 holds 1 < 1 * 8 -/
def exA2 : Nat → Vec Rat
  | 0 => #[1, 8]
  | _ => #[1, 3]
/-- step 2': a small perturbation of step 1: the remembered pivots still pass -/
def exA3 : Nat → Vec Rat
  | 0 => #[4, 3]
  | _ => #[1, 3]

def exCall (f : Fact) (A : Nat → Vec Rat) (t : Trans := .NOTRANS) : Call Rat Rat :=
  { fact := f, trans := t, n := 2, A := A, u := 1, order := fun _ => [0, 1], permC := #[0, 1], etree := #[1, 2], B := [#[5, 5]] }

theorem exCall_ok (f : Fact) (A : Nat → Vec Rat) (t : Trans) (hA : ∀ j, (A j).size = 2) : CallOK (exCall f A t) :=
  ⟨by show (0 : Rat) < 1; decide, by show (1 : Rat) ≤ 1; decide, hA⟩

theorem exA1_size : ∀ j, (exA1 j).size = 2 := by intro j; match j with | 0 => rfl | (_ + 1) => rfl
theorem exA2_size : ∀ j, (exA2 j).size = 2 := by intro j; match j with | 0 => rfl | (_ + 1) => rfl

/-- DOFACT, then SamePattern_SameRowPerm on values that force the remembered pivot out, then two
re-solves (TRANS, NOTRANS), then SamePattern, then reuse with pivots kept -/
def exHist : List (Call Rat Rat) :=
  [exCall .DOFACT exA1, exCall .SamePattern_SameRowPerm exA2, exCall .FACTORED exA2 .TRANS, exCall .FACTORED exA2,
   exCall .SamePattern exA1, exCall .SamePattern_SameRowPerm exA3]

-- one kernel evaluation of the two-call history serves the six `example`s about it below
theorem exHist2_run :
    ((runHistory (init : DriverState Rat Rat) (exHist.take 2)).2.getD 1 { info := 9, X := [] }).reused = false ∧
    ((runHistory (init : DriverState Rat Rat) (exHist.take 2)).2.getD 1 { info := 9, X := [] }).info = 0 ∧
    (runHistory (init : DriverState Rat Rat) (exHist.take 2)).1.fac.piv = #[1, 0] ∧
    (runHistory (init : DriverState Rat Rat) (exHist.take 2)).1.fac.U = #[#[8], #[3, 5/8]] ∧
    (runHistory (init : DriverState Rat Rat) (exHist.take 2)).1.fac.L = #[#[1/8, 1], #[1, 0]] ∧
    ((runHistory (init : DriverState Rat Rat) (exHist.take 2)).2.getD 1 { info := 9, X := [] }).X = [#[-2, 7]] := by decide +kernel
theorem exHist_run :
    ((runHistory (init : DriverState Rat Rat) exHist).2.getD 5 { info := 9, X := [] }).reused = true ∧
    (runHistory (init : DriverState Rat Rat) exHist).1.fac.piv = #[0, 1] := by decide +kernel

-- step 1: pivots rows 0, 1
example : (stepCall (init : DriverState Rat Rat) (exCall .DOFACT exA1)).1.fac.piv = #[0, 1] := by decide +kernel
-- step 2: the remembered pivot (row 0) fails the threshold test and is abandoned; the new pivots are rows 1, 0
example : ((runHistory (init : DriverState Rat Rat) (exHist.take 2)).2.getD 1 { info := 9, X := [] }).reused = false := exHist2_run.1
example : ((runHistory (init : DriverState Rat Rat) (exHist.take 2)).2.getD 1 { info := 9, X := [] }).info = 0 := exHist2_run.2.1
example : (runHistory (init : DriverState Rat Rat) (exHist.take 2)).1.fac.piv = #[1, 0] := exHist2_run.2.2.1
example : (runHistory (init : DriverState Rat Rat) (exHist.take 2)).1.fac.U = #[#[8], #[3, 5/8]] := exHist2_run.2.2.2.1
example : (runHistory (init : DriverState Rat Rat) (exHist.take 2)).1.fac.L = #[#[1/8, 1], #[1, 0]] := exHist2_run.2.2.2.2.1
-- the solution returned by step 2 solves A2 x = (5,5): x = (-2, 7)
example : ((runHistory (init : DriverState Rat Rat) (exHist.take 2)).2.getD 1 { info := 9, X := [] }).X = [#[-2, 7]] := exHist2_run.2.2.2.2.2
-- the re-solves leave the pivots alone
example : (runHistory (init : DriverState Rat Rat) (exHist.take 4)).1.fac.piv = #[1, 0] := by decide +kernel
-- the last step keeps the remembered pivots (rows 0, 1 of the SamePattern step before it)
example : ((runHistory (init : DriverState Rat Rat) exHist).2.getD 5 { info := 9, X := [] }).reused = true := exHist_run.1
example : (runHistory (init : DriverState Rat Rat) exHist).1.fac.piv = #[0, 1] := exHist_run.2
-- hypotheses of the theorems are satisfiable
theorem exA3_size : ∀ j, (exA3 j).size = 2 := by intro j; match j with | 0 => rfl | (_ + 1) => rfl
example : HInv (runHistory (init : DriverState Rat Rat) exHist).1 :=
  (history_all magLawsRat init exHist init_inv (by
    intro c hc hne
    simp only [exHist, List.mem_cons, List.not_mem_nil, or_false] at hc
    rcases hc with rfl | rfl | rfl | rfl | rfl | rfl
    · exact exCall_ok _ _ _ exA1_size
    · exact exCall_ok _ _ _ exA2_size
    · exact absurd rfl hne
    · exact absurd rfl hne
    · exact exCall_ok _ _ _ exA1_size
    · exact exCall_ok _ _ _ exA3_size)).1

end Slu.History
