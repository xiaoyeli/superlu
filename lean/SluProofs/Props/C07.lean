import Slu.Model.Mem
import Slu.Gen.XpandSites
import SluProofs.Lemmas.Mem
import SluProofs.Lemmas.MemStore
import SluProofs.Lemmas.GrowList
import SluProofs.Lemmas.MemInit
import SluProofs.Lemmas.MemReuse
import Mathlib.Tactic.Ring
/-
C07 — How factor storage is obtained never changes the answer.

The factor routines see their four growable arrays only through "write entry i (below the current
length)", "read an entry written earlier" and "make the array longer, keeping the first `next`
entries" (`LUMemXpand`).  The theorems say that the model of `[sdcz]memory.c` (`Slu.Mem`, replayed
step by step against real factorizations by the correspondence check) implements exactly that
interface, in a caller workspace of any length and alignment (where growing array `t` shifts every
later array with an overlapping backward byte copy) and under library allocation (where the array
moves to a fresh block), whatever the initial lengths and the sequence of growth factors — hence what
the routines compute does not depend on the configuration.  The refinement is about the repaired allocator
(`cstep` of Lemmas/GrowList grows with `expand_fixed`); /repo is `current`, which differs from it only in D7, the
UCOL test of Props/C08.

The one hypothesis about the *clients* that the refinement theorems need and cannot see in the allocator —
"after every expansion the routine re-reads the base pointers of the arrays from `Glu`" — is tied to the
source text on every run by `clients_refresh_pointers` at the end of this file (translator
tools/xpandscan.py -> Slu/Gen/XpandSites.lean).
-/
namespace Slu.Mem

/-- **`user_bcopy` (memory.c:138-146) is a `memmove`** when the destination is not below the source, as in `expand`'s move
upward of the arrays behind the grown one -/
theorem user_bcopy_is_memmove {β : Type} (src dst : Int) (hd : src ≤ dst) (n : Nat) (m : Int → β) (a : Int) :
    bcopyDesc src dst n m a = if dst ≤ a ∧ a < dst + (n : Int) then m (a - (dst - src)) else m a :=
  bcopyDesc_spec src dst hd n m a

/-- **C07 `expand_preserves_contents`, caller workspace**: after any granted `LUMemXpand` of array `t`
(any array, any growth factor the reduction loop settles on, any workspace length and alignment that
satisfy the invariant) every byte of the old capacity of *every* array — the expanded one and the three
others, shifted or not — is found unchanged at its new address. -/
theorem expand_preserves_contents_workspace {β : Type} (w : Words) (hw : w.Ok) (fail : Nat → Bool)
    (t : MemType) (s : St) (hinv : Inv w s) (nl : Int)
    (h : (expand_fixed w fail (s.nz t) t (decide (t = .USUB)) s).2 = some nl)
    (σ : Store β) (len : Int) (t' : MemType) (j : Int) (hj0 : 0 ≤ j) (hj : j < s.cap t' * w.lword t') :
    rbyte (moveStore w t len s (expand_fixed w fail (s.nz t) t (decide (t = .USUB)) s).1 σ)
        (expand_fixed w fail (s.nz t) t (decide (t = .USUB)) s).1 t' j = rbyte σ s t' j := by
  have hr := expand_later fixed w fail (s.nz t) t (decide (t = .USUB)) s hinv.nexp_ne
  rcases hr.granted h with ⟨hu, _, e⟩ | ⟨hu, _⟩
  · simp only [expand_fixed]
    rw [e]
    exact grown_preserves hw hu hinv.layout.placed t (hr.cap_le rfl hinv.capBU h) σ len t' j hj0 hj
  · exact absurd (hu.symm.trans hinv.user) nofun

/-- **C07 `expand_preserves_contents`, library allocation**: after any granted expansion (whatever
allocation attempts failed before it succeeded) the first `len_to_copy` entries of the expanded array
are in its new block, the other three arrays are untouched, and the four arrays still occupy four
different blocks. -/
theorem expand_preserves_contents_malloc {β : Type} (fx : Fixes) (w : Words) (fail : Nat → Bool) (prev : Int)
    (t : MemType) (keep : Bool) (s : St) (hinv : SysInv s) (nl : Int)
    (h : (expand fx w fail prev t keep s).2 = some nl) (σ : Store β) (len : Int) :
    SysInv (expand fx w fail prev t keep s).1 ∧
    (∀ j, 0 ≤ j → j < len * w.lword t →
      rbyte (moveStore w t len s (expand fx w fail prev t keep s).1 σ) (expand fx w fail prev t keep s).1 t j
        = rbyte σ s t j) ∧
    (∀ t', t' ≠ t → ∀ j,
      rbyte (moveStore w t len s (expand fx w fail prev t keep s).1 σ) (expand fx w fail prev t keep s).1 t' j
        = rbyte σ s t' j) := by
  rcases (expand_later fx w fail prev t keep s hinv.nexp_ne).granted h with ⟨hu, _⟩ | ⟨_, c, hc, e⟩
  · exact absurd (hinv.user.symm.trans hu) nofun
  · rw [e]; exact ⟨moved_sysInv hinv t hc nl, moved_preserves w hinv hc nl σ len⟩

/-- **C07 `mem_refines_growlist`**: run any sequence of client operations (byte writes below the current
capacity, `LUMemXpand` with any `next`) against the allocator — in a workspace satisfying the invariant,
or under library allocation with any pattern of allocation failures.  If the run is carried through
(no refused expansion), every byte that the abstract growable lists know (written, and not beyond
`next` at a later growth) is inside the concrete array and has the same value there. -/
theorem mem_refines_growlist {β : Type} (w : Words) (hw : w.Ok) (hld : w.liw ≤ w.dw) (fail : Nat → Bool)
    (ops : List (COp β)) (a : Abs β) (x y : St × Store β) (hg : GoodInv w x.1) (hs : Sim w a x.1 x.2)
    (h : crun w fail x ops = some y) : GoodInv w y.1 ∧ Sim w (arun w a ops) y.1 y.2 :=
  refine_run w hw hld fail ops a x y hg hs h

/-- **C07 `storage_independence`**: two storage configurations — different workspace lengths, alignments,
initial lengths (fill estimates), library allocation with different failures, in any combination — that
both carry the same client operation sequence through agree on every byte the abstract lists define:
what the factor routines can read back does not depend on how the storage was obtained. -/
theorem storage_independence {β : Type} (w : Words) (hw : w.Ok) (hld : w.liw ≤ w.dw) (fail₁ fail₂ : Nat → Bool)
    (ops : List (COp β)) (x₁ x₂ y₁ y₂ : St × Store β)
    (hg₁ : GoodInv w x₁.1) (hg₂ : GoodInv w x₂.1)
    (h₁ : crun w fail₁ x₁ ops = some y₁) (h₂ : crun w fail₂ x₂ ops = some y₂)
    (t : MemType) (j : Int) (b : β) (hb : arun w (fun _ _ => none) ops t j = some b) :
    rbyte y₁.2 y₁.1 t j = b ∧ rbyte y₂.2 y₂.1 t j = b := by
  have key : ∀ fail (x y : St × Store β), GoodInv w x.1 → crun w fail x ops = some y → rbyte y.2 y.1 t j = b :=
    fun fail x y hg h => ((refine_run w hw hld fail ops _ x y hg (fun _ _ _ h => by cases h) h).2 t j b hb).2.2
  exact ⟨key _ _ _ hg₁ h₁, key _ _ _ hg₂ h₂⟩

/-! ### Refactorization (`fact == SamePattern_SameRowPerm`, `memInitReuse`): every statement above carried across the
call boundary (`Idle`, `IdleGood`, `ReuseCall`: Lemmas/MemReuse) -/

/-- **C07 `readopted_bytes_unchanged`, caller workspace**: the re-adopting `LUMemInit` moves and clears nothing.
In the state it returns, every byte of the previous capacity of every array reads the same, also in a store that
has changed at or above the new `top2` (`memInitReuse_keeps_bytes`).  The new `lwork` may differ from the previous one. -/
theorem readopted_bytes_unchanged {β : Type} (fail : Nat → Bool) (c : Cfg) (hw : c.w.Ok) (s : St) (hid : Idle c.w s)
    (hl : 0 < c.lwork) (hn : c.n = s.n) (hn1 : 1 ≤ c.n) (hI : 0 ≤ isize c) (hD : 0 ≤ dsize c)
    (h : (memInitReuse fail c s).info = 0) (σ σ' : Store β)
    (hσ : ∀ a, a < (memInitReuse fail c s).st.top2 → σ' 0 a = σ 0 a)
    (t : MemType) (j : Int) (hj : j < s.cap t * c.w.lword t) :
    rbyte σ' (memInitReuse fail c s).st t j = rbyte σ s t j ∧ s.cap t ≤ (memInitReuse fail c s).st.cap t := by
  exact ⟨memInitReuse_keeps_bytes fail c hw s hid.inv (memInitReuse_inv fail c hw s hid hl hn hn1 hI hD h) σ σ' hσ t j hj,
    memInitReuse_cap_le fail c s hid.inv.capBU t⟩

/-- **C07 `readopted_bytes_unchanged`, library allocation**: the four arrays stay in the blocks they were in;
every byte, in every store. -/
theorem readopted_bytes_unchanged_malloc {β : Type} (fail : Nat → Bool) (c : Cfg) (s : St) (hl : c.lwork = 0)
    (hu : s.user = false) (σ : Store β) (t : MemType) (j : Int) :
    rbyte σ (memInitReuse fail c s).st t j = rbyte σ s t j := by
  have hu' : (memInitReuse fail c s).st.user = false := by rw [memInitReuse_user]; simp [hl]
  rw [rbyte_sys _ hu', rbyte_sys _ hu, memInitReuse_off]

/-- **C07 `expand_preserves_contents`, re-adopted storage in a caller workspace**: the first (and by
`Slu.Mem.mem_inv_reachable_reuse` every later) granted `LUMemXpand` of a refactorization keeps every byte of
every array, exactly as in a first factorization — because `stack.top1` still marks the end of USUB, the
backward copy moves everything behind the grown array. -/
theorem expand_preserves_contents_workspace_reuse {β : Type} (fail : Nat → Bool) (c : Cfg) (hw : c.w.Ok) (s : St)
    (hid : Idle c.w s) (hl : 0 < c.lwork) (hn : c.n = s.n) (hn1 : 1 ≤ c.n) (hI : 0 ≤ isize c) (hD : 0 ≤ dsize c)
    (h0 : (memInitReuse fail c s).info = 0) (t : MemType) (nl : Int)
    (h : (expand_fixed c.w fail ((memInitReuse fail c s).st.nz t) t (decide (t = .USUB)) (memInitReuse fail c s).st).2 = some nl)
    (σ : Store β) (len : Int) (t' : MemType) (j : Int) (hj0 : 0 ≤ j)
    (hj : j < (memInitReuse fail c s).st.cap t' * c.w.lword t') :
    rbyte (moveStore c.w t len (memInitReuse fail c s).st
          (expand_fixed c.w fail ((memInitReuse fail c s).st.nz t) t (decide (t = .USUB)) (memInitReuse fail c s).st).1 σ)
        (expand_fixed c.w fail ((memInitReuse fail c s).st.nz t) t (decide (t = .USUB)) (memInitReuse fail c s).st).1 t' j
      = rbyte σ (memInitReuse fail c s).st t' j :=
  expand_preserves_contents_workspace c.w hw fail t _ (memInitReuse_inv fail c hw s hid hl hn hn1 hI hD h0) nl h σ len t' j hj0 hj

/-- **C07 `expand_preserves_contents`, re-adopted storage under library allocation** -/
theorem expand_preserves_contents_malloc_reuse {β : Type} (fx : Fixes) (fail : Nat → Bool) (c : Cfg) (hw : c.w.Ok) (s : St)
    (hs : SysInv s) (hl : c.lwork = 0) (hn1 : 1 ≤ c.n) (hI : 0 ≤ isize c) (hD : 0 ≤ dsize c)
    (hL0 : 0 ≤ s.capL) (hU0 : 0 ≤ s.capU) (hS0 : 0 ≤ s.capS)
    (h0 : (memInitReuse fail c s).info = 0) (prev : Int) (t : MemType) (keep : Bool) (nl : Int)
    (h : (expand fx c.w fail prev t keep (memInitReuse fail c s).st).2 = some nl) (σ : Store β) (len : Int) :
    SysInv (expand fx c.w fail prev t keep (memInitReuse fail c s).st).1 ∧
    (∀ j, 0 ≤ j → j < len * c.w.lword t →
      rbyte (moveStore c.w t len (memInitReuse fail c s).st (expand fx c.w fail prev t keep (memInitReuse fail c s).st).1 σ)
        (expand fx c.w fail prev t keep (memInitReuse fail c s).st).1 t j = rbyte σ (memInitReuse fail c s).st t j) ∧
    (∀ t', t' ≠ t → ∀ j,
      rbyte (moveStore c.w t len (memInitReuse fail c s).st (expand fx c.w fail prev t keep (memInitReuse fail c s).st).1 σ)
        (expand fx c.w fail prev t keep (memInitReuse fail c s).st).1 t' j = rbyte σ (memInitReuse fail c s).st t' j) :=
  expand_preserves_contents_malloc fx c.w fail prev t keep _
    (memInitReuse_sysInv fail c hw s hs hl hn1 hI hD hL0 hU0 hS0 h0) nl h σ len

/-- **C07 `mem_refines_growlist`, across a refactorization**: let the abstract lists `a` be simulated by the
allocator state and store the previous factorization left (either storage mode).  After the re-adopting
`LUMemInit` — with any store that agrees with the old one below the new `top2` of the caller's buffer and on the
blocks the library had allocated — and any client operation sequence that is carried through, the concrete
arrays simulate `arun a ops`: what the previous factorization wrote and the new one did not overwrite or cut off
is still read back, what the new one wrote is read back. -/
theorem mem_refines_growlist_reuse {β : Type} (fail : Nat → Bool) (c : Cfg) (hw : c.w.Ok) (hld : c.w.liw ≤ c.w.dw) (s : St)
    (hg : IdleGood c.w s) (hc : ReuseCall c s) (h0 : (memInitReuse fail c s).info = 0)
    (a : Abs β) (σ σ' : Store β) (hs : Sim c.w a s σ)
    (hσ : ∀ (b : Nat) (ad : Int), ((b = 0 ∧ ad < (memInitReuse fail c s).st.top2) ∨ (0 < b ∧ b ≤ s.mallocs)) → σ' b ad = σ b ad)
    (ops : List (COp β)) (y : St × Store β)
    (h : crun c.w fail ((memInitReuse fail c s).st, σ') ops = some y) :
    GoodInv c.w y.1 ∧ Sim c.w (arun c.w a ops) y.1 y.2 :=
  mem_refines_growlist c.w hw hld fail ops a ((memInitReuse fail c s).st, σ') y
    (memInitReuse_goodInv fail c hw s hg hc h0) (memInitReuse_sim_good fail c hw s hg hc h0 a σ σ' hs hσ) h

/-- **C07 `storage_independence`, across a refactorization**: two storage configurations (any mix of workspace
lengths — also a different length than in the previous call —, alignments, library allocation with different
failures) whose previous factorizations left the same abstract contents `a`, and that both carry the client
operations of the refactorization through, agree on every byte the abstract lists define afterwards. -/
theorem storage_independence_reuse {β : Type} (w : Words) (hw : w.Ok) (hld : w.liw ≤ w.dw) (fail₁ fail₂ : Nat → Bool)
    (c₁ c₂ : Cfg) (hw₁ : c₁.w = w) (hw₂ : c₂.w = w) (s₁ s₂ : St)
    (hg₁ : IdleGood w s₁) (hg₂ : IdleGood w s₂) (hc₁ : ReuseCall c₁ s₁) (hc₂ : ReuseCall c₂ s₂)
    (h₁ : (memInitReuse fail₁ c₁ s₁).info = 0) (h₂ : (memInitReuse fail₂ c₂ s₂).info = 0)
    (a : Abs β) (σ₁ σ₂ : Store β) (hs₁ : Sim w a s₁ σ₁) (hs₂ : Sim w a s₂ σ₂)
    (ops : List (COp β)) (y₁ y₂ : St × Store β)
    (r₁ : crun w fail₁ ((memInitReuse fail₁ c₁ s₁).st, σ₁) ops = some y₁)
    (r₂ : crun w fail₂ ((memInitReuse fail₂ c₂ s₂).st, σ₂) ops = some y₂)
    (t : MemType) (j : Int) (b : β) (hb : arun w a ops t j = some b) :
    rbyte y₁.2 y₁.1 t j = b ∧ rbyte y₂.2 y₂.1 t j = b := by
  -- one configuration: the init and the run are carried through in its own `c.w`, which is `w`
  have key : ∀ fail (c : Cfg) s σ y, c.w = w → IdleGood w s → ReuseCall c s → (memInitReuse fail c s).info = 0 → Sim w a s σ →
      crun w fail ((memInitReuse fail c s).st, σ) ops = some y → rbyte y.2 y.1 t j = b := by
    intro fail c s σ y hcw hg hc h0 hs r
    subst hcw
    exact ((mem_refines_growlist_reuse fail c hw hld s hg hc h0 a σ σ hs (fun _ _ _ => rfl) ops y r).2 t j b hb).2.2
  exact ⟨key _ _ _ _ _ hw₁ hg₁ hc₁ h₁ hs₁ r₁, key _ _ _ _ _ hw₂ hg₂ hc₂ h₂ hs₂ r₂⟩

/-- **C07 `queryspace_matches`**: the quantity `QuerySpace` reports as `for_lu` (before the final rounding
to `float`; the float formula itself is compared bit for bit with the C code by the correspondence
check) is the byte size of the used prefixes of the four returned arrays — `nzval_colptr[n]` and
`colptr[n]` scalars, `rowind_colptr[n]` and `colptr[n]` indices — plus `5n + 4` ints for the pointer
arrays. -/
theorem queryspace_matches (w : Words) (n nzL nsL nzU : Int) :
    forLuExact w n nzL nsL nzU = nzL * w.dw + nzU * w.dw + nsL * w.iw + nzU * w.iw + (5 * n + 4) * w.iw := by
  unfold forLuExact; ring

/-! ### The clients re-read the base pointers (regenerated from the source on every run)

`mem_refines_growlist` / `storage_independence` speak about a client that addresses array `t` through the
base the allocator state holds *now* (`rbyte σ s t j`).  A factor routine that keeps `lsub = Glu->lsub` in
a local variable is such a client only as long as it re-reads the variable after every call that may move
the array.  `tools/xpandscan.py` lists, from the clang syntax tree of the current working tree, every place
in SRC/ outside `[sdcz]memory.c` where the storage may move (`[sdcz]LUMemXpand`, `[sdcz]expand`; `LUMemInit`,
`LUWorkFree`, `StackCompress`; and, to a fixed point, every call of a routine that contains such a place)
and, by a may-analysis over the control-flow graph of the enclosing function (loops included), every use of
a local copy of `Glu->lusup|ucol|lsub|usub` — or of a pointer computed from one — that some path from the
site reaches without the copy having been re-read.  Only copies of arrays that can move count: growing `T`
moves `T` (library allocation) and every array stored after it (caller workspace; order LUSUP, UCOL, LSUB,
USUB).  Each record also says whether the returned error code is tested, and the function left, before
anything else happens. -/

open Slu.Gen

/-- a reviewed exception: uses of `var` (a copy of `Glu->field`) after a site of type `memType` in `func` -/
structure StaleException where
  file : String
  func : String
  memType : String
  var : String
  field : String
  why : String

/-- Benign cases (the variable is dead on every path after the site, the function returns at once, …), one
line of justification each.  Empty: the scanner reports no possibly stale use in /repo.  (Before /repo commit
3a02e26 it reported one, a genuine defect: `[sdcz]gsitrf` used its block-local `lsub` after the LUSUP growth loop
of the zero-column fill-in, and in a caller workspace growing LUSUP slides LSUB.  That commit repairs it; a defect
does not belong in this list.) -/
def allowList : List StaleException := []

def staleOk (exc : List StaleException) (s : XpandSite) (u : StaleUse) : Bool :=
  exc.any fun a => a.file == s.file && a.func == s.func && a.memType == s.memType && a.var == u.var && a.field == u.field

/-- a site is in order: its type is one the scanner understood, the returned code (if the callee returns
one) is tested before anything else happens, and every possibly stale use is a reviewed exception -/
def siteOk (exc : List StaleException) (s : XpandSite) : Bool :=
  s.memType != "?" && (s.errorChecked || !s.returnsCode) && s.stale.all (staleOk exc s)

/-- **C07 `clients_refresh_pointers`**: the translator and its self check succeeded on the current source
(all nine file families present for s, d, c, z; the number of expansion calls in the syntax tree equals the
number in the text of every file); it saw the whole set of places where storage can move; and at every one
of them the error code is tested at once and no local copy of a base pointer of an array that can move is
used again before it is re-read from `Glu` (the allow-list of reviewed exceptions is empty).

What this establishes: the hypothesis "the client re-reads the base pointers after every expansion" of
`mem_refines_growlist` / `storage_independence` (and of the confinement theorems of C08) holds of the text
of the factor routines, on every run, for every path the control-flow graph has.  What it does **not**
establish: that the indices used with those pointers are below the current length (index arithmetic is
not examined — sanitizers on exact-size workspaces and the differential check cover it), nor anything
about aliases that do not come from `Glu` or addresses stored in memory.  The scanner is trusted (it has a
built-in self test and errs towards reporting). -/
theorem clients_refresh_pointers :
    xpandOk = true ∧ 60 ≤ xpandDirect ∧ 36 ≤ xpandFiles ∧ 120 ≤ xpandSites.length ∧
    xpandSites.all (siteOk allowList) = true := by
  decide +kernel

/-- the table has no possibly stale use and no untested error code at all: no exception is in use (to be
restated over the remaining sites should a reviewed benign entry ever be added to `allowList`) -/
theorem clients_refresh_pointers_strict :
    (xpandSites.filter fun s => !s.stale.isEmpty || (s.returnsCode && !s.errorChecked)) = [] := by
  decide +kernel

/-! ### Non-vacuity: the hypotheses are satisfiable -/

def cfgEx : Cfg := { m := 2, n := 2, annz := 4, panel := 1, maxsuper := 1, rowblk := 1, fill := 4, lwork := 1000 }

example : GoodInv cfgEx.w (memInit_fixed (fun _ => false) cfgEx).st :=
  Or.inl (memInit_inv fixed rfl rfl (fun _ => false) cfgEx ⟨rfl, ⟨1, rfl⟩, ⟨2, rfl⟩, by decide, by decide⟩ (by decide)
    (by decide) (by decide) (by decide) (by decide) (by decide) (by decide))

/-- two arrays grown in a 256-byte work area, then the work arrays given back: what the first factorization of
`cfgR2` leaves (`LUMemInit`, LUSUP and LSUB expanded once each, `LUWorkFree`) -/
def cfgR2 : Cfg := { m := 1, n := 1, annz := 1, panel := 1, maxsuper := 1, rowblk := 1, fill := 2, lwork := 256 }
def idleR2 : St :=
  workFree (memXpand_fixed cfgR2.w (fun _ => false) .LSUB (memXpand_fixed cfgR2.w (fun _ => false) .LUSUP (memInit_fixed (fun _ => false) cfgR2).st).1).1

example : Idle cfgR2.w idleR2 := ⟨by constructor <;> decide, by decide, by decide⟩
example : ReuseCall cfgR2 idleR2 ∧ (memInitReuse (fun _ => false) cfgR2 idleR2).info = 0 :=
  ⟨⟨Or.inl (by decide), by decide, by decide, by decide, by decide⟩, by decide⟩
/-- the arrays and `top1` are where `idleR2` had them, `used` = 100 + the two work arrays -/
example : (let s := (memInitReuse (fun _ => false) cfgR2 idleR2).st
    (s.offL, s.offU, s.offS, s.offB) = (40, 64, 80, 92) ∧ (s.capL, s.capU, s.capS, s.capB) = (3, 2, 3, 2) ∧
    (s.used, s.top1, s.top2, s.size) = (156, 100, 200, 256) ∧ s.nexp = 1) := by decide

end Slu.Mem
