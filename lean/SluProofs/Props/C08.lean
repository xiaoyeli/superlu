import Slu.Model.Mem
import SluProofs.Lemmas.Mem
import SluProofs.Lemmas.MemInit
import SluProofs.Lemmas.MemCurrent
import SluProofs.Lemmas.MemReuse
/-
C08 — A caller workspace is never overrun; shortage is reported.

Theorems are about `Slu.Mem` (the allocator of `[sdcz]memory.c` as a state machine over byte
extents; the correspondence check replays it step by step against real factorizations) and `Inv`, the invariant of a
workspace (Lemmas/Mem).

The positive theorems are proved of the *repaired* functions (`fixed`: all of D3, D7, D10, D11 repaired; D3,
D10 and D11 are repaired in /repo by the commits ba17e55, 1d60195 and c7d64d2, which the model mirrors line by
line; `mem_inv_init` needs D3 and D11).  For the code as pinned (`asIs`) and for /repo as it is now (`current`:
D7 open) the invariants are *false*; the negations are proved below with concrete witnesses that are also
reproducers on the real code.

The request sequences the theorems quantify over are issued by the factor routines; that those routines
leave as soon as a request is refused and address the arrays only through base pointers re-read after
every move is tied to the source text by `Slu.Mem.clients_refresh_pointers` (Props/C07.lean, over the table
regenerated by tools/xpandscan.py); this property's check builds and audits that module as well.

Hypotheses: `w.Ok` — sizeof(int) = 4, sizeof(int_t) and sizeof(scalar) positive multiples of 4;
`w.liw ≤ w.dw` — an index is not wider than a scalar (false only for 64-bit indices with single
precision reals, where the UCOL/USUB reservation of the C code is too small — see the `level_note` of C08 in MANIFEST.json).
-/
namespace Slu.Mem

/-- **C08 `mem_inv`**: the invariant holds after every request sequence, of any length, in any order
(in particular every sequence the factor routines can issue). -/
theorem mem_inv (w : Words) (hw : w.Ok) (hld : w.liw ≤ w.dw) (fail : Nat → Bool) (ops : List Op) :
    ∀ s, Inv w s → Inv w (run fixed w fail s ops) :=
  fun s h => (run_keeps w hw hld fail ops s h).1

/-- **C08 `mem_inv`, initial state**: whenever the repaired `LUMemInit` returns 0 for a caller
workspace — any `lwork > 0`, either alignment, any problem size and fill estimate, any path through
the retry/halving loop — the state it leaves satisfies the invariant.  (`isize`, `dsize` are the byte
sizes of the two work arrays; they are nonnegative whenever `m, panel_size, maxsuper, rowblk ≥ 0`.) -/
theorem mem_inv_init (fail : Nat → Bool) (c : Cfg) (hw : c.w.Ok) (hl : 0 < c.lwork) (hn : 1 ≤ c.n) (ha : 1 ≤ c.annz)
    (hI : 0 ≤ isize c) (hD : 0 ≤ dsize c) (hnz : 0 ≤ c.fill * c.annz)
    (h : (memInit_fixed fail c).info = 0) : Inv c.w (memInit_fixed fail c).st :=
  memInit_inv fixed rfl rfl fail c hw hl hn hI hD hnz ha h

/-- `LUMemInit` terminates: the retry loop cannot run forever when `nnz(A) ≥ 1` (any mode, any
allocation failures, pinned or repaired code). -/
theorem memInit_terminates (fx : Fixes) (fail : Nat → Bool) (c : Cfg) (ha : 1 ≤ c.annz) (hnz : 0 ≤ c.fill * c.annz) :
    (memInit fx fail c).spin = false :=
  memInit_no_spin fx fail c ha hnz

/-- **C08 `mem_inv`, every reachable state**: `LUMemInit` followed by any request sequence. -/
theorem mem_inv_reachable (fail : Nat → Bool) (c : Cfg) (hw : c.w.Ok) (hld : c.w.liw ≤ c.w.dw) (hl : 0 < c.lwork)
    (hn : 1 ≤ c.n) (ha : 1 ≤ c.annz) (hI : 0 ≤ isize c) (hD : 0 ≤ dsize c) (hnz : 0 ≤ c.fill * c.annz)
    (h : (memInit_fixed fail c).info = 0) (ops : List Op) :
    Inv c.w (run fixed c.w fail (memInit_fixed fail c).st ops) :=
  mem_inv c.w hw hld fail ops _ (mem_inv_init fail c hw hl hn ha hI hD hnz h)

/-- **C08 `shortage_reported`, allocation phase**: if `LUMemInit` does not return 0 it returns a value
larger than `n` (workspace or library allocation, whatever fails). -/
theorem shortage_reported_init (fail : Nat → Bool) (c : Cfg) (hw : c.w.Ok) (hn : 1 ≤ c.n) (ha : 1 ≤ c.annz)
    (hI : 0 ≤ isize c) (hD : 0 ≤ dsize c) (hnz : 0 ≤ c.fill * c.annz)
    (h : (memInit_fixed fail c).info ≠ 0) : c.n < (memInit_fixed fail c).info :=
  memInit_info_gt fixed fail c hw hn hI hD hnz h

/-- **C08 `mem_confined`**: in every reachable state every array handed to a writer lies inside
`[0, size)` and no two of them overlap. -/
theorem mem_confined (w : Words) (hw : w.Ok) (hld : w.liw ≤ w.dw) (fail : Nat → Bool) (ops : List Op)
    (s : St) (h : Inv w s) :
    (∀ b ∈ (run fixed w fail s ops).blocks w, 0 ≤ b.1 ∧ 0 ≤ b.2 ∧ b.1 + b.2 ≤ (run fixed w fail s ops).size) ∧
      ((run fixed w fail s ops).blocks w).Pairwise Disjoint :=
  inv_confined w hw _ (mem_inv w hw hld fail ops s h)

/-- **C08 `shortage_reported`** (growth during the factorization): a request that cannot be met
leaves the allocator state exactly as it was — nothing has been moved or written — and the routine
returns `memory_usage + n`, which is larger than `n` (`1 ≤ n`: see `memoryUsage_gt`). -/
theorem shortage_reported (w : Words) (hw : w.Ok) (fail : Nat → Bool) (t : MemType) (s : St) (h : Inv w s)
    (hn : 1 ≤ s.n) (hfail : (memXpand fixed w fail t s).2 ≠ 0) :
    (memXpand fixed w fail t s).1 = s ∧ s.n < (memXpand fixed w fail t s).2 := by
  obtain ⟨h1, h2⟩ := memXpand_user_fail fixed w fail t s h.user h.nexp_ne hfail
  refine ⟨h1, ?_⟩
  rw [h2]
  exact memoryUsage_gt w hw h.capS0 h.capU0 h.capL0 hn

/-- **C08 `expand_progress`**: a successful expansion returns `new_len > prev_len`, with a workspace and
with library allocation, whatever the allocation failures. -/
theorem expand_progress (w : Words) (fail : Nat → Bool) (prev : Int) (t : MemType) (s : St)
    (hn : s.nexp ≠ 0) (nl : Int) (h : (expand_fixed w fail prev t false s).2 = some nl) : prev < nl :=
  expand_progress_of fixed w fail rfl prev t s hn nl h

/-- the same for /repo as it is now (D10 repaired by 1d60195) -/
theorem expand_progress_current (w : Words) (fail : Nat → Bool) (prev : Int) (t : MemType) (s : St)
    (hn : s.nexp ≠ 0) (nl : Int) (h : (expand current w fail prev t false s).2 = some nl) : prev < nl :=
  expand_progress_of current w fail rfl prev t s hn nl h

/-- **no hang**: every `while ( new_next > maxlen ) LUMemXpand` loop of the factor routines ends within
`new_next - maxlen` rounds. -/
theorem growth_loop_terminates (w : Words) (hw : w.Ok) (hld : w.liw ≤ w.dw) (fail : Nat → Bool) (t : MemType)
    (ht : t ≠ .USUB) (need : Int) (s : St) (h : Inv w s) (hn : 1 ≤ s.n) :
    growUntil fixed w fail t need (need - s.nz t).toNat s ≠ none :=
  growUntil_terminates fixed w fail rfl rfl hw hld t ht need _ s h hn (Nat.le_refl _)

/-! ### The code as pinned / as it is now: the invariants are false (concrete witnesses) -/

def noFail : Nat → Bool := fun _ => false
def w8 : Words := {}   -- double precision, 32-bit indices

theorem w8_ok : Words.Ok w8 := ⟨rfl, ⟨1, rfl⟩, ⟨2, rfl⟩, by decide, by decide⟩

def cfgD3 : Cfg := { m := 1, n := 1, annz := 1, panel := 1, maxsuper := 1, rowblk := 1, fill := 3, lwork := 8 }

/-- **`mem_inv` is false of the pinned code (D3)**: `LUMemInit` returns 0 (success) although the five
pointer arrays are NULL and LUSUP starts 72 bytes *in front of* the caller's 8-byte buffer. -/
theorem mem_inv_false_pinned_D3 :
    (memInit_asIs noFail cfgD3).info = 0 ∧ (memInit_asIs noFail cfgD3).st.hdrOk = false ∧
      (memInit_asIs noFail cfgD3).st.offL = -72 := by decide

/-- the repaired `LUMemInit` reports the shortage for the same input -/
theorem mem_inv_fixed_D3 : (memInit_fixed noFail cfgD3).info = 113 ∧ (memInit_fixed noFail cfgD3).info > cfgD3.n := by
  decide

def cfgD7 : Cfg := { m := 2, n := 2, annz := 4, panel := 1, maxsuper := 1, rowblk := 1, fill := 1, lwork := 272 }

/-- **`mem_inv` is false of /repo as it is now (D7)**: from the state `LUMemInit` returns, one UCOL
expansion is granted and leaves `top1 = 192 > top2 = 184`: the test was made with `extra`, `2*extra`
was taken. -/
theorem mem_inv_false_current_D7 :
    (memInit current noFail cfgD7).info = 0 ∧
      (memXpand current w8 noFail .UCOL (memInit current noFail cfgD7).st).2 = 0 ∧
      (memXpand current w8 noFail .UCOL (memInit current noFail cfgD7).st).1.top1 = 192 ∧
      (memXpand current w8 noFail .UCOL (memInit current noFail cfgD7).st).1.top2 = 184 := by decide

/-- … but the damage is contained by the protocol: the USUB request that `copy_to_ucol` issues next is
refused (`StackFull(0)` holds because `used > size`), so the routine returns `info > n` before anything
is written into the overlap. -/
theorem D7_contained :
    (memXpand current w8 noFail .USUB (memXpand current w8 noFail .UCOL (memInit current noFail cfgD7).st).1).2 = 202 := by
  decide

/-- the repaired expansion settles for a smaller growth factor (5 instead of 6 entries) and stays inside -/
theorem mem_inv_fixed_D7 :
    (memXpand_fixed w8 noFail .UCOL (memInit_fixed noFail cfgD7).st).2 = 0 ∧
      (memXpand_fixed w8 noFail .UCOL (memInit_fixed noFail cfgD7).st).1.capU = 5 ∧
      (memXpand_fixed w8 noFail .UCOL (memInit_fixed noFail cfgD7).st).1.top1 = 176 ∧
      (memXpand_fixed w8 noFail .UCOL (memInit_fixed noFail cfgD7).st).1.top2 = 184 := by decide

def cfgD10 : Cfg := { m := 2, n := 2, annz := 2, panel := 1, maxsuper := 1, rowblk := 1, fill := 1, lwork := 208 }

/-- **`expand_progress` is false of the pinned code (D10)**: the LUSUP expansion "succeeds" with
`new_len = prev_len = 2`, and therefore the callers' loop never ends. -/
theorem expand_progress_false_pinned_D10 :
    (memInit_asIs noFail cfgD10).info = 0 ∧
      (expand_asIs w8 noFail 2 .LUSUP false (memInit_asIs noFail cfgD10).st).2 = some 2 ∧
      growUntil asIs w8 noFail .LUSUP 3 50 (memInit_asIs noFail cfgD10).st = none := by decide

/-- the repaired expansion fails (there is no room for a third entry), and the loop ends with the
shortage code -/
theorem expand_progress_fixed_D10 :
    (expand_fixed w8 noFail 2 .LUSUP false (memInit_fixed noFail cfgD10).st).2 = none ∧
      (growUntil fixed w8 noFail .LUSUP 3 50 (memInit_fixed noFail cfgD10).st).isSome = true := by decide

/-! ### /repo as it is now (D7 open) -/

/-- **`current_confined`**: for /repo as it is now (D3, D10, D11 repaired; D7 open) — `LUMemInit` followed by any
request sequence: every live array stays inside `[0, size)` and no two overlap.  `top1 ≤ top2` may break
after a UCOL expansion (`mem_inv_false_current_D7`): the second `extra`, taken untested, is the room for USUB's next
entries.  But USUB, as long as it is, still ends below `top2` (`InvC`, Lemmas/MemCurrent), and the USUB request that would
lengthen it into that room is granted only while `top1 < top2` (refused on the witness: `D7_contained`). -/
theorem current_confined (fail : Nat → Bool) (c : Cfg) (hw : c.w.Ok) (hld : c.w.liw ≤ c.w.dw) (hl : 0 < c.lwork)
    (hn : 1 ≤ c.n) (ha : 1 ≤ c.annz) (hI : 0 ≤ isize c) (hD : 0 ≤ dsize c) (hnz : 0 ≤ c.fill * c.annz)
    (h : (memInit current fail c).info = 0) (ts : List MemType) :
    let s := ts.foldl (fun s t => (memXpand current c.w fail t s).1) (memInit current fail c).st
    (∀ b ∈ s.blocks c.w, 0 ≤ b.1 ∧ 0 ≤ b.2 ∧ b.1 + b.2 ≤ s.size) ∧ (s.blocks c.w).Pairwise Disjoint := by
  have hc := foldl_inv (InvC c.w) _ ts _ ((memInit_inv current rfl rfl fail c hw hl hn hI hD hnz ha h).toC hw)
    (fun s t _ => memXpand_invC current rfl c.w hw hld fail t s)
  exact hc.layout.confined hw hc.usub

/-! ### Refactorization: `LUMemInit` for `fact == SamePattern_SameRowPerm` (`memInitReuse`; `Idle`, the state between
two calls: Lemmas/MemReuse) -/

/-- **the state between two factorizations is idle**: whatever request sequence the first factorization
issued after a successful `LUMemInit`, `LUWorkFree` leaves an idle allocator -/
theorem idle_after_first (fail : Nat → Bool) (c : Cfg) (hw : c.w.Ok) (hld : c.w.liw ≤ c.w.dw) (hl : 0 < c.lwork)
    (hn : 1 ≤ c.n) (ha : 1 ≤ c.annz) (hI : 0 ≤ isize c) (hD : 0 ≤ dsize c) (hnz : 0 ≤ c.fill * c.annz)
    (h : (memInit_fixed fail c).info = 0) (ops : List Op) :
    Idle c.w (workFree (run fixed c.w fail (memInit_fixed fail c).st ops)) := by
  obtain ⟨hi, _, ht⟩ := run_keeps c.w hw hld fail ops _ (mem_inv_init fail c hw hl hn ha hI hD hnz h)
  exact idle_of_inv_workFree c.w _ hi
    (ht (memInit_top1_mod4 fixed rfl rfl fail c hw hl hn hnz (memInit_no_spin fixed fail c ha hnz) h))

/-- **C08 `mem_inv`, refactorization**: from an idle allocator, `LUMemInit` with
`fact = SamePattern_SameRowPerm` and any new `lwork > 0` either returns a nonzero value or establishes the
invariant again — although it allocates none of the eleven arrays but the two work arrays. -/
theorem mem_inv_init_reuse (fail : Nat → Bool) (c : Cfg) (hw : c.w.Ok) (s : St) (hid : Idle c.w s) (hl : 0 < c.lwork)
    (hn : c.n = s.n) (hn1 : 1 ≤ c.n) (hI : 0 ≤ isize c) (hD : 0 ≤ dsize c)
    (h : (memInitReuse fail c s).info = 0) : Inv c.w (memInitReuse fail c s).st :=
  memInitReuse_inv fail c hw s hid hl hn hn1 hI hD h

/-- **C08 `mem_inv`, every state reachable in a refactorization** (`mem_inv_reachable` for re-adopted
storage) -/
theorem mem_inv_reachable_reuse (fail : Nat → Bool) (c : Cfg) (hw : c.w.Ok) (hld : c.w.liw ≤ c.w.dw) (s : St)
    (hid : Idle c.w s) (hl : 0 < c.lwork) (hn : c.n = s.n) (hn1 : 1 ≤ c.n) (hI : 0 ≤ isize c) (hD : 0 ≤ dsize c)
    (h : (memInitReuse fail c s).info = 0) (ops : List Op) :
    Inv c.w (run fixed c.w fail (memInitReuse fail c s).st ops) :=
  mem_inv c.w hw hld fail ops _ (mem_inv_init_reuse fail c hw s hid hl hn hn1 hI hD h)

/-- **… and after `LUWorkFree` the allocator is idle again**, so the next refactorization starts from the
hypotheses of this one -/
theorem idle_after_reuse (fail : Nat → Bool) (c : Cfg) (hw : c.w.Ok) (hld : c.w.liw ≤ c.w.dw) (s : St)
    (hid : Idle c.w s) (hl : 0 < c.lwork) (hn : c.n = s.n) (hn1 : 1 ≤ c.n) (hI : 0 ≤ isize c) (hD : 0 ≤ dsize c)
    (h : (memInitReuse fail c s).info = 0) (ops : List Op) :
    Idle c.w (workFree (run fixed c.w fail (memInitReuse fail c s).st ops)) ∧
      (workFree (run fixed c.w fail (memInitReuse fail c s).st ops)).n = s.n := by
  obtain ⟨hi, hnn, ht⟩ := run_keeps c.w hw hld fail ops _ (mem_inv_init_reuse fail c hw s hid hl hn hn1 hI hD h)
  exact ⟨idle_of_inv_workFree c.w _ hi (ht ((memInitReuse_top1 fail c s).symm ▸ hid.al4)),
    (workFree_n _).trans (hnn.trans ((memInitReuse_n fail c s).trans hn))⟩

/-- one refactorization in a caller workspace: what the call passes and the requests its factor routine issues -/
structure Refact where
  cfg : Cfg
  ops : List Op

/-- the allocator after the refactorization `r` started in state `s`: re-adopting init, the requests, `LUWorkFree` -/
def refactor (fail : Nat → Bool) (s : St) (r : Refact) : St :=
  workFree (run fixed r.cfg.w fail (memInitReuse fail r.cfg s).st r.ops)

/-- every `LUMemInit` of a chain of refactorizations returns 0 -/
def chainOk (fail : Nat → Bool) : St → List Refact → Prop
  | _, [] => True
  | s, r :: rs => (memInitReuse fail r.cfg s).info = 0 ∧ chainOk fail (refactor fail s r) rs

/-- **C08 `mem_inv`, a whole history of refactorizations in one work area**: any number of
`SamePattern_SameRowPerm` calls, each with its own `lwork > 0`, panel size and tuning and its own request
sequence — as long as every `LUMemInit` returned 0 the allocator is idle between any two of them; hence
(`mem_inv_reachable_reuse`, `mem_confined_reuse`) every state inside every one of them satisfies the
invariant and keeps every array inside the buffer. -/
theorem mem_inv_history (fail : Nat → Bool) (w : Words) (hw : w.Ok) (hld : w.liw ≤ w.dw) (rs : List Refact) :
    ∀ (s : St), Idle w s →
      (∀ r ∈ rs, r.cfg.w = w ∧ 0 < r.cfg.lwork ∧ r.cfg.n = s.n ∧ 1 ≤ r.cfg.n ∧ 0 ≤ isize r.cfg ∧ 0 ≤ dsize r.cfg) →
      chainOk fail s rs → Idle w (rs.foldl (refactor fail) s) := by
  intro s hs hall
  -- every call of the history finds an idle allocator with the `n` of the first
  suffices h : ∀ x, Idle w x → x.n = s.n → chainOk fail x rs → Idle w (rs.foldl (refactor fail) x) from h s hs rfl
  induction rs with
  | nil => exact fun x hx _ _ => hx
  | cons r rs ih =>
    intro x hx hxn ⟨h0, hrest⟩
    obtain ⟨hw', hl, hn, hn1, hI, hD⟩ := hall r List.mem_cons_self
    subst hw'
    obtain ⟨hidle, hnn⟩ := idle_after_reuse fail r.cfg hw hld x hx hl (hn.trans hxn.symm) hn1 hI hD h0 r.ops
    exact ih (fun r' hr' => hall r' (List.mem_cons_of_mem _ hr')) _ hidle (hnn.trans hxn) hrest

/-- **C08 `mem_confined`, refactorization**: all eleven arrays — nine of them re-adopted, two newly taken
from the tail — lie inside `[0, size)` of the NEW size and are pairwise disjoint, in every state of the
refactorization. -/
theorem mem_confined_reuse (fail : Nat → Bool) (c : Cfg) (hw : c.w.Ok) (hld : c.w.liw ≤ c.w.dw) (s : St)
    (hid : Idle c.w s) (hl : 0 < c.lwork) (hn : c.n = s.n) (hn1 : 1 ≤ c.n) (hI : 0 ≤ isize c) (hD : 0 ≤ dsize c)
    (h : (memInitReuse fail c s).info = 0) (ops : List Op) :
    (∀ b ∈ (run fixed c.w fail (memInitReuse fail c s).st ops).blocks c.w,
        0 ≤ b.1 ∧ 0 ≤ b.2 ∧ b.1 + b.2 ≤ (run fixed c.w fail (memInitReuse fail c s).st ops).size) ∧
      ((run fixed c.w fail (memInitReuse fail c s).st ops).blocks c.w).Pairwise Disjoint :=
  mem_confined c.w hw hld fail ops _ (mem_inv_init_reuse fail c hw s hid hl hn hn1 hI hD h)

/-- **C08 `shortage_reported`, refactorization, allocation phase**: if the re-adopting `LUMemInit` does not
return 0 (the new work area is too short for what is already in it plus the two work arrays; or a library
allocation failed) it returns a value larger than `n` — in either storage mode. -/
theorem shortage_reported_init_reuse (fail : Nat → Bool) (c : Cfg) (hw : c.w.Ok) (s : St) (hg : IdleGood c.w s)
    (hn1 : 1 ≤ c.n) (hI : 0 ≤ isize c) (hD : 0 ≤ dsize c)
    (h : (memInitReuse fail c s).info ≠ 0) : c.n < (memInitReuse fail c s).info := by
  obtain ⟨hL, hU, hS, _⟩ := hg.caps
  rw [memInitReuse_eq] at h ⊢
  exact finish_info_gt fail c _ _ _ _ hw hn1 hI hD hS hU hL h

/-- **C08 `shortage_reported`, refactorization, growth**: a request that cannot be met while re-adopted
storage is being grown leaves the state exactly as it was and returns `memory_usage + n > n`. -/
theorem shortage_reported_reuse (fail : Nat → Bool) (c : Cfg) (hw : c.w.Ok) (hld : c.w.liw ≤ c.w.dw) (s : St)
    (hid : Idle c.w s) (hl : 0 < c.lwork) (hn : c.n = s.n) (hn1 : 1 ≤ c.n) (hI : 0 ≤ isize c) (hD : 0 ≤ dsize c)
    (h : (memInitReuse fail c s).info = 0) (ops : List MemType) (t : MemType) :
    let x := run fixed c.w fail (memInitReuse fail c s).st (ops.map Op.xpand)
    (memXpand fixed c.w fail t x).2 ≠ 0 → (memXpand fixed c.w fail t x).1 = x ∧ c.n < (memXpand fixed c.w fail t x).2 := by
  intro x hfail
  obtain ⟨hx, hxn, _⟩ := run_keeps c.w hw hld fail (ops.map Op.xpand) _
    (mem_inv_init_reuse fail c hw s hid hl hn hn1 hI hD h)
  have hxn : x.n = c.n := hxn.trans (memInitReuse_n fail c s)
  have := shortage_reported c.w hw fail t x hx (by omega) hfail
  rwa [hxn] at this

/-- **no hang while re-adopted storage grows**: every `while ( new_next > maxlen ) LUMemXpand` loop of a
refactorization ends within `new_next - maxlen` rounds. -/
theorem growth_loop_terminates_reuse (fail : Nat → Bool) (c : Cfg) (hw : c.w.Ok) (hld : c.w.liw ≤ c.w.dw) (s : St)
    (hid : Idle c.w s) (hl : 0 < c.lwork) (hn : c.n = s.n) (hn1 : 1 ≤ c.n) (hI : 0 ≤ isize c) (hD : 0 ≤ dsize c)
    (h : (memInitReuse fail c s).info = 0) (t : MemType) (ht : t ≠ .USUB) (need : Int) :
    growUntil fixed c.w fail t need (need - (memInitReuse fail c s).st.nz t).toNat (memInitReuse fail c s).st ≠ none :=
  growth_loop_terminates c.w hw hld fail t ht need _ (mem_inv_init_reuse fail c hw s hid hl hn hn1 hI hD h)
    ((memInitReuse_n fail c s).symm ▸ hn1)

/-! ### Why `stack.used` / `stack.top1` must be kept: what `memInitReuseReset` (Slu/Model/Mem.lean), which zeroes them as
a call of `SetupSpace` would, breaks -/

/-- a 1x1 problem in a 256-byte work area: `LUMemInit` lays out 40 bytes of pointer arrays, LUSUP at 40, UCOL at
56, LSUB at 72, USUB at 80, `top1 = 88` -/
def cfgR : Cfg := { m := 1, n := 1, annz := 1, panel := 1, maxsuper := 1, rowblk := 1, fill := 2, lwork := 256 }

/-- the allocator after the first factorization (one LUSUP expansion on the way: UCOL, LSUB, USUB moved up by 8
bytes) and `LUWorkFree` -/
def idleR : St := workFree (memXpand_fixed w8 noFail .LUSUP (memInit_fixed noFail cfgR).st).1

def addrStore : Store Int := fun _ a => a

/-- **resetting `used`/`top1` loses bytes**: `idleR` has LUSUP (3 entries) at 40, UCOL at 64, LSUB at 80, USUB at
88, `used = top1 = 96`.  After the correct re-adopting init a LUSUP expansion (3 -> 4 entries) moves UCOL, LSUB,
USUB up by 8 bytes together with their contents: byte 0 of UCOL reads the same before and after.  After the init
that zeroes `used`/`top1` the same request is granted as well and advances the three base pointers, but the
byte count of the move is `top1 - offset(UCOL) = 0 - 64 < 0`, so nothing is copied: byte 0 of UCOL now reads what
was its byte 8; and `top1 = 8` lies below every array (the clause `offB + nzumax * sizeof(int_t) ≤ top1` of `Inv`
is false), so every later fullness test ignores the 104 bytes the factors occupy. -/
theorem reuse_reset_loses_bytes :
    (memInitReuse noFail cfgR idleR).info = 0 ∧ (memInitReuseReset noFail cfgR idleR).info = 0 ∧
    (let s0 := (memInitReuse noFail cfgR idleR).st
     let s1 := (memXpand_fixed w8 noFail .LUSUP s0).1
     (memXpand_fixed w8 noFail .LUSUP s0).2 = 0 ∧ s1.offU = s0.offU + 8 ∧
       rbyte (moveStore w8 .LUSUP 0 s0 s1 addrStore) s1 .UCOL 0 = rbyte addrStore s0 .UCOL 0) ∧
    (let s0 := (memInitReuseReset noFail cfgR idleR).st
     let s1 := (memXpand_fixed w8 noFail .LUSUP s0).1
     (memXpand_fixed w8 noFail .LUSUP s0).2 = 0 ∧ s1.offU = s0.offU + 8 ∧
       rbyte (moveStore w8 .LUSUP 0 s0 s1 addrStore) s1 .UCOL 0 ≠ rbyte addrStore s0 .UCOL 0 ∧
       s1.top1 = 8 ∧ ¬ (s1.offB + s1.capU * w8.liw ≤ s1.top1)) := by
  decide

/-- the state the resetting init leaves does not satisfy the invariant (so none of the theorems above applies
to it) -/
theorem reuse_reset_breaks_inv : ¬ Inv w8 (memInitReuseReset noFail cfgR idleR).st :=
  fun h => absurd h.c5 (by decide)

/-- **… and it overruns**: with a new work area of 144 bytes the correct init reports the shortage (`info > n`:
the factors occupy 96 bytes, the two work arrays need 52 more); the init that forgets the head of the stack
returns 0 and places `dwork` at offset 88, on top of USUB (88 … 96). -/
theorem reuse_reset_overruns :
    cfgR.n < (memInitReuse noFail { cfgR with lwork := 144 } idleR).info ∧
    (memInitReuseReset noFail { cfgR with lwork := 144 } idleR).info = 0 ∧
    (let s0 := (memInitReuseReset noFail { cfgR with lwork := 144 } idleR).st
     s0.dwork = 88 ∧ s0.offB = 88 ∧ s0.top2 < s0.offB + s0.capU * w8.liw) := by
  decide

/-! ### Non-vacuity -/

example : Words.Ok w8 := w8_ok
example : w8.liw ≤ w8.dw := by decide

/-- the hypotheses of the refactorization theorems are satisfiable: `idleR` — `LUMemInit` in a 256-byte work area,
one LUSUP expansion, `LUWorkFree` — is idle (by the general theorems), … -/
theorem idleR_idle : Idle w8 idleR :=
  idle_after_first noFail cfgR w8_ok (by decide) (by decide) (by decide)
    (by decide) (by decide) (by decide) (by decide) (by decide) [.xpand .LUSUP]

/-- … the re-adopting init applied to it returns 0 for the same 256 bytes, and the state it leaves is the
expected one: arrays and `top1` where they were, `used = 96 + 28 + 24 + 4`, `num_expansions = 1` -/
example : (memInitReuse noFail cfgR idleR).info = 0 ∧ cfgR.n = idleR.n ∧
    (let s := (memInitReuse noFail cfgR idleR).st
     (s.used, s.top1, s.top2, s.size) = (152, 96, 200, 256) ∧ (s.offL, s.offU, s.offS, s.offB) = (40, 64, 80, 88) ∧
     (s.capL, s.capU, s.capS, s.capB) = (3, 2, 2, 2) ∧ s.nexp = 1) := by decide

example : Inv w8 (memInitReuse noFail cfgR idleR).st :=
  mem_inv_init_reuse noFail cfgR w8_ok idleR idleR_idle (by decide) (by decide)
    (by decide) (by decide) (by decide) (by decide)

example : chainOk noFail idleR [⟨cfgR, [.xpand .LUSUP, .xpand .UCOL, .xpand .USUB]⟩, ⟨{ cfgR with lwork := 240 }, [.xpand .LSUB]⟩] :=
  ⟨by decide, by decide, trivial⟩

end Slu.Mem
