import Slu.Model.Interfere
import Slu.Gen.Census
import SluProofs.Lemmas.Interfere
import SluProofs.Lemmas.StrKey
/-
C09 — Calls are reentrant, thread-safe and deterministic.

Two kinds of obligations:

* the *logic* of non-interference, for the abstract semantics of `Slu/Model/Interfere.lean`, for any
  number of calls, any control-state type, any value type, any interleaving:
  `disjoint_steps_commute`, `interleaving_eq_serial`, `interleaving_eq_serial_order`, `determinism`,
  `determinism_history`;
* the tie of their hypothesis (`NonInterf`: no call writes what another call touches) to the source
  text: `census_clean` — every object with static storage duration that is not `const`, as listed by
  the translator `tools/census.py` from the *current* working tree (`Slu/Gen/Census.lean` is
  regenerated on every run), matches an entry of the reviewed allow-list below, each with the
  condition under which it is harmless.  A new `static` work buffer or counter makes `decide` fail.

Not modelled (trusted base): libc `malloc` (thread-safe, result independent of addresses), BLAS
internals, hardware memory model.  Those are searched at run time by the `threads` family (TSan).
-/
namespace Slu.C09
open Slu.Interfere Slu.Gen

variable {ι σ V : Type} [DecidableEq ι]

/-- **Two steps of different calls commute** when neither writes what the other may touch. -/
theorem disjoint_steps_commute (ps : ι → Proc σ V) (hR : ∀ i, (ps i).Respects) (hD : NonInterf ps)
    {i j : ι} (hij : i ≠ j) (c : Config ι σ V) :
    stepAt ps j (stepAt ps i c) = stepAt ps i (stepAt ps j c) := by
  -- two interleavings in which every call makes the same number of steps
  exact run_eq_of_runAlone_eq ps hR hD c [i, j] [j, i] fun k => by rw [(List.Perm.swap j i []).count_eq k]

/-- **Any two complete interleavings agree** (neither need be serial; the serial case is
`interleaving_eq_serial_order`).  For calls that respect their footprints and do not
write what another call touches, every schedule that runs all calls to their return ends in the same
configuration: same store (hence same outputs) and same control states.  Each call's run-alone trace
has returned after either number of steps, so it is in the same state at both (`run_eq_of_runAlone_eq`). -/
theorem interleaving_eq_serial (ps : ι → Proc σ V) (hR : ∀ i, (ps i).Respects) (hD : NonInterf ps)
    (c : Config ι σ V) (s₁ s₂ : List ι)
    (h₁ : Finished ps (run ps s₁ c)) (h₂ : Finished ps (run ps s₂ c)) :
    run ps s₁ c = run ps s₂ c := by
  refine run_eq_of_runAlone_eq ps hR hD c s₁ s₂ fun i => ?_
  exact runAlone_eq_of_stuck _ _ (stuck_of_run ps hR hD i s₁ c c.st (agreeOn_refl _ _) (h₁ i))
    (stuck_of_run ps hR hD i s₂ c c.st (agreeOn_refl _ _) (h₂ i))

/-- **Any complete interleaving equals any serial execution**: the instance of `interleaving_eq_serial` in which the
second schedule runs the calls one after the other in the order `order` (each for `k i` steps, enough to return) -/
theorem interleaving_eq_serial_order (ps : ι → Proc σ V) (hR : ∀ i, (ps i).Respects) (hD : NonInterf ps)
    (c : Config ι σ V) (sched order : List ι) (k : ι → Nat)
    (h₁ : Finished ps (run ps sched c)) (h₂ : Finished ps (run ps (serial order k) c)) :
    run ps sched c = run ps (serial order k) c :=
  interleaving_eq_serial ps hR hD c sched (serial order k) h₁ h₂

/-- **Determinism / reentrancy.**  The same call (same footprints, same transition function, same
initial control state) placed in two *different* systems — other calls, other schedules, other
contents of every location outside its footprint ("whatever was solved before or in between") —
ends, when it has been scheduled to its return in both, in the same control state and with the same
contents of everything it may touch. -/
theorem determinism {ι' : Type} [DecidableEq ι']
    (ps : ι → Proc σ V) (qs : ι' → Proc σ V)
    (hR : ∀ i, (ps i).Respects) (hR' : ∀ i, (qs i).Respects) (hD : NonInterf ps) (hD' : NonInterf qs)
    (i : ι) (i' : ι') (hsame : ps i = qs i')
    (c : Config ι σ V) (c' : Config ι' σ V) (hl : c.loc i = c'.loc i') (hs : agreeOn (ps i).acc c.st c'.st)
    (s : List ι) (s' : List ι')
    (hf : (ps i).step ((run ps s c).loc i) (run ps s c).st = none)
    (hf' : (qs i').step ((run qs s' c').loc i') (run qs s' c').st = none) :
    (run ps s c).loc i = (run qs s' c').loc i' ∧ agreeOn (ps i).acc (run ps s c).st (run qs s' c').st := by
  obtain ⟨p1, p2⟩ := run_projection ps hR hD i s c c.st (agreeOn_refl _ _)
  have hs' : agreeOn (qs i').acc c'.st c.st := hsame ▸ agreeOn_symm hs
  obtain ⟨q1, q2⟩ := run_projection qs hR' hD' i' s' c' c.st hs'
  have stuck' := stuck_of_run qs hR' hD' i' s' c' c.st hs' hf'
  rw [← hsame, ← hl] at q1 q2 stuck'
  -- both run-alone traces of the call, from the same start, have returned
  have key := runAlone_eq_of_stuck (ps i) (c.loc i, c.st) (stuck_of_run ps hR hD i s c c.st (agreeOn_refl _ _) hf) stuck'
  exact ⟨by rw [p1, q1, key], fun x hx => by rw [p2 x hx, q2 x hx, key]⟩

/-- sequential form: the call `p` executed after an arbitrary history `before` of unrelated calls
(one thread, calls one after the other) ends as when executed on its own first -/
theorem determinism_history (ps : ι → Proc σ V) (hR : ∀ i, (ps i).Respects) (hD : NonInterf ps)
    (i : ι) (c : Config ι σ V) (before : List ι) (hb : i ∉ before) (k : Nat) :
    (run ps (before ++ List.replicate k i) c).loc i = ((ps i).runAlone k (c.loc i, c.st)).1 ∧
    agreeOn (ps i).acc (run ps (before ++ List.replicate k i) c).st ((ps i).runAlone k (c.loc i, c.st)).2 := by
  have := run_projection ps hR hD i (before ++ List.replicate k i) c c.st (agreeOn_refl _ _)
  have hc : (before ++ List.replicate k i).count i = k := by
    rw [List.count_append, List.count_eq_zero_of_not_mem hb, List.count_replicate_self]; omega
  rw [hc] at this
  exact this

/-! ### Non-vacuity: a concrete system satisfying all hypotheses -/

theorem axpy_respects (base n : Nat) (a : Int) : (axpyProc base n a).Respects where
  frame := by
    intro l s l' s' h x hx
    simp only [axpyProc] at h hx
    split at h
    · simp only [Option.some.injEq, Prod.mk.injEq] at h
      obtain ⟨_, rfl⟩ := h
      have : x ≠ base + n + l := by
        intro e; subst e
        simp at hx; omega
      simp [this]
    · exact absurd h (by simp)
  locality := by
    intro l s t h
    simp only [axpyProc]
    by_cases hl : l < n
    · right
      refine ⟨l + 1, _, _, by rw [if_pos hl], by rw [if_pos hl], ?_⟩
      intro x hx
      have h0 : s 0 = t 0 := h 0 (by simp [Proc.acc, axpyProc])
      have h1 : s (base + l) = t (base + l) := h _ (by simp [Proc.acc, axpyProc]; omega)
      have h2 : s (base + n + l) = t (base + n + l) := h _ (by simp [Proc.acc, axpyProc]; omega)
      by_cases hx' : x = base + n + l
      · simp [hx', h0, h1, h2]
      · simp only [hx', if_false]; exact h x (by simp [Proc.acc]; right; exact hx)
    · left; simp [hl]

/-- two calls on distinct data (cells 10..15 and 20..25), sharing the read-only tuning cell 0 -/
def twoCalls : Bool → Proc Nat Int := fun b => if b then axpyProc 10 3 2 else axpyProc 20 3 (-1)

example : (∀ b, (twoCalls b).Respects) ∧ NonInterf twoCalls := by
  refine ⟨fun b => by cases b <;> simp [twoCalls] <;> exact axpy_respects _ _ _, ?_⟩
  intro i j hij x hx
  cases i <;> cases j
  · exact absurd rfl hij
  · simp [twoCalls, axpyProc, Proc.acc] at hx ⊢; omega
  · simp [twoCalls, axpyProc, Proc.acc] at hx ⊢; omega
  · exact absurd rfl hij

/-- and the two interleavings `t f t f t f t f` / `f f f f t t t t` indeed give the same outputs -/
example :
    let c : Config Bool Nat Int := { loc := fun _ => 0, st := fun x => (x : Int) % 7 }
    let r₁ := run twoCalls [true, false, true, false, true, false, true, false] c
    let r₂ := run twoCalls (serial [false, true] (fun _ => 4)) c
    (List.range 30).map r₁.st = (List.range 30).map r₂.st ∧ r₁.loc true = r₂.loc true ∧ r₁.loc false = r₂.loc false := by
  decide +kernel

/-! ### The census of writable static storage (regenerated from the source on every run)

Each allow-list entry names one object (file, name) and the condition, checked on the regenerated
record, under which it cannot make two calls interfere. -/

structure Allowed where
  file : String
  name : String
  cond : StaticObj → Bool
  why : String

/-- removed by `#if 0`: not part of any build -/
def ifZero (o : StaticObj) : Bool := o.kind == "inactive" && o.insideIfZero && !o.inObject
/-- removed by the preprocessor in the verified configuration (debug-only code) and absent from the objects -/
def inactiveDebug (o : StaticObj) : Bool :=
  o.kind == "inactive" && !o.inObject &&
  (o.note == "removed by the preprocessor: #if defined(DEBUG)" || o.note == "removed by the preprocessor: #if ( DEBUGlevel>=1 )")
/-- verification hook: exists only with the guard on, the library only reads it -/
def hookReadOnly (o : StaticObj) : Bool :=
  o.guardOnly && !o.written && !o.escapes && !o.addrTaken && !o.inObject
/-- compiled, but never written and its address never reaches a writer -/
def neverWritten (o : StaticObj) : Bool := !o.written && !o.escapes

def iluA (f : String) : Allowed :=
  { file := f, name := "A", cond := ifZero,
    why := "`static T *A` used by `_compare_` only; declaration and all uses are inside `#if 0` (quick-select replaced the qsort)" }
def dbgCounter (f n : String) : Allowed :=
  { file := f, name := n, cond := inactiveDebug,
    why := "drop counter compiled only with -DDEBUG, which is not a documented/verified configuration; a DEBUG build is NOT thread-safe (recorded as a limit of the claim)" }

def allowList : List Allowed := [
  iluA "SRC/ilu_ccopy_to_ucol.c", iluA "SRC/ilu_dcopy_to_ucol.c", iluA "SRC/ilu_scopy_to_ucol.c", iluA "SRC/ilu_zcopy_to_ucol.c",
  iluA "SRC/ilu_cdrop_row.c", iluA "SRC/ilu_ddrop_row.c", iluA "SRC/ilu_sdrop_row.c", iluA "SRC/ilu_zdrop_row.c",
  { file := "SRC/mc64ad.c", name := "c__1", cond := fun o => ifZero o || (neverWritten o && o.kind == "file-static"),
    why := "f2c constant table; today inside `#if 0` (every routine declares its own local `c__1`); if re-enabled it must stay never-written with no escape to a writer" },
  { file := "SRC/mc64ad.c", name := "c__2", cond := fun o => ifZero o || (neverWritten o && o.kind == "file-static"),
    why := "as c__1" },
  dbgCounter "SRC/cgsitrf.c" "num_drop_L", dbgCounter "SRC/dgsitrf.c" "num_drop_L",
  dbgCounter "SRC/sgsitrf.c" "num_drop_L", dbgCounter "SRC/zgsitrf.c" "num_drop_L",
  dbgCounter "SRC/ilu_ccopy_to_ucol.c" "num_drop_U", dbgCounter "SRC/ilu_dcopy_to_ucol.c" "num_drop_U",
  dbgCounter "SRC/ilu_scopy_to_ucol.c" "num_drop_U", dbgCounter "SRC/ilu_zcopy_to_ucol.c" "num_drop_U",
  { file := "SRC/memory.c", name := "superlu_malloc_total", cond := inactiveDebug,
    why := "byte counter of the debugging allocator, compiled only with DEBUGlevel>=1 (default 0); a DEBUGlevel>=1 build is NOT thread-safe (limit of the claim)" },
  { file := "SRC/sp_ienv.c", name := "slu_verif_ienv", cond := hookReadOnly,
    why := "hook H1 (tuning override), exists only under SLU_VERIF; read by sp_ienv, written only by the harness between calls (never while library threads run)" },
  { file := "SRC/sp_ienv.c", name := "slu_verif_pivot_hook", cond := hookReadOnly,
    why := "hook H2 (pivot event callback pointer), exists only under SLU_VERIF; read by [sdcz]pivotL, set by the harness before threads start" },
  { file := "SRC/sp_ienv.c", name := "slu_verif_ilu_pivot_hook", cond := hookReadOnly,
    why := "hook H2 (pivot event callback pointer), exists only under SLU_VERIF; read by ilu_[sdcz]pivotL, set by the harness before threads start" },
  { file := "SRC/sp_ienv.c", name := "slu_verif_coldfs_hook", cond := hookReadOnly,
    why := "hook H3 (callback pointer reporting the arguments of each column_dfs call), exists only under SLU_VERIF; read by [sdcz]gstrf, set by the single-threaded family coldfsreal around its own factorization and NULL otherwise" }
]

/-- the two routines whose documented purpose is to FILL the caller's options structure -/
def optionSetters : List String := ["set_default_options(options)", "ilu_set_default_options(options)"]

/-- `options` is an input of every other routine: it neither stores through the pointer (directly or through a
callee) nor keeps it.  A routine that did would carry state from one call into every later call that shares the
caller's structure — interference without any static variable. -/
def optionsParamOk (o : StaticObj) : Bool :=
  (!o.written && !o.escapes) || (o.file == "SRC/util.c" && optionSetters.contains o.name && !o.escapes)

def entryOk (o : StaticObj) : Bool :=
  if o.kind == "options-param" then optionsParamOk o
  else if o.kind == "impure-call" then false     -- no call of getenv / rand / strtok / setlocale / … anywhere in the library
  else allowList.any fun a => a.file == o.file && a.name == o.name && a.cond o

/-- **The census is clean**: the translator succeeded on the current source, it looked at the whole
library, and every writable object with static storage duration it found is a reviewed, harmless
one.  (With the guard off the list of such objects *in the compiled library* is empty:
`census_objects_empty`.)  `230 ≤ censusFiles` is a floor a little under the 241 files of the pinned tree: the census
cannot silently become partial. -/
theorem census_clean : censusOk = true ∧ 230 ≤ censusFiles ∧ census.all entryOk = true := by
  -- compared by `key`, the names of a record are read once, not once per entry of the allow-list
  simp only [List.all_eq_true, entryOk, optionsParamOk, beq_key, contains_key]
  decide +kernel

/-- nothing writable with static storage duration survives in the guard-off optimised objects -/
theorem census_objects_empty : (census.filter fun o => o.inObject) = [] := by
  decide +kernel

/-- no compiled object of the census is written by the library or has its address escape -/
theorem census_no_writer :
    (census.filter fun o => o.kind != "inactive" && o.kind != "options-param" && o.kind != "impure-call" && (o.written || o.escapes)) = [] := by
  decide +kernel

/-- **No library routine touches process-wide libc state**: no call of `getenv`/`setenv`, the `rand` family,
`strtok`, `setlocale`, `localtime`, `signal`, … (the translator's list `IMPURE_LIBC`) occurs in any compiled
function — a tuning value read from the environment on every call would make two identical calls differ whenever
another component changes the environment in between. -/
theorem no_process_state_calls : (census.filter fun o => o.kind == "impure-call") = [] := by
  decide +kernel

/-- **The options structure is read-only** for every library routine that receives it (29 routines on the pinned
tree: the drivers, the factorizations, `sp_preorder`, `ilu_?drop_row`, the printers; `25 ≤` is a floor a little under
that count, so that the census cannot silently lose them), the two default-setters excepted; those two are the only
writers, listed in the order of the census (file, then name), which is `optionSetters` reversed. -/
theorem options_read_only :
    25 ≤ (census.filter fun o => o.kind == "options-param").length ∧
    (census.filter fun o => o.kind == "options-param" && (o.written || o.escapes)).map (·.name) = optionSetters.reverse := by
  decide +kernel

end Slu.C09
