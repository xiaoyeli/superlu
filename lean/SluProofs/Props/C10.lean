import Slu.Model.Order
import SluProofs.Lemmas.Order
import SluProofs.Lemmas.EtreeDef
import SluProofs.Lemmas.Relax
import SluProofs.Lemmas.HeapRelax
import SluProofs.Lemmas.PostorderNR
/-
C10 — Column orderings are permutations; elimination tree exact and postordered.

Theorems about the model `Slu.Order` (compared with get_perm_c.c / sp_coletree.c / sp_preorder.c for
exact equality on every run).  All statements hold for every size and every pattern — no bound on m,
n, no well-formedness assumption on the row indices unless stated.  `mmd.c` / `colamd.c` are oracles:
their output enters `spPreorder_perm` through the hypothesis `isPerm A.n p`, which the driver evaluates
on every run with the executable checker `isPerm`, sound and complete by `isPerm_iff_bijective`.

Relaxed supernodes.  `relaxSnode_ranges` (relax_snode.c) is about a postordered forest: the tree `sp_preorder` returns
unless SymmetricMode (`spPreorder_subtrees`).  `heapRelaxSnode_ranges` (heap_relax_snode.c) is about ANY heap-ordered
forest: the tree `sp_preorder` returns in SymmetricMode; its clauses together determine `relax_end` completely (a
maximal small subtree that is not consecutive contributes its leaves as supernodes of one column).  What the model
does not contain (so no theorem speaks about it): the routine temporarily overwrites the caller's `et[]` with the
relabelled tree and restores it at the end, and it allocates and frees `post`/`iwork`; both are tied by the exact
comparison of `et` before/after and of the outputs (family `order`) and by the allocation ledger (C19).

Liu's algorithm = the definition (Lemmas/EtreeDef.lean): both return the elimination tree `IsEtree` of their graph
(`liu_least`, `etreeOfGraph_walk_least`), which is unique (`IsEtree.unique`).
-/
namespace Slu.Order

/-- **Checker soundness and completeness.**  `isPerm n p` holds exactly when `p` has length `n` and
`i ↦ p[i]` is a bijection of `{0..n-1}`. -/
theorem isPerm_iff_bijective (n : Nat) (p : Array Nat) :
    isPerm n p = true ↔
      p.size = n ∧ (∀ i < n, p.getD i 0 < n) ∧
      (∀ i < n, ∀ j < n, p.getD i 0 = p.getD j 0 → i = j) ∧ (∀ v < n, ∃ i < n, p.getD i 0 = v) :=
  isPerm_iff n p

/-- **Structure of AᵀA** (get_perm_c.c:getata).  For every pattern: the result is an n-column compressed
matrix with consistent pointers, no column holds a duplicate, and row `i` is present in column `j` iff
`i ≠ j` and columns `i` and `j` of A share a row. -/
theorem getata_spec (A : Pat) :
    (getata A).n = A.n ∧ (getata A).colptr.size = A.n + 1 ∧ (getata A).colptr.getD 0 0 = 0 ∧
    (∀ j < A.n, (getata A).colptr.getD (j + 1) 0 = (getata A).colptr.getD j 0 + ((getata A).col j).length) ∧
    (getata A).colptr.getD A.n 0 = (getata A).rowind.size ∧
    (∀ j < A.n, ((getata A).col j).Nodup) ∧
    (∀ j < A.n, ∀ i, i ∈ (getata A).col j ↔ i ≠ j ∧ i < A.n ∧ ∃ k, k ∈ A.col i ∧ k ∈ A.col j) := by
  obtain ⟨h0, h1, h2, h3, h4, hc⟩ := ofCols_range A.n (ataCol A.n A.col) (P := getata A) rfl
  refine ⟨h0, h1, h2, h3, h4, fun j hj => ?_, fun j hj i => ?_⟩
  · rw [hc j hj]; exact nodup_dedupFrom _ _
  · rw [hc j hj]; exact mem_ataCol _ _ _ _

/-- **Structure of Aᵀ+A** (get_perm_c.c:at_plus_a).  Row `i` is present in column `j` iff `i ≠ j` and
`a_ij` or `a_ji` is stored; no duplicates; consistent pointers. -/
theorem atPlusA_spec (A : Pat) :
    (atPlusA A).n = A.n ∧ (atPlusA A).colptr.size = A.n + 1 ∧ (atPlusA A).colptr.getD 0 0 = 0 ∧
    (∀ j < A.n, (atPlusA A).colptr.getD (j + 1) 0 = (atPlusA A).colptr.getD j 0 + ((atPlusA A).col j).length) ∧
    (atPlusA A).colptr.getD A.n 0 = (atPlusA A).rowind.size ∧
    (∀ j < A.n, ((atPlusA A).col j).Nodup) ∧
    (∀ j < A.n, ∀ i, i ∈ (atPlusA A).col j ↔ i ≠ j ∧ (i ∈ A.col j ∨ (i < A.n ∧ j ∈ A.col i))) := by
  obtain ⟨h0, h1, h2, h3, h4, hc⟩ := ofCols_range A.n (apaCol A.n A.col) (P := atPlusA A) rfl
  refine ⟨h0, h1, h2, h3, h4, fun j hj => ?_, fun j hj i => ?_⟩
  · rw [hc j hj]; exact nodup_dedupFrom _ _
  · rw [hc j hj]; exact mem_apaCol _ _ _ _

/-- **Heap order of the column elimination tree** (sp_coletree.c).  Whatever the pattern, every parent pointer
produced by Liu's algorithm is the root marker `nc` or a larger column index: it is the least later column with a
property (`liu_least`), or `nc`. -/
theorem coletree_heap (nr nc : Nat) (col : Nat → List Nat) :
    (coletree nr nc col).size = nc ∧ Heap nc (coletree nr nc col) :=
  ⟨(liu_least nc _).1, coletree_isHeap nr nc col⟩

theorem symetree_heap (n : Nat) (col : Nat → List Nat) :
    (symetree n col).size = n ∧ Heap n (symetree n col) :=
  ⟨(liu_least n col).1, (liu_least n col).2.heap⟩

/-- **Postorder** (sp_coletree.c:TreePostorder).  On every heap-ordered forest with root marker `n`:
`post` has `n+1` entries with `post[n] = n`, is a permutation (of `0..n` and, restricted, of `0..n-1`),
every parent is numbered after its child, and the descendants of every vertex occupy a block of
consecutive numbers that ends at the vertex. -/
theorem treePostorder_spec (n : Nat) (parent : Array Nat) (h : Heap n parent) :
    (treePostorder n parent).size = n + 1 ∧ (treePostorder n parent).getD n 0 = n ∧
    isPerm (n + 1) (treePostorder n parent) = true ∧
    isPerm n (firstN n (treePostorder n parent)) = true ∧
    (∀ v < n, (treePostorder n parent).getD v 0 < (treePostorder n parent).getD (parent.getD v 0) 0) ∧
    (∀ v ≤ n, ∃ lo, ∀ u ≤ n, Desc n parent u v ↔
      lo ≤ (treePostorder n parent).getD u 0 ∧
      (treePostorder n parent).getD u 0 ≤ (treePostorder n parent).getD v 0) := by
  have P := isPost_treePostorder h
  exact ⟨treePostorder_size n parent, post_root h,
    isPerm_of_injective _ _ (treePostorder_size n parent) (fun i hi => post_lt h i (Nat.le_of_lt_succ hi))
      (fun i hi j hj e => post_inj h i j (Nat.le_of_lt_succ hi) (Nat.le_of_lt_succ hj) e),
    isPerm_firstN n _ P.lt fun i hi j hj e => P.inj i (Nat.le_of_lt hi) j (Nat.le_of_lt hj) e,
    post_parent h, post_subtree h⟩

/-- **sp_preorder** (sp_preorder.c).  For every pattern `A`, every input ordering `p` that is a
permutation (checked per run for MMD/COLAMD by `isPerm`) and both settings of SymmetricMode, with
`post = postOf A p sym` (the postorder of the column elimination tree of `A·Pc`, or the identity in
SymmetricMode):  the returned `perm_c` is a permutation and equals `post ∘ p`;  `post` is a permutation of
`0..n-1` with `post[n] = n`;  the permuted view lists exactly A's columns, `AC.col (perm_c i) = A.col i`;
the returned tree is the relabelled tree, `etree'[post j] = post[etree j]`;  and in the returned tree
every parent index exceeds its child's (or is the root marker `n`). -/
theorem spPreorder_perm (A : Pat) (p : Array Nat) (sym : Bool) (hp : isPerm A.n p = true) :
    isPerm A.n (spPreorder A p sym).permc = true ∧
    isPerm A.n (firstN A.n (postOf A p sym)) = true ∧ (postOf A p sym).getD A.n 0 = A.n ∧
    (∀ i < A.n, (spPreorder A p sym).permc.getD i 0 = (postOf A p sym).getD (p.getD i 0) 0) ∧
    (∀ i < A.n, ((spPreorder A p sym).view A).col ((spPreorder A p sym).permc.getD i 0) = A.col i) ∧
    (spPreorder A p sym).etree.size = A.n ∧
    (∀ j < A.n, (spPreorder A p sym).etree.getD ((postOf A p sym).getD j 0) 0 =
        (postOf A p sym).getD ((coletree A.m A.n (permView A p).col).getD j 0) 0) ∧
    Heap A.n (spPreorder A p sym).etree := by
  have S := spPreorder_spec A p sym hp
  refine ⟨S.perm, isPerm_firstN A.n _ S.qlt S.qinj, S.qroot, S.permc, fun i hi => ?_, S.size, S.etree, S.heap⟩
  rw [S.permc i hi, S.col _ (((isPerm_iff A.n p).mp hp).2.1 i hi)]
  exact permView_col A p hp i hi

/-- **sp_preorder, postordered tree.**  Unless SymmetricMode, in the returned tree the descendants of every
vertex `v` are exactly the indices of a block `lo..v`. -/
theorem spPreorder_subtrees (A : Pat) (p : Array Nat) (hp : isPerm A.n p = true) :
    ∀ v < A.n, ∃ lo, ∀ u < A.n, Desc A.n (spPreorder A p false).etree u v ↔ lo ≤ u ∧ u ≤ v := by
  exact ((isPost_treePostorder (coletree_isHeap A.m A.n (permView A p).col)).relabel
    (coletree_isHeap A.m A.n (permView A p).col) (spPreorder_spec A p false hp).etree).2.2

/-- **relax_snode on a postordered forest** (relax_snode.c; the tree `sp_preorder` returns unless
SymmetricMode is such a forest, `spPreorder_subtrees`).  For every heap-ordered forest in which the
descendants of every vertex `v` are the indices of a block `lo..v`, and every `relax`:
* the `descendants` array of the first loop holds the true number of proper descendants, `v - lo`;
* `relax_end` has `n` entries; an entry is EMPTY (-1) or the last column `e ≥ s` of a supernode starting
  at `s`, and then the columns `s..e` are EXACTLY the subtree of `e` (every relaxed supernode is a whole
  subtree), which has fewer than `relax` proper descendants when it has more than one column; no other
  supernode starts inside `(s, e]`, so the supernodes are pairwise disjoint;
* every leaf lies in one of the recorded supernodes. -/
theorem relaxSnode_ranges (n relax : Nat) (et : Array Nat) (h : Heap n et)
    (hpost : ∀ v < n, ∃ lo, ∀ u < n, Desc n et u v ↔ lo ≤ u ∧ u ≤ v) :
    (relaxSnode n relax et).2.size = n ∧
    (∀ v < n, ∀ lo, (∀ u < n, Desc n et u v ↔ lo ≤ u ∧ u ≤ v) → (relaxSnode n relax et).1.getD v 0 = v - lo) ∧
    (∀ s < n, (relaxSnode n relax et).2.getD s (-1) = -1 ∨
      ∃ e : Nat, (relaxSnode n relax et).2.getD s (-1) = Int.ofNat e ∧ s ≤ e ∧ e < n ∧
        (∀ u < n, Desc n et u e ↔ s ≤ u ∧ u ≤ e) ∧ (s < e → e - s < relax) ∧
        ∀ t, s < t → t ≤ e → (relaxSnode n relax et).2.getD t (-1) = -1) ∧
    (∀ k < n, (∀ u < n, Desc n et u k → u = k) →
      ∃ s e : Nat, s ≤ k ∧ k ≤ e ∧ (relaxSnode n relax et).2.getD s (-1) = Int.ofNat e) := by
  have hp := PostBy.of_exists h hpost
  have C := heapCtx_id h hp
  have E := relaxSnode_heapEnd relax h
  refine ⟨E.size, fun v hv lo' hl' => ?_,
    fun s hs => (E.entry C hs).imp_right fun ⟨e, S⟩ => ⟨e, S.val, S.le, S.lt, S.sub, S.small, S.alone⟩,
    fun k hk hleaf => E.leaf C hk hleaf⟩
  show (firstN n _).getD v 0 = _
  rw [firstN_getD _ _ _ hv, hp.descendants h v hv, hp.lo_unique hv hl']

/-- **heap_relax_snode on ANY heap-ordered forest** (heap_relax_snode.c; SymmetricMode: `sp_preorder` returns
the column elimination tree as computed — heap ordered, `coletree_heap`, but not postordered).  No postorder
hypothesis.  With `post = TreePostorder(et)` and `descendants n et` the number of proper descendants of every vertex
(`descendants_eq`):
* `relax_end` is indexed by the CALLER's labels; a supernode `s..e` is recorded only for a subtree that occupies
  consecutive columns of the caller (the `(l-k) == (j-snode_start)` test); with more than one column it is small and
  maximal (`e` is a root or the subtree of its parent has `≥ relax` proper descendants); no other supernode starts
  inside `(s, e]`, so the supernodes are pairwise disjoint;
* conversely every maximal small subtree whose vertices are consecutive columns `s..e` of the caller IS recorded;
* every leaf lies in a recorded supernode (when the maximal small subtree around it is not consecutive, by the two
  clauses above, as a supernode of one column);
* `descendants` is indexed by POSTORDER labels: `descendants[post v]` is `post v - lo` for the block `lo..post v` that
  `treePostorder_spec` assigns to the subtree of `v`, and equals the count `relax_snode`'s first loop computes in the
  caller's labels, `(descendants n et)[v]`. -/
theorem heapRelaxSnode_ranges (n relax : Nat) (et : Array Nat) (h : Heap n et) :
    (heapRelaxSnode n relax et).2.size = n ∧
    (∀ s < n, (heapRelaxSnode n relax et).2.getD s (-1) = -1 ∨
      ∃ e : Nat, (heapRelaxSnode n relax et).2.getD s (-1) = Int.ofNat e ∧ s ≤ e ∧ e < n ∧
        (∀ u < n, Desc n et u e ↔ s ≤ u ∧ u ≤ e) ∧ (s < e → e - s < relax) ∧
        (s < e → et.getD e 0 = n ∨ relax ≤ (descendants n et).getD (et.getD e 0) 0) ∧
        ∀ t, s < t → t ≤ e → (heapRelaxSnode n relax et).2.getD t (-1) = -1) ∧
    (∀ e < n, ∀ s, (∀ u < n, Desc n et u e ↔ s ≤ u ∧ u ≤ e) → (s < e → e - s < relax) →
      (et.getD e 0 = n ∨ relax ≤ (descendants n et).getD (et.getD e 0) 0) →
      (heapRelaxSnode n relax et).2.getD s (-1) = Int.ofNat e) ∧
    (∀ k < n, (∀ u < n, Desc n et u k → u = k) →
      ∃ s e : Nat, s ≤ k ∧ k ≤ e ∧ (heapRelaxSnode n relax et).2.getD s (-1) = Int.ofNat e) ∧
    (heapRelaxSnode n relax et).1.size = n ∧
    (∀ v < n, ∀ lo, (∀ u ≤ n, Desc n et u v ↔
        lo ≤ (treePostorder n et).getD u 0 ∧ (treePostorder n et).getD u 0 ≤ (treePostorder n et).getD v 0) →
      (heapRelaxSnode n relax et).1.getD ((treePostorder n et).getD v 0) 0 = (treePostorder n et).getD v 0 - lo) ∧
    (∀ v < n, (heapRelaxSnode n relax et).1.getD ((treePostorder n et).getD v 0) 0 = (descendants n et).getD v 0) := by
  obtain ⟨lo, C, E⟩ := heapRelaxSnode_heapEnd relax h
  refine ⟨E.size,
    fun s hs => (E.entry C hs).imp_right fun ⟨e, S⟩ => ⟨e, S.val, S.le, S.lt, S.sub, S.small, S.stops, S.alone⟩,
    fun e he s hsub hsmall hbig => E.converse C he hsub hsmall hbig,
    fun k hk hleaf => E.leaf C hk hleaf, firstN_size _ _, fun v hv lo' hl' => ?_, fun v hv => ?_⟩
  · show (firstN n _).getD _ 0 = _
    rw [firstN_getD _ _ _ (C.qlt v hv)]
    exact C.descendants_block hv hl'
  · show (firstN n _).getD _ 0 = _
    rw [firstN_getD _ _ _ (C.qlt v hv)]
    exact C.descendants_q hv

/-- **relax_snode, ranges** (any heap-ordered forest, postordered or not): `relax_end` has `n` entries; an entry
is EMPTY (-1) or the last column `e` of a range `s ≤ e < n`; no range starts inside `(s, e]`, so the
recorded ranges are pairwise disjoint; a range of more than one column ends at a column whose
`descendants` count (first loop of the routine) is below `relax`. -/
theorem relaxSnode_ranges_partial (n relax : Nat) (et : Array Nat) (h : Heap n et) :
    (relaxSnode n relax et).2.size = n ∧
    ∀ s < n, (relaxSnode n relax et).2.getD s (-1) = -1 ∨
      ∃ e : Nat, (relaxSnode n relax et).2.getD s (-1) = Int.ofNat e ∧ s ≤ e ∧ e < n ∧
        (s < e → (descendants n et).getD e 0 < relax) ∧
        ∀ t, s < t → t ≤ e → (relaxSnode n relax et).2.getD t (-1) = -1 := by
  have E := relaxSnode_heapEnd relax h
  obtain ⟨s1, s2⟩ := rounds_sorted (relax := relax) (desc := descendants n et) h (n + 1) 0
  refine ⟨E.size, fun s hs => ?_⟩
  by_cases hw : ∃ b ∈ runRounds n relax et, b.1 = s
  · obtain ⟨b, hb, rfl⟩ := hw
    have R := s1 b hb
    refine Or.inr ⟨b.2, E.hit b hb _ _ ((heapWr_id R.le R.lt).mpr ⟨rfl, rfl⟩), R.le, R.lt, R.small, fun t h1 h2 =>
      E.miss t (Nat.lt_of_le_of_lt h2 R.lt) fun b' hb' x' hw' => ?_⟩
    -- a round that stores at `t` would start inside `b`
    have e := ((heapWr_id (s1 b' hb').le (s1 b' hb').lt).mp hw').1
    rw [← sorted_intervals_disjoint s2 hb hb' (x := t) (Nat.le_of_lt h1) h2 (Nat.le_of_eq e.symm)
      (e ▸ (s1 b' hb').le)] at e
    exact Nat.ne_of_gt h1 e
  · exact Or.inl (E.miss s hs fun b hb x hx => hw ⟨b, hb, ((heapWr_id (s1 b hb).le (s1 b hb).lt).mp hx).1.symm⟩)

/-- the hypotheses of `relaxSnode_ranges` hold for the tree `sp_preorder` hands to `relax_snode`
(every pattern, every permutation, SymmetricMode off): the statement is not vacuous -/
example (A : Pat) (p : Array Nat) (hp : isPerm A.n p = true) (relax : Nat) :
    (relaxSnode A.n relax (spPreorder A p false).etree).2.size = A.n :=
  (relaxSnode_ranges A.n relax (spPreorder A p false).etree (spPreorder_spec A p false hp).heap
    (spPreorder_subtrees A p hp)).1

/-! non-vacuity of `heapRelaxSnode_ranges`: heap-ordered forests that are NOT postordered.

`hxA` = parents `[3,4,5,4,5]`, root marker 5: the chains 0→3→4, 1→4 and the isolated root 2.  The subtree of 4
is `{0,1,3,4}`: not consecutive (2 is missing).  `hxB` = parents `[1,6,4,5,5,6]`: 0→1, 2→4→5, 3→5; the subtree
of 4 is `{2,4}` (not consecutive), the subtrees of 1 and 5 are `{0,1}` and `{2,3,4,5}` (consecutive). -/
def hxA : Array Nat := #[3, 4, 5, 4, 5]
def hxB : Array Nat := #[1, 6, 4, 5, 5, 6]

theorem hxA_heap : Heap 5 hxA := by unfold Heap; decide
theorem hxB_heap : Heap 6 hxB := by unfold Heap; decide

/-- what heap_relax_snode returns on them, evaluated once -/
theorem hxA_relax : heapRelaxSnode 5 5 hxA = (#[0, 0, 0, 1, 3], #[0, 1, 2, -1, -1]) := by decide +kernel
theorem hxB_relax4 : heapRelaxSnode 6 4 hxB = (#[0, 1, 0, 0, 1, 3], #[1, -1, 5, -1, -1, -1]) := by decide +kernel

/-- neither is postordered: in `hxA` 2 lies between 1 and 4 but is no descendant of 4; in `hxB` 3 lies between
2 and 4 but is no descendant of 4 -/
example : ¬ ∀ v < 5, ∃ lo, ∀ u < 5, Desc 5 hxA u v ↔ lo ≤ u ∧ u ≤ v := by
  intro hp
  obtain ⟨lo, hlo⟩ := hp 4 (by decide)
  have h1 : Desc 5 hxA 1 4 := Desc.step (by decide) (Desc.refl _)
  have h2 := (hlo 2 (by decide)).mpr ⟨by have := ((hlo 1 (by decide)).mp h1).1; omega, by decide⟩
  cases h2 with
  | step _ h3 => exact absurd (desc_le_of_heap hxA_heap h3) (by decide)
example : ¬ ∀ v < 6, ∃ lo, ∀ u < 6, Desc 6 hxB u v ↔ lo ≤ u ∧ u ≤ v := by
  intro hp
  obtain ⟨lo, hlo⟩ := hp 4 (by decide)
  have h1 : Desc 6 hxB 2 4 := Desc.step (by decide) (Desc.refl _)
  have h2 := (hlo 3 (by decide)).mpr ⟨by have := ((hlo 2 (by decide)).mp h1).1; omega, by decide⟩
  cases h2 with
  | step _ h3 => exact absurd (desc_le_of_heap hxB_heap h3) (by decide)

/-- `hxA`, `relax = 5`: the postorder is `2,1,0,3,4`; the climb from the leaf 1 (postorder label 1) reaches the
root 4 with 3 < 5 descendants, block of postorder labels `1..4` = callers' columns `{1,0,3,4}`: `l - k = 4 ≠ 3`,
the contiguity test FAILS and the leaves 0 and 1 are recorded as supernodes of one column.  (`relax_snode`,
which assumes a postordered tree, would record the range `0..4`, which contains the foreign column 2.) -/
example : treePostorder 5 hxA = #[2, 1, 0, 3, 4, 5] := by decide +kernel
example : heapRelaxSnode 5 5 hxA = (#[0, 0, 0, 1, 3], #[0, 1, 2, -1, -1]) := hxA_relax
example : (relaxSnode 5 5 hxA).2 = #[4, -1, -1, -1, -1] := by decide +kernel

/-- the theorem instantiated on `hxA`: column 0 starts the supernode `0..0`, which is the whole subtree of 0,
and the leaf 1 is covered -/
example : ∃ e : Nat, (heapRelaxSnode 5 5 hxA).2.getD 0 (-1) = Int.ofNat e ∧ 0 ≤ e ∧ e < 5 ∧
    (∀ u < 5, Desc 5 hxA u e ↔ 0 ≤ u ∧ u ≤ e) ∧ (0 < e → e - 0 < 5) ∧
    (0 < e → hxA.getD e 0 = 5 ∨ 5 ≤ (descendants 5 hxA).getD (hxA.getD e 0) 0) ∧
    ∀ t, 0 < t → t ≤ e → (heapRelaxSnode 5 5 hxA).2.getD t (-1) = -1 := by
  rcases (heapRelaxSnode_ranges 5 5 hxA hxA_heap).2.1 0 (by decide) with h | h
  · rw [hxA_relax] at h; exact absurd h (by decide)
  · exact h

/-- `hxB`, `relax = 2`: the subtree `{0,1}` of 1 passes the contiguity test (`relax_end[0] = 1`), the leaf 3 is
a supernode of its own, and the subtree `{2,4}` of 4 (1 < 2 descendants) fails the test, so only its leaf 2
is recorded.  `relax = 4`: the subtree `{2,3,4,5}` of 5 is small and consecutive in the caller's labels
although it is not a block that the forest's own numbering lists in postorder: `relax_end[2] = 5`. -/
example : heapRelaxSnode 6 2 hxB = (#[0, 1, 0, 0, 1, 3], #[1, -1, 2, 3, -1, -1]) := by decide +kernel
example : heapRelaxSnode 6 4 hxB = (#[0, 1, 0, 0, 1, 3], #[1, -1, 5, -1, -1, -1]) := hxB_relax4

/-- the theorem instantiated on `hxB`, `relax = 4`: the columns `2..5` are exactly the subtree of 5 -/
example : ∀ u < 6, Desc 6 hxB u 5 ↔ 2 ≤ u ∧ u ≤ 5 := by
  have h5 : (heapRelaxSnode 6 4 hxB).2.getD 2 (-1) = Int.ofNat 5 := by rw [hxB_relax4]; rfl
  rcases (heapRelaxSnode_ranges 6 4 hxB hxB_heap).2.1 2 (by decide) with h | ⟨e, h1, _, _, h4, _⟩
  · rw [h5] at h; exact absurd h (by decide)
  · rw [h5] at h1
    cases Int.ofNat.inj h1
    exact h4

/-- the converse clause instantiated: the subtree of 5 is `2..5` (evaluated through `order`), has 3 < 4 proper
descendants and 5 is a root, so the theorem — not an evaluation — says `relax_end[2] = 5` -/
theorem hxB_subtree5 : ∀ u < 6, Desc 6 hxB u 5 ↔ 2 ≤ u ∧ u ≤ 5 := by
  intro u hu
  rw [desc_iff_mem_order hxB_heap (by decide)]
  revert u
  decide +kernel
example : (heapRelaxSnode 6 4 hxB).2.getD 2 (-1) = Int.ofNat 5 :=
  (heapRelaxSnode_ranges 6 4 hxB hxB_heap).2.2.1 5 (by decide) 2 hxB_subtree5 (by decide) (Or.inl (by decide))

example : ∀ v < 6, (heapRelaxSnode 6 4 hxB).1.getD ((treePostorder 6 hxB).getD v 0) 0 = (descendants 6 hxB).getD v 0 :=
  (heapRelaxSnode_ranges 6 4 hxB hxB_heap).2.2.2.2.2.2

/-- a 3x3 arrow pattern: columns {0,1,2}, {0,1}, {0,2} -/
def exA : Pat := { m := 3, n := 3, colptr := #[0, 3, 5, 7], rowind := #[0, 1, 2, 0, 1, 0, 2] }

example : isPerm 3 #[2, 0, 1] = true := by decide
example : isPerm 3 #[2, 0, 0] = false := by decide
example : Heap 3 #[1, 2, 3] := by unfold Heap; decide
example : (getata exA).col 1 = [0, 2] := by decide +kernel
example : (atPlusA exA).col 0 = [1, 2] := by decide +kernel

/-! ### Liu's algorithm = the definition of the elimination tree -/

/-- **`find` with path halving is correct** (sp_coletree.c:find).  `UF pp k rep dep` says that the entries
`< k` of `pp` form a forest (`dep` decreases strictly along `pp`) whose trees are the classes of `rep`,
the root of the tree of `i` being `rep i`.  Then `find pp i`, run with the model's fuel `pp.size`, returns
exactly `rep i`, and the array it leaves is a forest of the same size with the same classes and the
same representatives. -/
theorem find_correct (pp : Array Nat) (k : Nat) (rep dep : Nat → Nat) (h : UF pp k rep dep) (i : Nat)
    (hi : i < k) :
    (find pp i).2 = rep i ∧ rep i < k ∧ pp.getD (rep i) 0 = rep i ∧
    UF (find pp i).1 k rep dep ∧ (find pp i).1.size = pp.size := by
  obtain ⟨h1, h2, h3⟩ := find_spec h i hi
  obtain ⟨r1, r2, _⟩ := h.rep_root i hi
  exact ⟨h2, r1, r2, h1, h3⟩

/-- **`link` merges two classes** (sp_coletree.c:link, `pp[s] = t`): for two different roots `s`, `t` the
result is a forest whose classes are the old ones with those of `s` and `t` united under `t`. -/
theorem link_correct (pp : Array Nat) (k : Nat) (rep dep : Nat → Nat) (h : UF pp k rep dep) (s t : Nat)
    (hs : s < k) (ht : t < k) (hrs : rep s = s) (hrt : rep t = t) (hne : s ≠ t) :
    UF (pp.setIfInBounds s t) k (fun x => if rep x = s then t else rep x)
      (fun x => if rep x = s then dep x + dep t + 1 else dep x) :=
  UF.link h s t hs ht hrs hrt hne

/-- **What Liu's algorithm computes, any lists.**  With `a — b` whenever the smaller index is listed under
the larger one (`SE`), and `T E v i v` = "a walk from `i` to `v` whose interior vertices are all `< v`":
`parent[v]` is the least `i` in `(v, nc)` with such a walk, and `nc` when there is none. -/
theorem liu_parent_least (nc : Nat) (nbrs : Nat → List Nat) :
    (liu nc nbrs).size = nc ∧
    ∀ v, v < nc → Least (fun i => T (SE nbrs nc) v i v) nc v ((liu nc nbrs).getD v 0) :=
  liu_least nc nbrs

/-- **The elimination game computes the same thing**: on an `n`-by-`n` adjacency matrix of a symmetric
relation `E` (irreflexivity, `hEi`, is not needed), `etreeOfGraph` returns for every `v` the least later vertex joined to `v` by a
walk through vertices `< v` (that is the first sub-diagonal entry of column `v` of the symbolic Cholesky
factor: the fill lemma is the invariant `DInv`). -/
theorem etreeOfGraph_parent_least (E : Nat → Nat → Prop) (hEs : ∀ a b, E a b → E b a)
    (hEi : ∀ a b, E a b → a ≠ b) (n : Nat) (g0 : Array (Array Bool)) (hsq : Sq n g0)
    (hg : ∀ i j, i < n → j < n → (adjGet g0 i j = true ↔ E i j)) :
    (etreeOfGraph n g0).size = n ∧
    ∀ v, v < n → Least (fun i => T E v i v) n v ((etreeOfGraph n g0).getD v 0) :=
  etreeOfGraph_walk_least hEs n g0 hsq hg

/-- **Liu's algorithm returns the column elimination tree** (sp_coletree.c = the definition).  For every
`nr`-by-`nc` pattern given by its columns (row indices in any order, repetitions allowed), provided the
row indices are `< nr`: the array computed by `coletree` (first-column stars, union-find with path
halving, `root[]`) is equal to `etreeDef` (elimination game on the graph of AᵀA: parent(j) = first
off-diagonal row of column j of the symbolic Cholesky factor), entry by entry, root marker `nc`
included. -/
theorem coletree_eq_def (nr nc : Nat) (col : Nat → List Nat)
    (hrow : ∀ c, c < nc → ∀ r ∈ col c, r < nr) : coletree nr nc col = etreeDef nc col :=
  IsEtree.unique ⟨(liu_least nc _).1, coletree_isEtree nr nc col hrow⟩ (etreeDef_isEtree nc col) fun _ _ _ _ => Iff.rfl

/-- the same without any hypothesis: row indices `≥ nr` are ignored by `sp_coletree` -/
theorem coletree_eq_def_all (nr nc : Nat) (col : Nat → List Nat) :
    coletree nr nc col = etreeDef nc (fun c => (col c).filter (· < nr)) := by
  rw [coletree_filter]
  exact coletree_eq_def _ _ _ fun c _ r hr => by simpa using (List.mem_filter.mp hr).2

/-- the hypothesis of `coletree_eq_def` cannot be dropped: a row index `≥ nr` is invisible to `coletree` -/
example : coletree 0 2 (fun _ => [0]) ≠ etreeDef 2 (fun _ => [0]) := by decide +kernel
example : coletree 3 3 exA.col = #[1, 2, 3] ∧ etreeDef 3 exA.col = #[1, 2, 3] := by decide +kernel

/-- for a stored matrix: every stored row index `< m` is all that is needed, for every column
permutation applied by `sp_preorder` -/
theorem coletree_permView_eq_def (A : Pat) (p : Array Nat) (hrow : ∀ r ∈ A.rowind.toList, r < A.m) :
    coletree A.m A.n (permView A p).col = etreeDef A.n (permView A p).col :=
  coletree_eq_def _ _ _ fun _ _ r hr => hrow r (View.mem_col hr)

/-- **The symmetric algorithm** (sp_coletree.c:sp_symetree) on a structurally symmetric pattern returns the
elimination tree of its graph (`symAdj`, the graph of A + Aᵀ). -/
theorem symetree_eq_def (n : Nat) (col : Nat → List Nat)
    (hsym : ∀ i j, i < n → j < n → i ∈ col j → j ∈ col i) :
    symetree n col = etreeOfGraph n (symAdj n col) :=
  IsEtree.unique (liu_least n col)
    (etreeOfGraph_walk_least SymE.symm n (symAdj n col) (symAdj_sq n col) (symAdj_get n col))
    fun _ _ _ _ => T.congr (SE_iff_SymE hsym)

/-- **The first-column trick is correct**: `sp_coletree` on A gives the tree that `sp_symetree` gives on the
explicitly formed pattern of AᵀA (`getata`). -/
theorem coletree_eq_symetree_getata (A : Pat) (hrow : ∀ c, c < A.n → ∀ r ∈ A.col c, r < A.m) :
    coletree A.m A.n A.col = symetree A.n (getata A).col := by
  rw [coletree_eq_symetree_ata A.m A.n A.col hrow]
  unfold symetree
  apply liu_congr
  intro a b _ ha
  rw [getata_col A a ha]

example : ∀ c, c < exA.n → ∀ r ∈ exA.col c, r < exA.m := by decide +kernel
example : ∀ i, i < 3 → ∀ j, j < 3 → i ∈ (getata exA).col j → j ∈ (getata exA).col i := by decide +kernel
example : UF #[0, 0, 1] 3 (fun _ => 0) id := ⟨by decide, by decide, by decide, by decide⟩

/-- **The loop form equals the recursive form.**  `TreePostorder` as the library executes it — the push loop that
builds `first_kid/next_kid`, then `nr_etdfs` walking them with `parent[]`, one transition per evaluation of a loop
head — returns, on EVERY heap-ordered forest of any size, the array of the recursive depth-first numbering
`treePostorder` (about which `treePostorder_spec`, `spPreorder_perm`, `relaxSnode_ranges` speak), and reaches one of
its two exits within `2n + 3` loop heads. -/
theorem treePostorderNR_eq (n : Nat) (parent : Array Nat) (h : Heap n parent) :
    NR.treePostorderNR n parent = treePostorder n parent ∧ NR.finished n parent = true := by
  obtain ⟨h1, h2⟩ := NR.nrEtdfs_eq h (NR.buildKids_ok h)
  exact ⟨h2, by rw [NR.finished, h1]; rfl⟩

/-- **What the walk needs from its work arrays.**  `next_kid` may hold anything on entry except that the slot of the
dummy root, which `TreePostorder` never assigns, must not be -1 (the library gets 0 from `mxCallocInt`): for every such
initial content the result is the recursive numbering. -/
theorem treePostorderNR_any_work_area (n : Nat) (parent : Array Nat) (h : Heap n parent) (next0 : Array Int)
    (hs : next0.size = n + 1) (hroot : next0.getD n 0 ≠ -1) :
    (NR.nrEtdfs n parent (NR.buildKidsFrom next0 n parent)).post = treePostorder n parent :=
  (NR.nrEtdfs_eq h (NR.buildKidsFrom_ok next0 h hs hroot)).2

/-- ... and the condition on that slot is needed: with -1 there (what an uninitialised block may hold) the walk on the
one-vertex tree reads `parent[n]` and numbers a vertex twice. -/
theorem treePostorderNR_root_slot_needed :
    (NR.nrEtdfs 1 #[1] (NR.buildKidsFrom #[0, -1] 1 #[1])).post ≠ treePostorder 1 #[1] := by
  decide +kernel

example : Heap 6 #[3, 3, 6, 4, 6, 6] := by unfold Heap; decide
example : NR.treePostorderNR 6 #[3, 3, 6, 4, 6, 6] = #[1, 2, 0, 3, 4, 5, 6] := by decide +kernel

end Slu.Order
