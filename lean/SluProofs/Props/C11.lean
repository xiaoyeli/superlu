import Slu.Model.Equil
import SluProofs.Lemmas.Equil
/-
C11 — Equilibration factors and their application follow the definition.

Theorems are about `Slu.Equil.gsequ` / `laqgs` (the model that the correspondence check compares
bit-for-bit with `[sdcz]gsequ` / `[sdcz]laqgs`), instantiated at exact arithmetic `R = Rat`, for an
arbitrary scalar type `K` with a magnitude `Mag K Rat` (real: |x|, complex: |re|+|im|; nothing is assumed of
it: the maxima start from 0, so they are nonnegative whatever the magnitude is).
All statements hold for every m, n, every entry list (any pattern, any order, duplicates allowed)
and every pair of machine constants `0 < sml ≤ big`.
-/
namespace Slu.Equil
open Slu

variable {K : Type} [Mag K Rat]

theorem scanMax_spec (f : Nat → Rat) (k : Nat) :
    (∀ i < k, f i ≤ scanMax f k) ∧ (scanMax f k = 0 ∨ ∃ i < k, f i = scanMax f k) := by
  unfold scanMax; simp only [smax_eq_max, ← List.mem_range]
  exact ⟨fun i hi => foldl_max_ge_mem f _ 0 hi, foldl_max_attained f _ 0⟩

theorem scanMin_spec (big : Rat) (f : Nat → Rat) (k : Nat) :
    (∀ i < k, scanMin big f k ≤ f i) ∧ scanMin big f k ≤ big ∧
    (scanMin big f k = big ∨ ∃ i < k, f i = scanMin big f k) := by
  unfold scanMin; simp only [smin_eq_min, ← List.mem_range]
  exact ⟨fun i hi => foldl_min_le_mem f _ big hi, foldl_min_le_init f _ big, foldl_min_attained f _ big⟩

theorem scanMin_zero_iff (f : Nat → Rat) (big : Rat) (hb : 0 < big) (hf : ∀ i, 0 ≤ f i) (k : Nat) :
    scanMin big f k = 0 ↔ ∃ i < k, f i = 0 := by
  obtain ⟨hle, _, hatt⟩ := scanMin_spec big f k
  constructor
  · intro h
    rcases hatt with h' | ⟨i, hi, h'⟩
    · exact absurd (h'.symm.trans h) hb.ne'
    · exact ⟨i, hi, h'.trans h⟩
  · rintro ⟨i, hi, hz⟩
    refine le_antisymm (hz ▸ hle i hi) ?_
    rcases hatt with h' | ⟨i', _, h'⟩
    · rw [h']; exact hb.le
    · rw [← h']; exact hf i'

/-- **C11 (info = 0 ⇒ both factor arrays are written, by the clamp formula).** -/
theorem gsequ_info0_shape (m n : Nat) (es : List (Entry K)) (sml big : Rat) (hm : m ≠ 0) (hn : n ≠ 0)
    (h : (gsequ m n es sml big).info = 0) :
    ∃ c0 : Nat → Rat,
      (gsequ m n es sml big).r = some (fun i => invClamp sml big (rowMax es i)) ∧
      c0 = colMax es (fun i => invClamp sml big (rowMax es i)) ∧
      (gsequ m n es sml big).c = some (fun j => invClamp sml big (c0 j)) := by
  obtain ⟨h1, h2⟩ := gsequ_of_info0 hm hn h
  rw [gsequ_ok hm hn h1 h2]
  exact ⟨_, rfl, rfl, rfl⟩

/-- **C11 (range).** On success every row and column scale factor is positive and lies in the safe
range `[1/bignum, 1/smlnum]`. -/
theorem gsequ_range (m n : Nat) (es : List (Entry K)) (sml big : Rat) (h0 : 0 < sml) (h1 : sml ≤ big)
    (hm : m ≠ 0) (hn : n ≠ 0) (h : (gsequ m n es sml big).info = 0) :
    ∃ r c, (gsequ m n es sml big).r = some r ∧ (gsequ m n es sml big).c = some c ∧
      (∀ i, 0 < r i ∧ 1 / big ≤ r i ∧ r i ≤ 1 / sml) ∧ (∀ j, 0 < c j ∧ 1 / big ≤ c j ∧ c j ≤ 1 / sml) := by
  obtain ⟨c0, hr, _, hc⟩ := gsequ_info0_shape m n es sml big hm hn h
  exact ⟨_, _, hr, hc, fun i => invClamp_range h0 h1 _, fun j => invClamp_range h0 h1 _⟩

/-- **C11 (row clause).** `R_i * clamp(max_j |a_ij|) = 1`: the largest entry of row `i` of
`diag(R) A` is exactly one unless the row maximum was clamped by the safe range, in which case it is
`max/clamp`. -/
theorem gsequ_rowmax (sml big : Rat) (h0 : 0 < sml) (h1 : sml ≤ big) (es : List (Entry K)) (i : Nat) :
    invClamp sml big (rowMax es i) * clamp sml big (rowMax es i) = 1 :=
  invClamp_mul_clamp h0 h1 _

/-- **C11 (column clause).** Same for the columns of `diag(R) A diag(C)`. -/
theorem gsequ_colmax (sml big : Rat) (h0 : 0 < sml) (h1 : sml ≤ big) (es : List (Entry K)) (r : Nat → Rat) (j : Nat) :
    invClamp sml big (colMax es r j) * clamp sml big (colMax es r j) = 1 :=
  invClamp_mul_clamp h0 h1 _

/-- unclamped row: every scaled entry is at most one and one of them equals one -/
theorem gsequ_rowmax_unclamped (sml big : Rat) (h0 : 0 < sml)
    (es : List (Entry K)) (i : Nat) (hlo : sml ≤ rowMax es i) (hhi : rowMax es i ≤ big) :
    (∀ e ∈ es, e.row = i → invClamp sml big (rowMax es i) * Mag.abs1 e.val ≤ 1) ∧
    (∃ e ∈ es, e.row = i ∧ invClamp sml big (rowMax es i) * Mag.abs1 e.val = 1) := by
  rw [invClamp_eq, clamp_id hlo hhi]
  rw [rowMax_eq] at hlo ⊢
  simp only [mul_comm (1 / foldMaxIf _ _ 0 es)]
  exact foldMaxIf_mul_inv _ _ es (lt_of_lt_of_le h0 hlo)

theorem gsequ_colmax_unclamped (sml big : Rat) (h0 : 0 < sml)
    (es : List (Entry K)) (r : Nat → Rat) (j : Nat) (hlo : sml ≤ colMax es r j) (hhi : colMax es r j ≤ big) :
    (∀ e ∈ es, e.col = j → Mag.abs1 e.val * r e.row * invClamp sml big (colMax es r j) ≤ 1) ∧
    (∃ e ∈ es, e.col = j ∧ Mag.abs1 e.val * r e.row * invClamp sml big (colMax es r j) = 1) := by
  rw [invClamp_eq, clamp_id hlo hhi]
  rw [colMax_eq] at hlo ⊢
  exact foldMaxIf_mul_inv _ _ es (lt_of_lt_of_le h0 hlo)

/-- **C11 (zero row).** `info = i+1 ≤ m` exactly when row `i` is the first all-zero row; then only
`amax` and the raw row maxima have been produced. -/
theorem gsequ_info_row (m n : Nat) (es : List (Entry K)) (sml big : Rat)
    (hb : 0 < big) (hm : m ≠ 0) (hn : n ≠ 0) :
    (∃ i < m, rowMax es i = 0) ↔
    ∃ i < m, (gsequ m n es sml big).info = i + 1 ∧ rowMax es i = 0 ∧ (∀ i' < i, rowMax es i' ≠ 0) ∧
      (gsequ m n es sml big).c = none ∧ (gsequ m n es sml big).rowcnd = none := by
  constructor
  · intro h
    obtain ⟨i, hfind, hi, hz, hfirst⟩ := find_first_zero (rowMax es) m h
    rw [gsequ_of_row_zero hm hn
      ((scanMin_zero_iff _ big hb (rowMax_nonneg es) m).mpr h), hfind]
    exact ⟨i, hi, rfl, hz, hfirst, rfl, rfl⟩
  · rintro ⟨i, hi, _, hz, _⟩
    exact ⟨i, hi, hz⟩

/-- **C11 (no zero row ⇒ info is 0 or names a column).** -/
theorem gsequ_info_not_row (m n : Nat) (es : List (Entry K)) (sml big : Rat)
    (hb : 0 < big) (hm : m ≠ 0) (hn : n ≠ 0) (h : ¬ ∃ i < m, rowMax es i = 0) :
    (gsequ m n es sml big).info = 0 ∨
    ∃ j < n, (gsequ m n es sml big).info = m + j + 1 ∧
      colMax es (fun i => invClamp sml big (rowMax es i)) j = 0 ∧
      ∀ j' < j, colMax es (fun i => invClamp sml big (rowMax es i)) j' ≠ 0 := by
  have hmin : scanMin big (rowMax es) m ≠ 0 :=
    fun h0 => h ((scanMin_zero_iff _ big hb (rowMax_nonneg es) m).mp h0)
  by_cases hc : scanMin big (scaledColMax es sml big) n = 0
  · obtain ⟨j, hfind, hj, hz, hfirst⟩ :=
      find_first_zero _ n ((scanMin_zero_iff _ big hb
        (colMax_nonneg es _) n).mp hc)
    rw [gsequ_of_col_zero hm hn hmin hc, hfind]
    exact .inr ⟨j, hj, rfl, hz, hfirst⟩
  · rw [gsequ_ok hm hn hmin hc]
    exact .inl rfl

/-- **C11 (ratios).** On success `amax` is the largest row maximum, `rowcnd` and `colcnd` are the
documented quotients of the extreme row (column) maxima clamped to the safe range. -/
theorem gsequ_ratios (m n : Nat) (es : List (Entry K)) (sml big : Rat) (hm : m ≠ 0) (hn : n ≠ 0)
    (h : (gsequ m n es sml big).info = 0) :
    let r := fun i => invClamp sml big (rowMax es i)
    (gsequ m n es sml big).amax = some (scanMax (rowMax es) m) ∧
    (gsequ m n es sml big).rowcnd = some (max (scanMin big (rowMax es) m) sml / min (scanMax (rowMax es) m) big) ∧
    (gsequ m n es sml big).colcnd = some (max (scanMin big (colMax es r) n) sml / min (scanMax (colMax es r) n) big) := by
  obtain ⟨h1, h2⟩ := gsequ_of_info0 hm hn h
  rw [gsequ_ok hm hn h1 h2]
  exact ⟨rfl, rfl, rfl⟩

/-- **C11 (threshold rule).** `equed` is N/R/C/B exactly by the documented tests. -/
theorem laqgs_rule (thresh small large rowcnd colcnd amax : Rat) :
    let rowOK := rowcnd ≥ thresh ∧ amax ≥ small ∧ amax ≤ large
    let colOK := colcnd ≥ thresh
    (laqgsRule thresh small large rowcnd colcnd amax = .N ↔ rowOK ∧ colOK) ∧
    (laqgsRule thresh small large rowcnd colcnd amax = .C ↔ rowOK ∧ ¬ colOK) ∧
    (laqgsRule thresh small large rowcnd colcnd amax = .R ↔ ¬ rowOK ∧ colOK) ∧
    (laqgsRule thresh small large rowcnd colcnd amax = .B ↔ ¬ rowOK ∧ ¬ colOK) := by
  intro rowOK colOK
  unfold laqgsRule
  by_cases h1 : (rowcnd ≥ thresh ∧ amax ≥ small ∧ amax ≤ large) <;> by_cases h2 : (colcnd ≥ thresh) <;>
    simp only [rowOK, colOK, h1, h2, if_true, if_false] <;> simp

/-- **C11 (values).** Every stored entry is multiplied by exactly the factors selected by `equed`
(real data; complex data is scaled componentwise, `laqgs_values_cx`). -/
theorem laqgs_values (m n : Nat) (es : List (Entry Rat)) (r c : Nat → Rat)
    (thresh small large rowcnd colcnd amax : Rat) (hm : m ≠ 0) (hn : n ≠ 0) :
    let q := (laqgs m n es r c thresh small large rowcnd colcnd amax).1
    let out := (laqgs m n es r c thresh small large rowcnd colcnd amax).2
    q = laqgsRule thresh small large rowcnd colcnd amax ∧
    out.length = es.length ∧
    ∀ k (hk : k < es.length), out[k]? = some (
      let e := es[k]
      match q with
      | .N => e.val
      | .R => r e.row * e.val
      | .C => e.val * c e.col
      | .B => r e.row * e.val * c e.col) := by
  simp only [laqgs, hm, hn, or_self, if_false, List.length_map, true_and]
  intro k hk
  rw [List.getElem?_map, List.getElem?_eq_getElem hk]
  cases laqgsRule thresh small large rowcnd colcnd amax
  · rfl
  · exact congrArg some (mul_comm _ _)
  · rfl
  · exact congrArg some (show es[k].val * (c es[k].col * r es[k].row) = _ by ring)

/-- complex data: the value clause of `laqgs_values` componentwise (the clauses `q = rule` and on the length are
not repeated) -/
theorem laqgs_values_cx (m n : Nat) (es : List (Entry (Cx Rat))) (r c : Nat → Rat)
    (thresh small large rowcnd colcnd amax : Rat) (hm : m ≠ 0) (hn : n ≠ 0) :
    let q := (laqgs m n es r c thresh small large rowcnd colcnd amax).1
    let out := (laqgs m n es r c thresh small large rowcnd colcnd amax).2
    ∀ k (hk : k < es.length), ∃ z, out[k]? = some z ∧
      let e := es[k]
      let f : Rat := match q with
        | .N => 1 | .R => r e.row | .C => c e.col | .B => c e.col * r e.row
      z.re = e.val.re * f ∧ z.im = e.val.im * f := by
  simp only [laqgs, hm, hn, or_self, if_false]
  intro k hk
  rw [List.getElem?_map, List.getElem?_eq_getElem hk]
  refine ⟨_, rfl, ?_⟩
  cases laqgsRule thresh small large rowcnd colcnd amax
  · exact ⟨(mul_one _).symm, (mul_one _).symm⟩
  all_goals exact ⟨rfl, rfl⟩

/-- degenerate dimensions: nothing is scaled, `equed = N` (dlaqgs.c:108-111) -/
theorem laqgs_empty (m n : Nat) (es : List (Entry K)) (r c : Nat → Rat)
    (thresh small large rowcnd colcnd amax : Rat) (h : m = 0 ∨ n = 0) :
    laqgs m n es r c thresh small large rowcnd colcnd amax = (.N, es.map (·.val)) := by
  simp [laqgs, h]

def exEs : List (Entry Rat) := [⟨0, 0, 4⟩, ⟨1, 0, -2⟩, ⟨1, 1, 8⟩]

example : (gsequ 2 2 exEs (1/1000) 1000).info = 0 := by decide +kernel
example : ((gsequ 2 2 exEs (1/1000) 1000).r.map (fun f => [f 0, f 1])) = some [1/4, 1/8] := by decide +kernel
example : (gsequ 2 2 [⟨0, 0, (4 : Rat)⟩] (1/1000) 1000).info = 2 := by decide +kernel
example : (gsequ 2 2 [⟨0, 0, (4 : Rat)⟩, ⟨1, 0, 3⟩] (1/1000) 1000).info = 4 := by decide +kernel
example : ∀ x : Rat, 0 ≤ (Mag.abs1 x : Rat) := fun x => rabs_nonneg x
example : ∀ z : Cx Rat, 0 ≤ (Mag.abs1 z : Rat) := fun _ => add_nonneg (rabs_nonneg _) (rabs_nonneg _)

end Slu.Equil
