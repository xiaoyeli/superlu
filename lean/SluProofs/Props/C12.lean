import Slu.Model.Lacon
import Slu.Model.Cond
import SluProofs.Lemmas.Lacon
import SluProofs.Lemmas.Cond
import SluProofs.Lemmas.ArrayBasic
import SluProofs.Lemmas.TrsvLayout
/-
C12 — Condition estimate is a valid one-sided bound; growth factor matches factors.

Theorems are about `Slu.Lacon.step/run/gscon` (the state machine compared bit for bit with
`[sdcz]lacon2_` on every run), `Slu.Lacon.normChar/warnInfo` (glue of `[sdcz]gssvx`) and
`Slu.Cond.pivotGrowth` (compared bit for bit with `[sdcz]PivotGrowth`), in exact arithmetic, for every
size `n`, every pair of maps handed to the reverse-communication loop, every magnitude obeying
`Lawful` (|x| on `Rat`, |re|+|im| on `Cx Rat`; the complex modulus obeys the same laws).
-/
namespace Slu.Lacon
open Slu

variable {K : Type}

/-- **C12 (termination).** Whatever the caller writes into `x` between the calls, the estimator
returns `kase = 0` within `maxCalls = 12` calls (start, first product, first transposed product,
at most four rounds of product + transposed product, final alternating-sign product). -/
theorem lacon_terminates (P : Prim K Rat) (T Tt : Array K → Array K) (n : Nat) (est0 : Rat) :
    (run P T Tt maxCalls (init P n est0)).kase = 0 :=
  run_terminates P T Tt maxCalls _ (within_init P n est0 le_rfl)

theorem lacon_terminates_any (P : Prim K Rat) (T Tt : Array K → Array K) (n : Nat) (est0 : Rat) (fuel : Nat)
    (h : maxCalls ≤ fuel) : (run P T Tt fuel (init P n est0)).kase = 0 :=
  run_terminates P T Tt fuel _ (within_init P n est0 h)

/-- **C12 (one-sided bound).** For every `n ≥ 1` and every pair of maps `T`, `Tt` on vectors of
length `n` with `‖T x‖₁ ≤ N ‖x‖₁` (nothing is assumed about `Tt`), the estimate returned by the
reverse-communication loop satisfies `0 ≤ est ≤ N`: every candidate the machine can return is
`‖T w‖₁ / ‖w‖₁` for a vector it built itself — the uniform vector, a unit vector, or the
alternating-sign vector of 1-norm `3n/2` whose candidate is `2‖T w‖₁/(3n)`. -/
theorem lacon_le_norm (P : Prim K Rat) (hP : Lawful P) (n : Nat) (hn : 1 ≤ n)
    (T Tt : Array K → Array K)
    (hsT : ∀ x, x.size = n → (T x).size = n) (hsTt : ∀ x, x.size = n → (Tt x).size = n)
    (N : Rat) (hT : ∀ x, x.size = n → P.asum (T x) ≤ N * P.asum x) :
    let s := run P T Tt maxCalls (init P n 0)
    s.kase = 0 ∧ 0 ≤ s.est ∧ s.est ≤ N := by
  intro s
  have hk : s.kase = 0 := lacon_terminates P T Tt n 0
  have hu : P.asum (T (Array.replicate n (P.ninv n))) ≤ N := by
    have := hT (Array.replicate n (P.ninv n)) Array.size_replicate; rwa [hP.asum_uniform n hn, mul_one] at this
  have hN : 0 ≤ N := (hP.asum_nonneg _).trans hu
  -- every candidate is `‖T w‖₁/‖w‖₁`, hence in `[0, N]`
  refine ⟨hk, run_est_of P hP n hn T Tt hsT hsTt (fun e => 0 ≤ e ∧ e ≤ N) ⟨hP.asum_nonneg _, hu⟩
    (fun x _ => ⟨hP.asum_nonneg _, ?_⟩) (fun h2 e _ _ => ⟨fin_nonneg P hP (hP.asum_nonneg _) n, ?_⟩) 0 le_rfl⟩
  · exact (hT _ (by simp)).trans (mul_le_of_le_one_right hN (asum_unit_le P hP n _))
  · exact fin_le P hP hn (hP.asum_alt n h2 ▸ hT _ (by simp))

/-- the estimate is non-negative for every caller (no hypothesis on the maps): `run_est_nonneg`, on which
`FERR ≥ 0` rests (Props/C13), at `maxCalls` -/
theorem lacon_est_nonneg (P : Prim K Rat) (hP : Lawful P) (T Tt : Array K → Array K) (n : Nat) :
    0 ≤ (run P T Tt maxCalls (init P n 0)).est :=
  run_est_nonneg P hP T Tt maxCalls (init P n 0) le_rfl

/-- **C12 (rcond is one-sided).** `gscon` with solves whose forward map satisfies the bound `N`
returns `rcond ≥ (1/N)/anorm` (or the estimate was zero and `rcond = 0` is returned, which the
driver reports as singular to working precision). -/
theorem gscon_one_sided (P : Prim K Rat) (hP : Lawful P) (n : Nat) (hn : 1 ≤ n) (onenrm : Bool)
    (solveN solveT : Array K → Array K)
    (hsN : ∀ x, x.size = n → (solveN x).size = n) (hsT : ∀ x, x.size = n → (solveT x).size = n)
    (N anorm : Rat) (hN : 0 < N) (ha : 0 < anorm)
    (hT : ∀ x, x.size = n → P.asum ((if onenrm then solveN else solveT) x) ≤ N * P.asum x) :
    let r := gscon P 0 1 onenrm solveN solveT n anorm
    r = 0 ∨ (1 / N) / anorm ≤ r := by
  intro r
  obtain ⟨_, h0, h1⟩ := lacon_le_norm P hP n hn _ _ (size_ite onenrm hsN hsT) (size_ite onenrm hsT hsN) N hT
  show gscon P 0 1 onenrm solveN solveT n anorm = 0 ∨ _ ≤ gscon P 0 1 onenrm solveN solveT n anorm
  rw [gscon_eq P onenrm solveN solveT (Nat.ne_of_gt hn)]
  generalize (run P (if onenrm then solveN else solveT) (if onenrm then solveT else solveN) maxCalls (init P n 0)).est = E
    at h0 h1
  by_cases hz : E = 0
  · exact .inl (if_pos hz)
  · rw [if_neg hz]
    exact .inr (div_le_div_of_nonneg_right (one_div_le_one_div_of_le (lt_of_le_of_ne h0 (Ne.symm hz)) h1) ha.le)

/-- **C12 (the estimate from below).** If the forward map is bounded below, `c ‖x‖₁ ≤ ‖T x‖₁` on
vectors of length `n` (for `T = A⁻¹`: `c = 1/‖A‖₁`), then the returned estimate is at least `c`: every
candidate is `‖T w‖₁/‖w‖₁` for a NON-ZERO vector the machine built (`idamax` returns an index inside the
vector, hypothesis `himax`, true for the exact instances: `primQ_imax`, `primQC_imax`). -/
theorem lacon_ge_low (P : Prim K Rat) (hP : Lawful P) (himax : ∀ x : Array K, 0 < x.size → P.imax x < x.size)
    (n : Nat) (hn : 1 ≤ n) (T Tt : Array K → Array K)
    (hsT : ∀ x, x.size = n → (T x).size = n) (hsTt : ∀ x, x.size = n → (Tt x).size = n)
    (c : Rat) (hT : ∀ x, x.size = n → c * P.asum x ≤ P.asum (T x)) :
    c ≤ (run P T Tt maxCalls (init P n 0)).est := by
  -- every candidate is `‖T w‖₁/‖w‖₁` with `‖w‖₁ = 1`, or larger than an earlier one
  refine run_est_of P hP n hn T Tt hsT hsTt (c ≤ ·) ?_ (fun x hx => ?_) (fun _ e he hlt => he.trans hlt.le) 0 le_rfl
  · have := hT (Array.replicate n (P.ninv n)) Array.size_replicate; rwa [hP.asum_uniform n hn, mul_one] at this
  · have := hT ((Array.replicate n P.zero).setIfInBounds (P.imax x) P.one) (by simp)
    rwa [hP.asum_unit n _ (hx ▸ himax x (by omega)), mul_one] at this

/-- **C12 (rcond ≤ 1).** When the solves handed to `gscon` invert a matrix whose norm is `anorm`
(`‖x‖₁ ≤ anorm ‖solve x‖₁`, i.e. `‖A y‖₁ ≤ ‖A‖₁ ‖y‖₁` for `y = A⁻¹ x`), the estimator times the norm is at
least one, so the returned reciprocal condition number lies in `(0, 1]`. -/
theorem rcond_le_one (P : Prim K Rat) (hP : Lawful P) (himax : ∀ x : Array K, 0 < x.size → P.imax x < x.size)
    (n : Nat) (hn : 1 ≤ n) (onenrm : Bool) (solveN solveT : Array K → Array K)
    (hsN : ∀ x, x.size = n → (solveN x).size = n) (hsT : ∀ x, x.size = n → (solveT x).size = n)
    (anorm : Rat) (ha : 0 < anorm)
    (hinv : ∀ x, x.size = n → P.asum x ≤ anorm * P.asum ((if onenrm then solveN else solveT) x)) :
    0 < gscon P 0 1 onenrm solveN solveT n anorm ∧ gscon P 0 1 onenrm solveN solveT n anorm ≤ 1 := by
  have hlow := lacon_ge_low P hP himax n hn _ _ (size_ite onenrm hsN hsT) (size_ite onenrm hsT hsN) (1 / anorm)
    fun x hx => by rw [div_mul_eq_mul_div, one_mul, div_le_iff₀ ha, mul_comm]; exact hinv x hx
  rw [gscon_eq P onenrm solveN solveT (Nat.ne_of_gt hn)]
  generalize (run P (if onenrm then solveN else solveT) (if onenrm then solveT else solveN) maxCalls (init P n 0)).est = E
    at hlow
  have hE : 0 < E := lt_of_lt_of_le (by positivity) hlow
  rw [if_neg hE.ne']
  refine ⟨by positivity, ?_⟩
  rw [div_le_one ha, div_le_iff₀ hE]
  have := (div_le_iff₀ ha).mp hlow
  linarith

/-- **C12 (warning).** `info = n+1` exactly when `rcond < eps`, otherwise `info` stays 0. -/
theorem rcond_warn_iff (rcond eps : Rat) (n : Nat) :
    (warnInfo rcond eps n = n + 1 ↔ rcond < eps) ∧ (warnInfo rcond eps n = 0 ↔ ¬ rcond < eps) := by
  unfold warnInfo
  by_cases h : rcond < eps <;> simp [h]

/-- **C12 (norm selection).** The one norm is used exactly when the effective transpose after the
storage flip is NOTRANS, i.e. for column storage with `Trans = N` and for row storage with
`Trans ≠ N`; otherwise the infinity norm.  (The matrix handed on is `A` resp. `A'` with the transpose of
`effTrans_spec`, and the infinity norm of a matrix is the one norm of its transpose, so in every case this is the one
norm of `op(A)`: an argument, not a theorem here — `langs` has no theorem.) -/
theorem norm_selection (rowStored : Bool) (t : Trans) :
    (normChar rowStored t = '1' ↔ (rowStored = false ∧ t = .N) ∨ (rowStored = true ∧ t ≠ .N)) ∧
    (normChar rowStored t = 'I' ↔ ¬ ((rowStored = false ∧ t = .N) ∨ (rowStored = true ∧ t ≠ .N))) := by
  cases rowStored <;> cases t <;> simp [normChar, effTrans]

/-- the transpose handed to the solver: unchanged for column storage; for row storage (the factored
matrix is `A'`) NOTRANS becomes TRANS and TRANS / CONJ become NOTRANS -/
theorem effTrans_spec (rowStored : Bool) (t : Trans) :
    effTrans rowStored t =
      (if rowStored then (if t = .N then (.T, false) else (.N, true)) else (t, decide (t = .N))) := by
  cases rowStored <;> cases t <;> simp [effTrans]

example : ∀ x : Array Rat, x.size = 3 → primQ.asum (id x) ≤ 1 * primQ.asum x := fun x _ => by simp
example : (run primQ id id maxCalls (init primQ 3 0)).est = 1 := by decide +kernel
/-- `T = 2·` has bound 2 and the estimate is exactly 2 -/
example : (run primQ (fun x => x.map (2 * ·)) (fun x => x.map (2 * ·)) maxCalls (init primQ 4 0)).est = 2 := by decide +kernel
example : (run primQ (fun x => x.map (2 * ·)) (fun x => x.map (2 * ·)) maxCalls (init primQ 4 0)).kase = 0 := by decide +kernel
example : Lawful primQ := primQ_lawful
example : Lawful primQC := primQC_lawful
/-- the extra hypothesis of `lacon_ge_low` / `rcond_le_one` holds for both exact instances -/
example : ∀ x : Array Rat, 0 < x.size → primQ.imax x < x.size := primQ_imax
example : ∀ x : Array (Cx Rat), 0 < x.size → primQC.imax x < x.size := primQC_imax
example : gscon primQ 0 1 true id id 3 1 ≤ 1 :=
  (rcond_le_one primQ primQ_lawful primQ_imax 3 (by decide) true id id (fun _ h => h) (fun _ h => h) 1 (by norm_num)
    (fun x _ => by simp)).2

end Slu.Lacon
namespace Slu.Cond
open Slu

/-- on a supernode that stores more rows than the column's offset `j - fsupc j` (always the case in a
nonsingular factorization) the guarded decoder is `LUFac.decodeU` -/
theorem decodeUg_eq (F : LUFac Rat) (i j : Nat) (h : j - F.L.fsupc j < F.L.nsupr j) :
    decodeUg F i j = F.decodeU i j := by
  unfold decodeUg LUFac.decodeU
  dsimp only
  split
  · rfl
  · split
    · rw [if_pos (by omega)]
    · rfl

/-- the update of `rpg` by one column, as the property states it: `min(rpg, max|A_j| / max|U_j|)`,
with the library's convention `min(rpg, 1)` for an all-zero column of U -/
def growthStep (A : CSC Rat) (inv : Array Nat) (F : LUFac Rat) (rpg : Rat) (j : Nat) : Rat :=
  let maxaj := colMaxAbs (R := Rat) A (inv.getD j 0)
  let maxuj := colMaxUspec F j
  if maxuj = 0 then min rpg 1 else min rpg (maxaj / maxuj)

/-- **C12 (growth factor, per column).** For a column `j = fsupc + d` of a supernode whose slices
are laid out as the scan assumes, the scan's update of `rpg` is `min(rpg, max|A_j| / max|U_j|)` with
`max|U_j|` the largest magnitude in column `j` (rows `0..j`) of the decoded upper factor — whether
the entries sit in column storage (rows above the supernode) or in the supernodal rectangle, and
also when the supernode stores fewer rows than columns (singular factorization). -/
theorem pivotGrowth_column_spec (A : CSC Rat) (inv : Array Nat) (F : LUFac Rat) (fsupc luptr nsupr d : Nat) (rpg : Rat)
    (hf : F.L.fsupc (fsupc + d) = fsupc)
    (hx : F.L.xlusup[fsupc + d]! = luptr + d * nsupr) (hn : F.L.nsupr (fsupc + d) = nsupr)
    (hnd : ((F.U.col (fsupc + d)).map Prod.fst).Nodup) (habove : ∀ e ∈ F.U.col (fsupc + d), e.1 < fsupc) :
    pgColumn (R := Rat) A inv F fsupc luptr nsupr rpg d = growthStep A inv F rpg (fsupc + d) := by
  unfold pgColumn growthStep
  dsimp only
  rw [colMaxU_eq F ⟨hf, hx, hn, hnd, habove⟩ (by omega) (by omega)]
  simp only [smin_eq_min, beq_iff_eq]

theorem pivotGrowth_spec_partial (ncols : Nat) (A : CSC Rat) (inv : Array Nat) (F : LUFac Rat) (rpg : Rat) (k : Nat)
    (hwf : ∀ d, d < min (F.L.xsup.getD (k + 1) 0) ncols - F.L.xsup.getD k 0 →
      ColLayout F (F.L.xsup.getD k 0 + d) (F.L.xsup.getD k 0) (F.L.xlusup.getD (F.L.xsup.getD k 0) 0)
        (F.L.xlsub.getD (F.L.xsup.getD k 0 + 1) 0 - F.L.xlsub.getD (F.L.xsup.getD k 0) 0) d) :
    (pgSuper (R := Rat) ncols A inv F rpg k).1 =
      ((List.range (min (F.L.xsup.getD (k + 1) 0) ncols - F.L.xsup.getD k 0)).map (F.L.xsup.getD k 0 + ·)).foldl
        (growthStep A inv F) rpg := by
  unfold pgSuper
  dsimp only
  rw [List.foldl_map]
  apply foldl_congr_mem
  intro d hd acc
  have h := hwf d (List.mem_range.mp hd)
  exact pivotGrowth_column_spec A inv F _ _ _ d acc h.fsupc h.xlusup h.nsupr h.nodup h.above

/-- `ratio_j = max|A_j| / max|U_j|` (`1` for an all-zero column of U), `A_j` the column of `A` that
`perm_c` maps to `j`, `max|U_j|` read from the decoded upper factor `decodeUg` -/
def growthRatio (A : CSC Rat) (inv : Array Nat) (F : LUFac Rat) (j : Nat) : Rat :=
  if colMaxUspec F j = 0 then 1 else colMaxAbs (R := Rat) A (inv.getD j 0) / colMaxUspec F j

theorem growthStep_eq_min (A : CSC Rat) (inv : Array Nat) (F : LUFac Rat) (rpg : Rat) (j : Nat) :
    growthStep A inv F rpg j = min rpg (growthRatio A inv F j) := by
  unfold growthStep growthRatio
  dsimp only
  split <;> rfl

/-- **C12 (growth factor, whole scan).** For supernodal storage laid out as the scan assumes
(`xsup` from `0` strictly up to `n`; the clauses of `ColLayout` for every column of every supernode)
and EVERY `ncols` (below, equal to or above `n`): the loop over the
supernodes with the `nz_in_U` counter and the early `break` at `j >= ncols` visits exactly the columns
`0 .. min(ncols,n)-1`, each once, in order, and each contributes `min(rpg, ratio_j)`. -/
theorem pivotGrowth_spec (ncols : Nat) (A : CSC Rat) (perm_c : Array Nat) (F : LUFac Rat) (sml : Rat)
    (h0 : F.L.xsup.getD 0 0 = 0) (hlast : F.L.xsup.getD (F.L.nsuper + 1) 0 = F.L.n)
    (hinc : ∀ k, k < F.L.nsuper + 1 → F.L.xsup.getD k 0 < F.L.xsup.getD (k + 1) 0)
    (hcol : ∀ k, k < F.L.nsuper + 1 → ∀ d, d < F.L.xsup.getD (k + 1) 0 - F.L.xsup.getD k 0 →
      F.L.fsupc (F.L.xsup.getD k 0 + d) = F.L.xsup.getD k 0 ∧
      F.L.xlusup[F.L.xsup.getD k 0 + d]! = F.L.xlusup.getD (F.L.xsup.getD k 0) 0 +
        d * (F.L.xlsub.getD (F.L.xsup.getD k 0 + 1) 0 - F.L.xlsub.getD (F.L.xsup.getD k 0) 0) ∧
      F.L.nsupr (F.L.xsup.getD k 0 + d) = F.L.xlsub.getD (F.L.xsup.getD k 0 + 1) 0 - F.L.xlsub.getD (F.L.xsup.getD k 0) 0 ∧
      ((F.U.col (F.L.xsup.getD k 0 + d)).map Prod.fst).Nodup ∧
      ∀ e ∈ F.U.col (F.L.xsup.getD k 0 + d), e.1 < F.L.xsup.getD k 0) :
    pivotGrowth (R := Rat) ncols A perm_c F sml =
      (List.range (min ncols F.L.n)).foldl (growthStep A (invPerm perm_c A.n) F) (1 / sml) := by
  unfold pivotGrowth
  dsimp only
  rw [foldl_break_flat (fun k => F.L.xsup.getD k 0) ncols _ (growthStep A (invPerm perm_c A.n) F) (1 / sml)
    (F.L.nsuper + 1) h0 hinc fun k hk rpg =>
      ⟨pivotGrowth_spec_partial ncols A (invPerm perm_c A.n) F rpg k fun d hd =>
          let ⟨h1, h2, h3, h4, h5⟩ := hcol k hk d (by omega); ⟨h1, h2, h3, h4, h5⟩,
        pgSuper_flag ncols A _ F rpg k (hinc k hk)⟩,
    hlast, Nat.min_comm]

/-- **C12 (growth factor = the minimum).** Where the scan is the flat fold, the result is
`min(1/smlnum, min_{j < min(ncols,n)} ratio_j)`: it is below `1/smlnum` and below every `ratio_j`, and it
is one of them.  The flat fold is the hypothesis `hspec`, so that `pivotGrowth_spec` and `pivotGrowth_spec_wf`
can each supply it. -/
theorem pivotGrowth_is_min (ncols : Nat) (A : CSC Rat) (perm_c : Array Nat) (F : LUFac Rat) (sml : Rat)
    (hspec : pivotGrowth (R := Rat) ncols A perm_c F sml =
      (List.range (min ncols F.L.n)).foldl (growthStep A (invPerm perm_c A.n) F) (1 / sml)) :
    pivotGrowth (R := Rat) ncols A perm_c F sml ≤ 1 / sml ∧
    (∀ j, j < min ncols F.L.n → pivotGrowth (R := Rat) ncols A perm_c F sml ≤ growthRatio A (invPerm perm_c A.n) F j) ∧
    (pivotGrowth (R := Rat) ncols A perm_c F sml = 1 / sml ∨
      ∃ j, j < min ncols F.L.n ∧ growthRatio A (invPerm perm_c A.n) F j = pivotGrowth (R := Rat) ncols A perm_c F sml) := by
  have hfun : growthStep A (invPerm perm_c A.n) F = fun acc j => min acc (growthRatio A (invPerm perm_c A.n) F j) := by
    funext acc j; exact growthStep_eq_min _ _ _ _ _
  rw [hspec, hfun]
  simp only [← List.mem_range]
  exact ⟨foldl_min_le_init _ _ _, fun j hj => foldl_min_le_mem _ _ _ hj, foldl_min_attained _ _ _⟩

/-- the hypotheses of `pivotGrowth_spec` hold for every (L, U) pair accepted by the structural checker
`Slu.Struct.wfb` (C03, no ILU relaxation) — in particular for every factorization `[sdcz]gstrf` returns
with `info = 0` -/
theorem pivotGrowth_spec_wf (ncols : Nat) (A : CSC Rat) (perm_c : Array Nat) (F : LUFac Rat) (sml : Rat)
    (hn : F.L.n ≠ 0) (hsq : F.L.m = F.L.n) (hwf : Slu.Struct.wfb F false = true) :
    pivotGrowth (R := Rat) ncols A perm_c F sml =
      (List.range (min ncols F.L.n)).foldl (growthStep A (invPerm perm_c A.n) F) (1 / sml) := by
  have H := Slu.Kernels.layout_of_wfb F false hn hsq hwf
  have hnd := Slu.Kernels.ucol_nodup_of_wfb F hn hwf
  have g : ∀ (a : Array Nat) (i : Nat), a.getD i 0 = a[i]! := fun a i => (Slu.Kernels.getElem!_nat a i).symm
  apply pivotGrowth_spec
  · rw [g]; exact H.first
  · rw [g]; exact H.last
  · intro k hk
    have G := H.sn k hk
    have h1 := G.wpos; have h2 := G.hi
    simp only [g]
    show (Slu.Kernels.snode F.L k).fsupc < F.L.xsup[k + 1]!
    omega
  · intro k hk d hd
    have G := H.sn k hk
    simp only [g] at hd ⊢
    have hd' : d < (Slu.Kernels.snode F.L k).nsupc := hd
    have hf := G.fsupc_col d hd'
    refine ⟨hf, G.xlu d hd', ?_, hnd _ (by have := G.hi; have := G.le_n; show (Slu.Kernels.snode F.L k).fsupc + d < F.L.n; omega),
      G.uabove d hd'⟩
    show F.L.nsupr ((Slu.Kernels.snode F.L k).fsupc + d) = _
    unfold SNode.nsupr
    rw [hf]; rfl

/-- non-vacuity of `pivotGrowth_spec_wf`: a 3 x 3 factor with one 2-column supernode and a singleton
passes the checker, so the scan is the flat fold for every `ncols`, `A`, `perm_c`, `smlnum` -/
def exG : LUFac Rat :=
  { L := { m := 3, n := 3, nsuper := 1, xsup := #[0, 2, 3], supno := #[0, 0, 1], xlsub := #[0, 3, 3, 4],
           lsub := #[0, 1, 2, 2], xlusup := #[0, 3, 6, 7], lusup := #[2, 1, 3, 4, 5, 6, 7] },
    U := { m := 3, n := 3, colptr := #[0, 0, 0, 2], rowind := #[0, 1], val := #[8, 9] },
    nnzL := 6, nnzU := 6 }
example (ncols : Nat) (A : CSC Rat) (perm_c : Array Nat) (sml : Rat) :
    pivotGrowth (R := Rat) ncols A perm_c exG sml =
      (List.range (min ncols 3)).foldl (growthStep A (invPerm perm_c A.n) exG) (1 / sml) :=
  pivotGrowth_spec_wf ncols A perm_c exG sml (by decide) rfl (by decide +kernel)

end Slu.Cond
