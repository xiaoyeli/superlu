import Slu.Model.Refine
import SluProofs.Lemmas.Lacon
import SluProofs.Lemmas.Fold
import SluProofs.Lemmas.RefineLoop
import SluProofs.Lemmas.RefineResid
import SluProofs.Lemmas.RefineDenom
import SluProofs.Lemmas.OettliPrager
import SluProofs.Lemmas.RefineDense
/-
C13 — the backward error `[sdcz]gsrfs` reports is the true backward error of the X it returns.

The theorems are about `Slu.Refine`, the model compared bit for bit with `[sdcz]gsrfs` on every run, in
exact arithmetic (`arithQ` on `Rat`; `arithQC` on `Cx Rat` with the library's magnitude `|re| + |im|`), for
every matrix in compressed-column storage (any order, duplicates allowed) and every solver function.  With
the safeguard inactive the stored `berr[j]` is `max_{i : d_i ≠ 0} |b - op(A)x|_i / (|op(A)||x| + |b|)_i`
(`berr_is_cwbe`); for real data that stores no position twice this is the smallest `ω ≥ 0` for which the
returned `x` solves exactly a system perturbed entrywise by at most `ω` relative (`berr_is_min_backward_error`,
Oettli–Prager, Lemmas/OettliPrager.lean).  For the complex routines this characterisation fails; what holds
instead is argued, not formalised, in the comment after that theorem.
-/
namespace Slu.Refine
open Slu Slu.Lacon

variable {K : Type} [Inhabited K]

def ratio (Ar : Arith K Rat) (work : Array K) (rwork : Array Rat) (i : Nat) : Rat :=
  Ar.absK (work.getD i Ar.kzero) / rwork.getD i 0

/-- the array-level part of `berr_is_cwbe`: BERR is the largest ratio `|work_i| / rwork_i` -/
theorem berr_is_cwbe_partial (Ar : Arith K Rat) (hdiv : ∀ r d, Ar.div1 r d = r / d) (s1 s2 : Rat) (hs2 : 0 ≤ s2)
    (work : Array K) (rwork : Array Rat)
    (hsafe : ∀ i, i < rwork.size → rwork.getD i 0 = 0 ∨ s2 < rwork.getD i 0) :
    (∀ i, i < rwork.size → rwork.getD i 0 ≠ 0 → ratio Ar work rwork i ≤ berrOf Ar s1 s2 work rwork) ∧
    (berrOf Ar s1 s2 work rwork = 0 ∨
      ∃ i, i < rwork.size ∧ rwork.getD i 0 ≠ 0 ∧ ratio Ar work rwork i = berrOf Ar s1 s2 work rwork) ∧
    0 ≤ berrOf Ar s1 s2 work rwork := by
  rw [berrOf_eq_foldMax Ar hdiv s1 s2 hs2 work rwork _ _ (fun _ _ => rfl) (fun _ _ => rfl) hsafe]
  exact foldMaxIf_range_spec _ (ratio Ar work rwork) _

section cwbe
open Slu.Gssvx
variable [CommRing K] [HasConj K] [Mag K Rat] [ScalarLaws K]

/-- row `i` of `b - op(A) x`, `A(r,c)` being the sum of the stored entries at `(r,c)` -/
def residRow (tr : Trans) (A : CSC K) (x b : Array K) (i : Nat) : K :=
  b.getD i 0 - opMul (opOfTrans tr) (cscEntries A) (fun k => x.getD k 0) i

/-- row `i` of `|op(A)||x| + |b|` with the library's magnitude -/
def denomRow (Ar : Arith K Rat) (tr : Trans) (A : CSC K) (x b : Array K) (i : Nat) : Rat :=
  Ar.absK (b.getD i 0) + opMul (opOfTrans tr) (absEntries Ar A) (fun k => Ar.absK (x.getD k 0)) i

/-- **C13 (BERR is the componentwise backward error).** In exact arithmetic (any record obeying `ArithLaws`
and `AbsLaws`: `arithQ`, `arithQC`): if every denominator `d_i = (|op(A)||x| + |b|)_i` is `0` or above `safe2`,
the value `[sdcz]gsrfs` stores in `berr[j]` is `max_{i : d_i ≠ 0} |b - op(A) x|_i / d_i`, and the rows left
out (`d_i = 0`) have a zero residual. -/
theorem berr_is_cwbe (Ar : Arith K Rat) (laws : ArithLaws Ar) (al : AbsLaws Ar)
    (hdiv : ∀ r d, Ar.div1 r d = r / d) (tr : Trans) (A : CSC K) (safmin eps : Rat) (b x : Array K)
    (hs2 : 0 ≤ safe2 Ar A.n safmin eps)
    (hsafe : ∀ i, i < b.size → denomRow Ar tr A x b i = 0 ∨ safe2 Ar A.n safmin eps < denomRow Ar tr A x b i) :
    berrX Ar tr A safmin eps b x =
      foldMaxIf (fun i => denomRow Ar tr A x b i ≠ 0)
        (fun i => Ar.absK (residRow tr A x b i) / denomRow Ar tr A x b i) 0 (List.range b.size) ∧
    (∀ i, i < b.size → denomRow Ar tr A x b i ≠ 0 →
      Ar.absK (residRow tr A x b i) / denomRow Ar tr A x b i ≤ berrX Ar tr A safmin eps b x) ∧
    (berrX Ar tr A safmin eps b x = 0 ∨ ∃ i, i < b.size ∧ denomRow Ar tr A x b i ≠ 0 ∧
      Ar.absK (residRow tr A x b i) / denomRow Ar tr A x b i = berrX Ar tr A safmin eps b x) ∧
    0 ≤ berrX Ar tr A safmin eps b x ∧
    (∀ i, i < b.size → denomRow Ar tr A x b i = 0 → residRow tr A x b i = 0) := by
  obtain ⟨rs, rv⟩ := resid_exact Ar laws tr A x b
  obtain ⟨ds, dv⟩ := denom_exact Ar al laws.kzero tr A x b
  -- the arrays `gsrfs` forms hold the rows of `b - op(A) x` and of `|op(A)||x| + |b|`
  have heq : berrX Ar tr A safmin eps b x = _ :=
    (berrOf_eq_foldMax Ar hdiv _ _ hs2 _ _ (denomRow Ar tr A x b) (fun i => Ar.absK (residRow tr A x b i))
      (ds ▸ dv) (fun i hi => by rw [laws.kzero, rv i (ds ▸ hi)]; rfl) (ds ▸ hsafe)).trans (by rw [ds])
  obtain ⟨hge, hatt, h0⟩ := foldMaxIf_range_spec (fun i => denomRow Ar tr A x b i ≠ 0)
    (fun i => Ar.absK (residRow tr A x b i) / denomRow Ar tr A x b i) b.size
  rw [← heq] at hge hatt h0
  exact ⟨heq, hge, hatt, h0, fun i _ hz => resid_zero_of_denom_zero Ar al tr A x b i hz⟩

example (tr : Trans) (A : CSC Rat) (safmin eps : Rat) (b x : Array Rat)
    (hs2 : 0 ≤ safe2 arithQ A.n safmin eps)
    (hsafe : ∀ i, i < b.size → denomRow arithQ tr A x b i = 0 ∨ safe2 arithQ A.n safmin eps < denomRow arithQ tr A x b i) :
    0 ≤ berrX arithQ tr A safmin eps b x :=
  (berr_is_cwbe arithQ arithQ_laws absQ_laws (fun _ _ => rfl) tr A safmin eps b x hs2 hsafe).2.2.2.1
example (tr : Trans) (A : CSC (Cx Rat)) (safmin eps : Rat) (b x : Array (Cx Rat))
    (hs2 : 0 ≤ safe2 arithQC A.n safmin eps)
    (hsafe : ∀ i, i < b.size → denomRow arithQC tr A x b i = 0 ∨ safe2 arithQC A.n safmin eps < denomRow arithQC tr A x b i) :
    0 ≤ berrX arithQC tr A safmin eps b x :=
  (berr_is_cwbe arithQC arithQC_laws absQC_laws (fun _ _ => rfl) tr A safmin eps b x hs2 hsafe).2.2.2.1

end cwbe

section minbe
open Slu.Gssvx Slu.Equil Slu.OettliPrager

theorem residRow_eq_res (tr : Trans) (A : CSC Rat) (x b : Array Rat) (n : Nat) (hn : A.n ≤ n) (hx : x.size ≤ n) (i : Nat) :
    residRow tr A x b i =
      res n (opDense tr (cscEntries A)) (fun k => x.getD k 0) (fun k => b.getD k 0) i := by
  unfold residRow res
  rw [opMul_eq_dense tr _ _ n i (fun e he => Nat.lt_of_lt_of_le (mem_cscEntries_col A e he) hn)
    (fun k hk => getD_zero_of_size_le x n k hx hk)]

/-- the denominator row of `berr_is_cwbe` is the Oettli–Prager weight `(E |x| + |b|)_i`, `E(r,c)` being
the sum of the magnitudes of the entries stored at `(r,c)` -/
theorem denomRow_eq_den (tr : Trans) (A : CSC Rat) (x b : Array Rat) (n : Nat) (hn : A.n ≤ n) (hx : x.size ≤ n) (i : Nat) :
    denomRow arithQ tr A x b i =
      den n (opDense tr (absEntries arithQ A)) (fun k => x.getD k 0) (fun k => |b.getD k 0|) i := by
  unfold denomRow den
  rw [opMul_eq_dense tr _ _ n i (fun e he => Nat.lt_of_lt_of_le (mem_absEntries_col A e he) hn)
    (fun k hk => by
      show rabs (x.getD k 0) = 0
      rw [getD_zero_of_size_le x n k hx hk]; rfl)]
  show rabs (b.getD i 0) + ∑ j ∈ Finset.range n, opDense tr (absEntries arithQ A) i j * rabs (x.getD j 0) = _
  simp only [rabs_eq_abs]
  ring

theorem berrX_eq_omegaStar (tr : Trans) (A : CSC Rat) (safmin eps : Rat) (b x : Array Rat) (n : Nat)
    (hn : A.n ≤ n) (hx : x.size ≤ n)
    (hs2 : 0 ≤ safe2 arithQ A.n safmin eps)
    (hsafe : ∀ i, i < b.size → denomRow arithQ tr A x b i = 0 ∨ safe2 arithQ A.n safmin eps < denomRow arithQ tr A x b i) :
    berrX arithQ tr A safmin eps b x =
      omegaStar b.size n (opDense tr (cscEntries A)) (opDense tr (absEntries arithQ A))
        (fun k => x.getD k 0) (fun k => b.getD k 0) (fun k => |b.getD k 0|) := by
  rw [(berr_is_cwbe arithQ arithQ_laws absQ_laws (fun _ _ => rfl) tr A safmin eps b x hs2 hsafe).1]
  unfold omegaStar
  have e1 : ∀ i, residRow tr A x b i = _ := residRow_eq_res tr A x b n hn hx
  have e2 : ∀ i, denomRow arithQ tr A x b i = _ := denomRow_eq_den tr A x b n hn hx
  simp only [e1, e2]
  show foldMaxIf _ (fun i => rabs _ / _) 0 _ = _
  simp only [rabs_eq_abs]

/-- **C13 (BERR is the smallest componentwise backward error; duplicates allowed).**  Real exact arithmetic.
With `a(i,j)` entry `(i,j)` of `op(A)` (sum of the values stored there) and `e(i,j)` the sum of their
magnitudes: under the hypotheses of `berr_is_cwbe`, `x` solves exactly a system `(op(A) + δA) x = b + δb`
with `|δA| ≤ berr · e`, `|δb| ≤ berr · |b|` entrywise, and no `ω ≥ 0` allowing such a perturbation — with the
bound `ω e` or with the tighter bound `ω |a|` — is smaller than `berr`. -/
theorem berr_is_min_backward_error_dup (tr : Trans) (A : CSC Rat) (safmin eps : Rat) (b x : Array Rat) (n : Nat)
    (hn : A.n ≤ n) (hx : x.size ≤ n)
    (hs2 : 0 ≤ safe2 arithQ A.n safmin eps)
    (hsafe : ∀ i, i < b.size → denomRow arithQ tr A x b i = 0 ∨ safe2 arithQ A.n safmin eps < denomRow arithQ tr A x b i) :
    let a : Nat → Nat → Rat := opDense tr (cscEntries A)
    let e : Nat → Nat → Rat := opDense tr (absEntries arithQ A)
    let xv : Nat → Rat := fun k => x.getD k 0
    let bv : Nat → Rat := fun k => b.getD k 0
    let berr : Rat := berrX arithQ tr A safmin eps b x
    0 ≤ berr ∧
    Feasible b.size n a e xv bv (fun i => |bv i|) berr ∧
    (∀ ω, 0 ≤ ω → Feasible b.size n a e xv bv (fun i => |bv i|) ω → berr ≤ ω) ∧
    (∀ ω, 0 ≤ ω → Feasible b.size n a (fun i j => |a i j|) xv bv (fun i => |bv i|) ω → berr ≤ ω) := by
  intro a e xv bv berr
  have hcw := berr_is_cwbe arithQ arithQ_laws absQ_laws (fun _ _ => rfl) tr A safmin eps b x hs2 hsafe
  have heq : berr = omegaStar b.size n a e xv bv (fun i => |bv i|) :=
    berrX_eq_omegaStar tr A safmin eps b x n hn hx hs2 hsafe
  have hE : ∀ i < b.size, ∀ j < n, 0 ≤ e i j :=
    fun i _ j _ => le_trans (abs_nonneg _) (opDense_abs_le tr A i j)
  have hf : ∀ i < b.size, (0 : Rat) ≤ |bv i| := fun _ _ => abs_nonneg _
  have hz : ∀ i < b.size, den n e xv (fun i => |bv i|) i = 0 → res n a xv bv i = 0 := by
    intro i hi h0
    rw [← denomRow_eq_den tr A x b n hn hx i] at h0
    rw [← residRow_eq_res tr A x b n hn hx i]
    exact hcw.2.2.2.2 i hi h0
  have hmin : ∀ ω, 0 ≤ ω → Feasible b.size n a e xv bv (fun i => |bv i|) ω → berr ≤ ω := by
    intro ω hω h; rw [heq]; exact omegaStar_le _ _ _ _ _ _ _ hE hf ω hω h
  refine ⟨hcw.2.2.2.1, ?_, hmin, ?_⟩
  · rw [heq]; exact omegaStar_feasible _ _ _ _ _ _ _ hE hf hz
  · intro ω hω h
    exact hmin ω hω (Feasible.mono_E hω (fun i _ j _ => opDense_abs_le tr A i j) h)

/-- **C13 (BERR is the smallest componentwise relative backward error).**  Real exact arithmetic, a matrix
that stores no position twice: under the hypotheses of `berr_is_cwbe` the value `[sd]gsrfs` stores in
`berr[j]` is the smallest `ω ≥ 0` for which the returned `x` is the exact solution of a system
`(op(A) + δA) x = b + δb` with `|δA(i,j)| ≤ ω |a(i,j)|` and `|δb_i| ≤ ω |b_i|` (Oettli–Prager). -/
theorem berr_is_min_backward_error (tr : Trans) (A : CSC Rat) (safmin eps : Rat) (b x : Array Rat) (n : Nat)
    (hn : A.n ≤ n) (hx : x.size ≤ n) (hnd : NoDupPos A)
    (hs2 : 0 ≤ safe2 arithQ A.n safmin eps)
    (hsafe : ∀ i, i < b.size → denomRow arithQ tr A x b i = 0 ∨ safe2 arithQ A.n safmin eps < denomRow arithQ tr A x b i) :
    let a : Nat → Nat → Rat := opDense tr (cscEntries A)
    let xv : Nat → Rat := fun k => x.getD k 0
    let bv : Nat → Rat := fun k => b.getD k 0
    let berr : Rat := berrX arithQ tr A safmin eps b x
    let feasible : Rat → Prop := fun ω => ∃ (dA : Nat → Nat → Rat) (db : Nat → Rat),
      (∀ i < b.size, ∀ j < n, |dA i j| ≤ ω * |a i j|) ∧ (∀ i < b.size, |db i| ≤ ω * |bv i|) ∧
      (∀ i < b.size, ∑ j ∈ Finset.range n, (a i j + dA i j) * xv j = bv i + db i)
    0 ≤ berr ∧ feasible berr ∧ ∀ ω, 0 ≤ ω → feasible ω → berr ≤ ω := by
  intro a xv bv berr feasible
  obtain ⟨h0, hfe, _, hmin⟩ := berr_is_min_backward_error_dup tr A safmin eps b x n hn hx hs2 hsafe
  have he : opDense tr (absEntries arithQ A) = fun i j => |a i j| := by
    funext i j; exact opDense_abs_eq tr A hnd i j
  rw [he] at hfe
  exact ⟨h0, hfe, hmin⟩

/-! a 2 x 2 instance on which every hypothesis holds (`trans = N` and `T`), `berr = 1/2` resp. `3/11` -/

def exA : CSC Rat := { m := 2, n := 2, colptr := #[0, 2, 4], rowind := #[0, 1, 0, 1], val := #[2, 1, 4, 3] }
def exb : Array Rat := #[1, 2]
def exx : Array Rat := #[1/2, 1/2]

theorem exA_nodup : NoDupPos exA := by unfold NoDupPos; decide +kernel
theorem exA_safe2 : 0 ≤ safe2 arithQ exA.n (1/1000) (1/10) := by decide +kernel
theorem exA_hsafe (tr : Trans) (h : tr = .N ∨ tr = .T) : ∀ i, i < exb.size → denomRow arithQ tr exA exx exb i = 0 ∨
    safe2 arithQ exA.n (1/1000) (1/10) < denomRow arithQ tr exA exx exb i := by
  rcases h with rfl | rfl <;> decide +kernel

example : exA.n ≤ 2 ∧ exx.size ≤ 2 ∧ NoDupPos exA ∧ 0 ≤ safe2 arithQ exA.n (1/1000) (1/10) ∧
    (∀ tr : Trans, tr = .N ∨ tr = .T → ∀ i, i < exb.size → denomRow arithQ tr exA exx exb i = 0 ∨
      safe2 arithQ exA.n (1/1000) (1/10) < denomRow arithQ tr exA exx exb i) ∧
    berrX arithQ .N exA (1/1000) (1/10) exb exx = 1/2 ∧
    berrX arithQ .T exA (1/1000) (1/10) exb exx = 3/11 :=
  ⟨by decide, by decide, exA_nodup, exA_safe2, exA_hsafe, by decide +kernel, by decide +kernel⟩

example := berr_is_min_backward_error .N exA (1/1000) (1/10) exb exx 2 (by decide) (by decide)
  exA_nodup exA_safe2 (exA_hsafe .N (.inl rfl))
example := berr_is_min_backward_error .T exA (1/1000) (1/10) exb exx 2 (by decide) (by decide)
  exA_nodup exA_safe2 (exA_hsafe .T (.inr rfl))

/-- the hypothesis `NoDupPos` of `berr_is_min_backward_error` cannot be dropped: the 1 x 1 matrix
that stores `1` and `-1` at `(0,0)` (so `a(0,0) = 0` but `e(0,0) = 2`), `x = b = 1`, satisfies the
hypotheses of `berr_is_cwbe`, `berr = 1/3`, and no perturbation with `|δA| ≤ berr |a|`, `|δb| ≤ berr |b|`
exists (it exists only from `ω = 1` on).  With duplicates BERR is still a lower bound of the feasible
`ω` (`berr_is_min_backward_error_dup`, last clause) and is the minimum for the weights `e`. -/
def dupA : CSC Rat := { m := 1, n := 1, colptr := #[0, 2], rowind := #[0, 0], val := #[1, -1] }

example :
    (0 ≤ safe2 arithQ dupA.n (1/1000) (1/10)) ∧
    (∀ i, i < (#[1] : Array Rat).size → denomRow arithQ .N dupA #[1] #[1] i = 0 ∨
      safe2 arithQ dupA.n (1/1000) (1/10) < denomRow arithQ .N dupA #[1] #[1] i) ∧
    berrX arithQ .N dupA (1/1000) (1/10) #[1] #[1] = 1/3 ∧
    ¬ ∃ (dA : Nat → Nat → Rat) (db : Nat → Rat),
      (∀ i < 1, ∀ j < 1, |dA i j| ≤ 1/3 * |opDense .N (cscEntries dupA) i j|) ∧
      (∀ i < 1, |db i| ≤ 1/3 * |(#[1] : Array Rat).getD i 0|) ∧
      (∀ i < 1, ∑ j ∈ Finset.range 1, (opDense .N (cscEntries dupA) i j + dA i j) * (#[1] : Array Rat).getD j 0
        = (#[1] : Array Rat).getD i 0 + db i) := by
  refine ⟨by decide +kernel, by decide +kernel, by decide +kernel, ?_⟩
  -- (→) of Oettli–Prager: a feasible `ω = 1/3` would bound the residual `1` of row 0 by `1/3 (0 · 1 + 1)`
  intro h
  have hb := feasible_imp_bound 1 1 (opDense .N (cscEntries dupA)) (fun i j => |opDense .N (cscEntries dupA) i j|)
    (fun j => (#[1] : Array Rat).getD j 0) (fun i => (#[1] : Array Rat).getD i 0)
    (fun i => |(#[1] : Array Rat).getD i 0|) (1/3) h 0 (by decide)
  have e0 : opDense .N (cscEntries dupA) 0 0 = 0 := by decide +kernel
  have g1 : (#[1] : Array Rat).getD 0 0 = 1 := by decide +kernel
  simp only [res, den, Finset.sum_range_one, e0, g1] at hb
  norm_num at hb

/-
The complex case (`arithQC`, magnitude `|z|₁ = |re z| + |im z|`, which is not the modulus) is NOT
covered and the equivalence does not hold for it as stated.  What holds for `|·|₁`:
* `|z w|₁ ≤ |z|₁ |w|₁`, hence the (→) direction with constant 1: if `(A + δA) x = b + δb` with
  `|δA|₁ ≤ ω |A|₁`, `|δb|₁ ≤ ω |b|₁` entrywise then `|r_i|₁ ≤ ω (|A|₁|x|₁ + |b|₁)_i`, i.e. the BERR of
  `[cz]gsrfs` is a lower bound of every feasible `ω`;
* the (←) direction fails: `|·|₁` is not multiplicative (`|z|₁ |w|₁ ≤ 2 |z w|₁` is the best reverse
  bound), so the perturbation `δA_ij = (r_i/d_i) |A_ij|₁ |x_j|₁ / x_j` only satisfies `|δA_ij|₁ ≤ 2 ω |A_ij|₁`.
  Example (1 x 1): `A = 1+i`, `x = 1+i`, `b = 0`: `r = -2i`, `d = 4`, BERR `= 1/2`, but `δb = 0` and
  `x ≠ 0` force `δA = -A`, so the smallest feasible `ω` is `1 = 2 · BERR`.
So for complex data BERR ≤ ω_min ≤ 2 · BERR in the `|·|₁` sense (not formalised here), with both
ends attained; the exact characterisation above is a statement about `[sd]gsrfs`.
-/

end minbe

/-- **C13 (at most five steps).** Whatever the solver returns, the loop applies at most `ITMAX = 5`
corrections (dgsrfs.c:338). -/
theorem refine_steps_le_5 (Ar : Arith K Rat) (tr : Trans) (A : CSC K) (safmin eps : Rat)
    (solve : Array K → Array K) (b x : Array K) :
    (refineCol Ar tr A safmin eps solve b x).2.2 ≤ 5 :=
  (refineLoop_spec Ar tr A safmin eps solve b (fun _ count => count ≤ ITMAX)
    (fun _ _ _ _ hc => by
      simp only [continue?, Bool.and_eq_true, decide_eq_true_eq] at hc
      exact hc.2)
    _ x 3 0 (by decide)).1

/-- **C13 (BERR belongs to the returned X).** The value stored in `berr[j]` is the safeguarded
ratio evaluated on the very `x` the loop returns: the loop exits only after re-evaluating the
residual of the corrected solution. -/
theorem berr_of_returned_x (Ar : Arith K Rat) (tr : Trans) (A : CSC K) (safmin eps : Rat)
    (solve : Array K → Array K) (b x : Array K) :
    (refineCol Ar tr A safmin eps solve b x).2.1 =
      berrX Ar tr A safmin eps b (refineCol Ar tr A safmin eps solve b x).1 :=
  (refineLoop_spec Ar tr A safmin eps solve b (fun _ _ => True) (fun _ _ _ _ _ => trivial) _ x 3 0 trivial).2

/-- no step is taken (and X is returned untouched) when the first BERR is already at most `eps` -/
theorem refine_no_step (Ar : Arith K Rat) (tr : Trans) (A : CSC K) (safmin eps : Rat)
    (solve : Array K → Array K) (b x : Array K) (h : berrX Ar tr A safmin eps b x ≤ eps) :
    refineCol Ar tr A safmin eps solve b x = (x, berrX Ar tr A safmin eps b x, 0) := by
  have hc : continue? (berrX Ar tr A safmin eps b x) eps 3 0 = false := by
    simp only [continue?, gt_iff_lt, not_lt.mpr h, decide_false, Bool.false_and]
  rw [refineCol, refineLoop_succ, hc]
  rfl

/-- **C13 (refinement disabled).** `berr = ferr = 1` for every right-hand side and X is exactly the
`gstrs` solution. -/
theorem norefine_ones (nrhs : Nat) (x0 : Array (Array K))
    (gsrfs : Array (Array K) → Array (Array K) × Array Rat × Array Rat) :
    driverRefine false nrhs x0 gsrfs = (x0, Array.replicate nrhs 1, Array.replicate nrhs 1) ∧
    (∀ j, j < nrhs → (driverRefine false nrhs x0 gsrfs).2.1[j]? = some 1 ∧
      (driverRefine false nrhs x0 gsrfs).2.2[j]? = some 1) := by
  refine ⟨rfl, fun j hj => ?_⟩
  simp [driverRefine, hj]

theorem refine_on (nrhs : Nat) (x0 : Array (Array K))
    (gsrfs : Array (Array K) → Array (Array K) × Array Rat × Array Rat) :
    driverRefine true nrhs x0 gsrfs = gsrfs x0 := rfl

theorem foldl_smax_nonneg {α : Type} (f : α → Rat) (l : List α) (m : Rat) (hm : 0 ≤ m) :
    0 ≤ l.foldl (fun m i => smax m (f i)) m := by
  simp only [smax_eq_max]
  exact hm.trans (foldl_max_ge_init f l m)

/-- **C13 (FERR is non-negative).** The modelled FERR (the estimator's result divided by the largest scaled
component of X, dgsrfs.c:405-450) is `≥ 0`. -/
theorem ferr_nonneg (Ar : Arith K Rat) (P : Prim K Rat) (hP : Lawful P) (w : Array Rat) (s : Option (Array Rat))
    (solve solveT : Array K → Array K) (x : Array K) :
    0 ≤ ferrOf Ar P w s solve solveT x := by
  have he : ∀ T1 T2 n, 0 ≤ (run P T1 T2 maxCalls (init P n 0)).est :=
    fun T1 T2 n => run_est_nonneg P hP T1 T2 maxCalls (init P n 0) (le_refl (0 : Rat))
  have key : ∀ (E L : Rat), 0 ≤ E → 0 ≤ L → 0 ≤ (if (L != 0) = true then E / L else E) := by
    intro E L hE hL; split
    · exact div_nonneg hE hL
    · exact hE
  unfold ferrOf
  cases s
  · exact key _ _ (he _ _ _) (foldl_smax_nonneg _ _ 0 le_rfl)
  · exact key _ _ (he _ _ _) (foldl_smax_nonneg _ _ 0 le_rfl)

end Slu.Refine
