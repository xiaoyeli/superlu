import SluProofs.Lemmas.TrsvLayout
import SluProofs.Lemmas.Cblas2
import Slu.Model.Lacon
/-
C14 — Sparse triangular solve / multiply kernels compute the documented operation.

All theorems are in exact arithmetic over an arbitrary field `K` with a conjugation `Conj K`
(instances: `Rat`, and the Gaussian rationals `Cx Rat`, proved a field in `Lemmas/CxRat.lean`), for
ALL sizes, flags, alpha/beta, strides of y, leading dimensions and numbers of right-hand sides.

* `spGemv` / `spGemm` are the statement-order model that the driver also runs at `Float/Float32/Cx _` and compares
  bit for bit with `sp_[sdcz]gemv/gemm`.
* `sp_trsv_spec` is about `trsvRef`, the dense reference (forward / back substitution on
  `op(decodeL)` / `op(decodeU)` with the documented meaning of `diag`); `sp_trsv_model` ties the supernodal model
  `spTrsv` (the object compared with `sp_[sdcz]trsv`; it follows the C loops supernode by supernode) to it.  For
  `trans = C` the conjugation must fix 0 and 1 and be additive (`ConjOK`; true for `Rat` and `Cx Rat`, see the examples).
-/
namespace Slu.Kernels
open Finset

variable {K : Type} [Field K] [Conj K] [Inhabited K]

/-- **C14 (sp_trsv, dense reference).** Substitution on a triangular `trsvMat` with nonzero diagonal solves
`op(T) x = b`. -/
theorem sp_trsv_spec (F : LUFac K) (uplo : UpLo) (tr : Tr) (unit : Bool) (b : Array K)
    (htri : ∀ i j, i < F.L.n → j < F.L.n → (if effLower uplo tr then i < j else j < i) →
      trsvMat F uplo tr unit i j = 0)
    (hdiag : ∀ i, i < F.L.n → trsvMat F uplo tr unit i i ≠ 0) :
    (trsvRef F uplo tr unit b).size = F.L.n ∧
    ∀ i, i < F.L.n →
      ∑ j ∈ range F.L.n, trsvMat F uplo tr unit i j * (trsvRef F uplo tr unit b).getD j 0 = b.getD i 0 := by
  have hsize : (trsvRef F uplo tr unit b).size = F.L.n := by
    unfold trsvRef
    cases effLower uplo tr
    · exact List.size_toArray.trans (bwdSub_length _ _ _ _ _)
    · exact fwdSub_size _ _ _ _
  refine ⟨hsize, fun i hi => ?_⟩
  have hrec := (eq_div_iff (hdiag i hi)).mp (trsvRef_rec F uplo tr unit b i hi)
  -- row `i`: the part before the diagonal, the diagonal, the part behind it; one of the outer parts vanishes
  rw [Finset.sum_congr rfl fun j hj => by
      rw [← getElem!_eq_getD_of_lt _ j (hsize.symm ▸ mem_range.mp hj)],
    ← Finset.sum_range_add_sum_Ico _ (show i + 1 ≤ F.L.n by omega), Finset.sum_range_succ]
  cases hl : effLower uplo tr <;> simp only [hl, Bool.false_eq_true, if_false, if_true] at hrec htri
  · rw [Finset.sum_eq_zero fun j hj => by rw [htri i j hi (by have := mem_range.mp hj; omega) (mem_range.mp hj), zero_mul],
      zero_add, mul_comm, hrec, sub_add_cancel]
  · rw [Finset.sum_eq_zero (s := Ico (i + 1) F.L.n) fun j hj => by
      rw [htri i j hi (mem_Ico.mp hj).2 (mem_Ico.mp hj).1, zero_mul], add_zero, mul_comm, hrec, add_sub_cancel]

/-- **C14 (sp_trsv, the supernodal model is the dense reference).** On every (L, U) pair accepted by
the structural checker `wfb` (C03; with or without the ILU relaxation) the supernodal forward / back substitution that
follows the loops of `sp_[sdcz]trsv` returns the entries of the dense reference, singular diagonal included: both sides
divide by the same entry. -/
theorem sp_trsv_model (F : LUFac K) (ilu : Bool) (uplo : UpLo) (tr : Tr) (unit : Bool) (b : Array K)
    (hwf : Slu.Struct.wfb F ilu = true) (hsq : F.L.m = F.L.n) (hconj : tr = Tr.C → ConjOK K)
    (hb : b.size = F.L.n) :
    (spTrsv F uplo tr unit b).size = F.L.n ∧
    ∀ i, i < F.L.n → (spTrsv F uplo tr unit b)[i]! = (trsvRef F uplo tr unit b)[i]! := by
  by_cases h0 : F.L.n = 0
  · exact ⟨by simp [spTrsv, h0, hb], fun i hi => by omega⟩
  · exact spTrsv_eq_ref F (layout_of_wfb F ilu h0 hsq hwf) uplo tr hconj unit b hb

/-- the first hypothesis of `sp_trsv_spec` holds on storage accepted by `wfb` -/
theorem trsvMat_triangular (F : LUFac K) (ilu : Bool) (uplo : UpLo) (tr : Tr) (unit : Bool)
    (hwf : Slu.Struct.wfb F ilu = true) (hsq : F.L.m = F.L.n) (hconj : tr = Tr.C → ConjOK K) :
    ∀ i j, i < F.L.n → j < F.L.n → (if effLower uplo tr then i < j else j < i) →
      trsvMat F uplo tr unit i j = 0 := by
  intro i j hi hj h
  exact (layout_of_wfb F ilu (by omega) hsq hwf).trsvMat_tri uplo tr hconj unit i j hi hj h

/-- **C14 (sp_trsv, the model solves the system).** On storage accepted by `wfb`, with a nonzero
diagonal of the matrix referred to (automatic for `uplo = L` and for `diag = 'U'`), the supernodal
model returns the solution of `op(T) x = b`. -/
theorem sp_trsv_model_spec (F : LUFac K) (ilu : Bool) (uplo : UpLo) (tr : Tr) (unit : Bool) (b : Array K)
    (hwf : Slu.Struct.wfb F ilu = true) (hsq : F.L.m = F.L.n) (hconj : tr = Tr.C → ConjOK K)
    (hb : b.size = F.L.n) (hdiag : ∀ i, i < F.L.n → trsvMat F uplo tr unit i i ≠ 0) :
    (spTrsv F uplo tr unit b).size = F.L.n ∧
    ∀ i, i < F.L.n →
      ∑ j ∈ range F.L.n, trsvMat F uplo tr unit i j * (spTrsv F uplo tr unit b)[j]! = b[i]! := by
  obtain ⟨hs, hv⟩ := sp_trsv_model F ilu uplo tr unit b hwf hsq hconj hb
  obtain ⟨rs, rv⟩ := sp_trsv_spec F uplo tr unit b (trsvMat_triangular F ilu uplo tr unit hwf hsq hconj) hdiag
  refine ⟨hs, fun i hi => ?_⟩
  rw [getElem!_eq_getD_of_lt b i (by omega), ← rv i hi]
  apply Finset.sum_congr rfl
  intro j hj
  have hj' := mem_range.mp hj
  rw [hv j hj', getElem!_eq_getD_of_lt _ j (by omega)]

section gemv
variable [BEq K] [LawfulBEq K]

/-- **C14 (sp_gemv).** For every m x n column-compressed A (m, n > 0, row indices below m;
repeated entries allowed, they add up), every op in {N, T, C}, every alpha and beta (including the
`alpha = 0, beta = 1` early return, `alpha = 0`, `beta = 0` where y is never read, `beta = 1`), every
nonzero incy and any incx, the strided entries of the result are
`alpha * sum_j op(A)(i,j) x_j + beta * y_i`, and every other element of the y array is untouched. -/
theorem sp_gemv_spec (tr : Tr) (alpha : K) (A : CSC K) (x : Array K) (incx : Int) (beta : K) (y : Array K) (incy : Int)
    (hm : A.m ≠ 0) (hn : A.n ≠ 0) (hincy : incy ≠ 0)
    (hrows : ∀ j, j < A.n → ∀ e ∈ A.col j, e.1 < A.m)
    (hy : ∀ i, i < lenY tr A → vpos (lenY tr A) incy i < y.size) :
    (spGemv tr alpha A x incx beta y incy).size = y.size ∧
    (∀ i, i < lenY tr A → (spGemv tr alpha A x incx beta y incy)[vpos (lenY tr A) incy i]! =
        alpha * (∑ j ∈ range (lenX tr A), opEntry tr A i j * x[vpos (lenX tr A) incx j]!) +
          beta * y[vpos (lenY tr A) incy i]!) ∧
    (∀ p, (∀ i, i < lenY tr A → vpos (lenY tr A) incy i ≠ p) → (spGemv tr alpha A x incx beta y incy)[p]! = y[p]!) := by
  unfold spGemv
  by_cases hq : alpha = 0 ∧ beta = 1
  · rw [if_pos (by simp [hq.1, hq.2])]
    exact ⟨rfl, fun i _ => by rw [hq.1, hq.2, zero_mul, zero_add, one_mul], fun _ _ => rfl⟩
  rw [if_neg (by simpa [hm, hn] using hq)]
  obtain ⟨s1, v1, o1⟩ := gemvScale_spec beta (lenY tr A) incy y hincy hy
  by_cases ha : alpha = 0
  · rw [if_pos (by simpa using ha)]
    exact ⟨s1, fun i hi => by rw [v1 i hi, ha, zero_mul, zero_add], o1⟩
  rw [if_neg (by simpa using ha)]
  by_cases ht : tr = Tr.N
  · subst ht
    rw [show lenY Tr.N A = A.m from rfl] at s1 v1 o1 hy ⊢
    rw [show lenX Tr.N A = A.n from rfl, if_pos (show (Tr.N == Tr.N) = true from rfl)]
    obtain ⟨s2, v2, o2⟩ := gemvN_spec alpha A x A.n incx incy (gemvScale beta A.m incy y) hincy hrows
      (fun i hi => by rw [s1]; exact hy i hi)
    exact ⟨s2.trans s1, fun i hi => by rw [v2 i hi, v1 i hi, add_comm], fun p hp => by rw [o2 p hp, o1 p hp]⟩
  · rw [lenY_T tr ht] at s1 v1 o1 hy ⊢
    rw [lenX_T tr ht, if_neg (Bool.eq_false_iff.mp (Tr.beq_N_eq_false ht))]
    obtain ⟨s2, v2, o2⟩ := gemvT_spec tr ht alpha A x A.m incx incy (gemvScale beta A.n incy y) hincy hrows
      (fun i hi => by rw [s1]; exact hy i hi)
    exact ⟨s2.trans s1, fun i hi => by rw [v2 i hi, v1 i hi, add_comm], fun p hp => by rw [o2 p hp, o1 p hp]⟩

/-- when `beta = 0` the result does not depend on what y held at the strided positions ("Y need not
be set on input") -/
theorem sp_gemv_beta_zero (tr : Tr) (alpha : K) (A : CSC K) (x : Array K) (incx : Int) (y : Array K) (incy : Int)
    (hm : A.m ≠ 0) (hn : A.n ≠ 0) (hincy : incy ≠ 0)
    (hrows : ∀ j, j < A.n → ∀ e ∈ A.col j, e.1 < A.m)
    (hy : ∀ i, i < lenY tr A → vpos (lenY tr A) incy i < y.size) (i : Nat) (hi : i < lenY tr A) :
    (spGemv tr alpha A x incx 0 y incy)[vpos (lenY tr A) incy i]! =
      alpha * (∑ j ∈ range (lenX tr A), opEntry tr A i j * x[vpos (lenX tr A) incx j]!) := by
  rw [(sp_gemv_spec tr alpha A x incx 0 y incy hm hn hincy hrows hy).2.1 i hi]; ring

theorem sp_gemv_empty (tr : Tr) (alpha : K) (A : CSC K) (x : Array K) (incx : Int) (beta : K) (y : Array K) (incy : Int)
    (h : A.m = 0 ∨ A.n = 0) : spGemv tr alpha A x incx beta y incy = y := by
  unfold spGemv
  rcases h with h | h <;> simp [h]

theorem sp_gemv_size (tr : Tr) (alpha : K) (A : CSC K) (x : Array K) (incx : Int) (beta : K) (y : Array K)
    (hrows : ∀ j, j < A.n → ∀ e ∈ A.col j, e.1 < A.m) (hy : lenY tr A ≤ y.size) :
    (spGemv tr alpha A x incx beta y 1).size = y.size := by
  by_cases h : A.m = 0 ∨ A.n = 0
  · rw [sp_gemv_empty tr alpha A x incx beta y 1 h]
  · have hm : A.m ≠ 0 := fun hc => h (Or.inl hc)
    have hn : A.n ≠ 0 := fun hc => h (Or.inr hc)
    exact (sp_gemv_spec tr alpha A x incx beta y 1 hm hn (by decide) hrows (fun i hi => by
      rw [vpos_one]; omega)).1

/-- **C14 (sp_gemm, column-wise).** `sp_[sdcz]gemm` applies the matrix-vector product to every
column of B and C: entry (i, j) of the result is `alpha * sum_k op(A)(i,k) B(k,j) + beta * C(i,j)`,
for every number of columns, all leading dimensions `ldc ≥ rows of op(A)`; padding rows of C and
everything behind the last column are untouched. -/
theorem sp_gemm_spec (tr : Tr) (nc : Nat) (alpha : K) (A : CSC K) (b : Array K) (ldb : Nat) (beta : K)
    (c : Array K) (ldc : Nat) (hm : A.m ≠ 0) (hn : A.n ≠ 0)
    (hrows : ∀ j, j < A.n → ∀ e ∈ A.col j, e.1 < A.m) (hld : lenY tr A ≤ ldc) (hc : ldc * nc ≤ c.size) :
    (spGemm tr nc alpha A b ldb beta c ldc).size = c.size ∧
    (∀ j i, j < nc → i < lenY tr A → (spGemm tr nc alpha A b ldb beta c ldc)[ldc * j + i]! =
        alpha * (∑ k ∈ range (lenX tr A), opEntry tr A i k * b[ldb * j + k]!) + beta * c[ldc * j + i]!) ∧
    (∀ p, p < c.size → (ldc * nc ≤ p ∨ lenY tr A ≤ p % ldc) → (spGemm tr nc alpha A b ldb beta c ldc)[p]! = c[p]!) := by
  obtain ⟨h1, h2, h3⟩ := gstrsTo_spec (fun j v => spGemv tr alpha A (slice b (ldb * j) (lenX tr A)) 1 beta v 1)
    (lenY tr A) ldc c nc (fun j v hv => by rw [sp_gemv_size tr alpha A _ 1 beta v hrows (by omega), hv]) hld hc
  refine ⟨h1, fun j i hj hi => ?_, h3⟩
  have hspec := (sp_gemv_spec tr alpha A (slice b (ldb * j) (lenX tr A)) 1 beta (slice c (ldc * j) (lenY tr A)) 1
    hm hn (by decide) hrows (fun i hi => by rw [vpos_one, slice_size]; exact hi)).2.1 i hi
  rw [vpos_one] at hspec
  rw [spGemm_eq_gstrsTo, h2 j i hj hi, hspec, slice_get _ _ _ _ hi]
  refine congrArg (· + _) (congrArg _ (Finset.sum_congr rfl fun k hk => ?_))
  rw [vpos_one, slice_get _ _ _ _ (mem_range.mp hk)]

end gemv

omit [Field K] [Conj K] in
/-- **C14 (gstrs, independence of the right-hand sides).** For any per-column solver returning `n`
entries (in particular `gstrsCol F perm_c perm_r trans`), every `ldb ≥ n`, every `nrhs` and every
array `B` holding at least `ldb*nrhs` scalars: column `j` of the result is the solver applied to
column `j` of the ORIGINAL `B` (so it depends neither on the other columns, nor on `nrhs`, nor on the
padding rows `n..ldb-1`), and every padding row and everything behind the last column is returned
unchanged. -/
theorem gstrs_columns_independent (solve : Array K → Array K) (n ldb nrhs : Nat) (B : Array K)
    (hs : ∀ v, (solve v).size = n) (hld : n ≤ ldb) (hB : ldb * nrhs ≤ B.size) :
    (gstrs solve n ldb nrhs B).size = B.size ∧
    (∀ j i, j < nrhs → i < n → (gstrs solve n ldb nrhs B)[ldb * j + i]! = (solve (slice B (ldb * j) n))[i]!) ∧
    (∀ p, p < B.size → (ldb * nrhs ≤ p ∨ n ≤ p % ldb) → (gstrs solve n ldb nrhs B)[p]! = B[p]!) :=
  gstrs_eq_gstrsTo solve n ldb nrhs B ▸ gstrsTo_spec (fun _ => solve) n ldb B nrhs (fun _ v _ => hs v) hld hB

omit [Field K] [Conj K] in
/-- two calls that pass the same right-hand side in different positions, with different leading
dimensions, different numbers of companions and different padding return the same solution -/
theorem gstrs_layout_irrelevant (solve : Array K → Array K) (n ldb ldb' nrhs nrhs' : Nat) (B B' : Array K)
    (hs : ∀ v, (solve v).size = n) (hld : n ≤ ldb) (hld' : n ≤ ldb') (hB : ldb * nrhs ≤ B.size)
    (hB' : ldb' * nrhs' ≤ B'.size) (j j' : Nat) (hj : j < nrhs) (hj' : j' < nrhs')
    (hcol : slice B (ldb * j) n = slice B' (ldb' * j') n) (i : Nat) (hi : i < n) :
    (gstrs solve n ldb nrhs B)[ldb * j + i]! = (gstrs solve n ldb' nrhs' B')[ldb' * j' + i]! := by
  rw [(gstrs_columns_independent solve n ldb nrhs B hs hld hB).2.1 j i hj hi,
    (gstrs_columns_independent solve n ldb' nrhs' B' hs hld' hB').2.1 j' i hj' hi, hcol]

/-- the modelled per-column solve always returns `n` entries, so the two theorems above apply to it -/
theorem gstrsCol_size (F : LUFac K) (permc permr : Array Nat) (tr : Tr) (b : Array K) :
    (gstrsCol F permc permr tr b).size = F.L.n := by
  unfold gstrsCol
  split <;> simp

/-! ### non-vacuity: the hypotheses are satisfiable and the theorems apply to real and complex data -/

/-- the hypotheses of `sp_trsv_spec` hold e.g. for every 1 x 1 factor with `diag = 'U'` -/
example (F : LUFac Rat) (h1 : F.L.n = 1) (uplo : UpLo) (tr : Tr) (b : Array Rat) :
    ∀ i, i < F.L.n → ∑ j ∈ range F.L.n, trsvMat F uplo tr true i j * (trsvRef F uplo tr true b).getD j 0 = b.getD i 0 :=
  (sp_trsv_spec F uplo tr true b
    (by intro i j hi hj h; rw [h1] at hi hj; split at h <;> omega)
    (by intro i _; simp [trsvMat])).2

example : ConjOK Rat := ⟨rfl, rfl, fun _ _ => rfl⟩
example : ConjOK (Cx Rat) :=
  ⟨Cx.conj_zero, by apply Cx.ext' <;> simp [Cx.conj_def, Cx.one_def],
   fun a b => by apply Cx.ext' <;> simp [Cx.conj_def, Cx.add_def]; ring⟩

/-- the hypotheses of `sp_trsv_model` are satisfiable: a 3 x 3 factor with one 2-column supernode and a
singleton passes the checker; the theorem applies to every flag combination and right-hand side -/
def exQ : LUFac Rat :=
  { L := { m := 3, n := 3, nsuper := 1, xsup := #[0, 2, 3], supno := #[0, 0, 1], xlsub := #[0, 3, 3, 4],
           lsub := #[0, 1, 2, 2], xlusup := #[0, 3, 6, 7], lusup := #[2, 1, 3, 4, 5, 6, 7] },
    U := { m := 3, n := 3, colptr := #[0, 0, 0, 2], rowind := #[0, 1], val := #[8, 9] },
    nnzL := 6, nnzU := 6 }
example : Slu.Struct.wfb exQ = true := by decide +kernel
example (uplo : UpLo) (tr : Tr) (unit : Bool) (b : Array Rat) (hb : b.size = 3) :
    ∀ i, i < 3 → (spTrsv exQ uplo tr unit b)[i]! = (trsvRef exQ uplo tr unit b)[i]! :=
  (sp_trsv_model exQ false uplo tr unit b (by decide +kernel) rfl (fun _ => ⟨rfl, rfl, fun _ _ => rfl⟩) hb).2

/-- complex data: the Gaussian rationals are a field with a lawful `==` -/
example (tr : Tr) (alpha beta : Cx Rat) (A : CSC (Cx Rat)) (x y : Array (Cx Rat)) (incx incy : Int)
    (hm : A.m ≠ 0) (hn : A.n ≠ 0) (hincy : incy ≠ 0) (hrows : ∀ j, j < A.n → ∀ e ∈ A.col j, e.1 < A.m)
    (hy : ∀ i, i < lenY tr A → vpos (lenY tr A) incy i < y.size) :
    (spGemv tr alpha A x incx beta y incy).size = y.size :=
  (sp_gemv_spec tr alpha A x incx beta y incy hm hn hincy hrows hy).1

example (F : LUFac (Cx Rat)) (permc permr : Array Nat) (tr : Tr) (b : Array (Cx Rat)) :
    (gstrsCol F permc permr tr b).size = F.L.n := gstrsCol_size F permc permr tr b

/-- a 1 x 1 matrix satisfies the hypotheses of `sp_gemv_spec` -/
example : ∃ A : CSC Rat, A.m ≠ 0 ∧ A.n ≠ 0 ∧ ∀ j, j < A.n → ∀ e ∈ A.col j, e.1 < A.m :=
  ⟨{ m := 1, n := 1, colptr := #[0, 1], rowind := #[0], val := #[2] }, by decide, by decide, by
    intro j hj e he
    obtain rfl : j = 0 := Nat.lt_one_iff.mp hj
    obtain rfl : e = (0, 2) := List.mem_singleton.mp he
    exact Nat.zero_lt_one⟩

end Slu.Kernels

/-! ## The bundled reference BLAS (`/repo/CBLAS`, f2c) — level 1

Theorems about the bit mirrors of Slu/Model/Cblas.lean (the objects family `cblas` runs at
`Float/Float32/Cx _` and compares bit for bit with the C routines), in exact arithmetic at `Rat` /
`Cx Rat`, for ALL `n` (negative included) and ALL increments the routine accepts.  The hand-unrolled
clean-up/blocks structure (`n % 6`, `% 7`, `% 5`, `% 4`, `% 3`) is invisible (`unrolled_eq_loop`, which
uses no algebraic law and therefore also holds at `Float`); the promoted-to-double sub-expressions of
the single-precision files are the identity at `Rat`.  `StridedUpd d N inc y r val`: `r` has the size
of `y`, its strided entries are `val i`, every other position is the one of `y`.
`nrm2`: the theorems are about the `(scale, ssq)` pair the routine holds before its last statement
`norm = scale * sqrt(ssq)`: `scale >= 0`, `ssq >= 1`, `scale^2 * ssq = Σ x_i^2` (and `scale >= |x_i|`);
hence `norm = sqrt(Σ x_i^2)` for an exact square root — `sqrt` itself is trusted (libm, correctly
rounded; `fparith` compares it with Lean's). -/
namespace Slu.Cblas
open Finset

/-- **asum (real).** `dasum_` / `sasum_`; the blocks of six are invisible. -/
theorem asum_spec (n : Int) (x : Array Rat) (incx : Int) :
    asumR n x incx = if n ≤ 0 ∨ incx ≤ 0 then 0 else ∑ i ∈ range n.toNat, |x.getD (spos n.toNat incx i) 0| := by
  unfold asumR
  refine ite_congr rfl (fun _ => rfl) fun _ => ?_
  simp only [up_rat, down_rat, f2cabs_rat, ne_eq, ite_not]
  exact (unit_branch_eq_loop _ 6 _ _ _ _ _ (fun _ _ => rfl) fun h t i => by rw [h, spos_one]).trans
    (loop_add_zero_eq_sum n.toNat fun i => |x.getD (spos n.toNat incx i) 0|)

/-- **asum (complex).** `dzasum_` and `scasum_` (different association in floating point) both
compute `Σ |re x_i| + |im x_i|`. -/
theorem asumZ_spec (n : Int) (x : Array (Cx Rat)) (incx : Int) :
    asumZ n x incx = if n ≤ 0 ∨ incx ≤ 0 then 0 else
      ∑ i ∈ range n.toNat, (|(x.getD (spos n.toNat incx i) 0).re| + |(x.getD (spos n.toNat incx i) 0).im|) := by
  unfold asumZ
  refine ite_congr rfl (fun _ => rfl) fun _ => ?_
  simp only [dcabs1, f2cabs_rat]
  exact loop_add_zero_eq_sum _ _

theorem asumC_spec (n : Int) (x : Array (Cx Rat)) (incx : Int) :
    asumC n x incx = if n ≤ 0 ∨ incx ≤ 0 then 0 else
      ∑ i ∈ range n.toNat, (|(x.getD (spos n.toNat incx i) 0).re| + |(x.getD (spos n.toNat incx i) 0).im|) := by
  unfold asumC
  refine ite_congr rfl (fun _ => rfl) fun _ => ?_
  simp only [f2cabs_rat, up_rat, down_rat, add_assoc]
  exact loop_add_zero_eq_sum _ _

/-- **iamax (real).** The 1-based index of the FIRST strided element of maximal magnitude. -/
theorem iamax_spec (n : Int) (x : Array Rat) (incx : Int) :
    (n < 1 ∨ incx ≤ 0 → iamaxR n x incx = 0) ∧
    (1 ≤ n → 0 < incx → ∃ r : Nat, iamaxR n x incx = ((r + 1 : Nat) : Int) ∧ r < n.toNat ∧
      (∀ i, i < n.toNat → |x.getD (spos n.toNat incx i) 0| ≤ |x.getD (spos n.toNat incx r) 0|) ∧
      (∀ i, i < r → |x.getD (spos n.toNat incx i) 0| < |x.getD (spos n.toNat incx r) 0|)) := by
  constructor
  · intro h; simp [iamaxR, h]
  · intro hn hinc
    have := amax_first (fun i => |x.getD (spos n.toNat incx i) 0|) n hn
    unfold iamaxR
    rw [if_neg (by omega)]
    simpa only [amaxScan, f2cabs_rat, spos_zero n.toNat incx (le_of_lt hinc)] using this

/-- **iamax (complex).** The same with the magnitude `|re| + |im|` of `dcabs1_`. -/
theorem iamaxC_spec (n : Int) (x : Array (Cx Rat)) (incx : Int) :
    (n < 1 ∨ incx ≤ 0 → iamaxC n x incx = 0) ∧
    (1 ≤ n → 0 < incx → ∃ r : Nat, iamaxC n x incx = ((r + 1 : Nat) : Int) ∧ r < n.toNat ∧
      (∀ i, i < n.toNat → |(x.getD (spos n.toNat incx i) 0).re| + |(x.getD (spos n.toNat incx i) 0).im| ≤
          |(x.getD (spos n.toNat incx r) 0).re| + |(x.getD (spos n.toNat incx r) 0).im|) ∧
      (∀ i, i < r → |(x.getD (spos n.toNat incx i) 0).re| + |(x.getD (spos n.toNat incx i) 0).im| <
          |(x.getD (spos n.toNat incx r) 0).re| + |(x.getD (spos n.toNat incx r) 0).im|)) := by
  constructor
  · intro h; simp [iamaxC, h]
  · intro hn hinc
    have := amax_first (fun i => |(x.getD (spos n.toNat incx i) 0).re| + |(x.getD (spos n.toNat incx i) 0).im|) n hn
    unfold iamaxC
    rw [if_neg (by omega)]
    simpa only [amaxScan, cabs1W, up_rat, down_rat, f2cabs_rat, spos_zero n.toNat incx (le_of_lt hinc)] using this

/-- **dot (real).** Any increments, `inc = 0` included; the blocks of five are invisible. -/
theorem dot_spec (n : Int) (x : Array Rat) (incx : Int) (y : Array Rat) (incy : Int) :
    dotR n x incx y incy = if n ≤ 0 then 0 else
      ∑ i ∈ range n.toNat, x.getD (spos n.toNat incx i) 0 * y.getD (spos n.toNat incy i) 0 := by
  unfold dotR
  refine ite_congr rfl (fun _ => rfl) fun _ => ?_
  dsimp only
  exact (unit_branch_eq_loop _ 5 _ _ _ _ _ (fun _ _ => rfl) fun h t i => by rw [h.1, h.2, spos_one]).trans
    (loop_add_zero_eq_sum n.toNat fun i => x.getD (spos n.toNat incx i) 0 * y.getD (spos n.toNat incy i) 0)

/-- **dotc.** `zdotc_`/`cdotc_`: `Σ conj(x_i) * y_i` in the field of Gaussian rationals. -/
theorem dotc_spec (n : Int) (x : Array (Cx Rat)) (incx : Int) (y : Array (Cx Rat)) (incy : Int) :
    dotcC n x incx y incy = if n ≤ 0 then 0 else
      ∑ i ∈ range n.toNat, Conj.conj (x.getD (spos n.toNat incx i) 0) * y.getD (spos n.toNat incy i) 0 := by
  unfold dotcC
  refine ite_congr rfl (fun _ => rfl) fun _ => ?_
  refine (loop_congr _ _ (fun t i => t + Conj.conj (x.getD (spos n.toNat incx i) 0) * y.getD (spos n.toNat incy i) 0)
    _ fun t i _ => ?_).trans (loop_add_zero_eq_sum _ _)
  dsimp only
  rw [cmulF_eq_mul]; rfl

/-- **axpy (real).** `y_i := y_i + a*x_i` on the strided positions, the `a == 0` quick return included (`n <= 0`: `axpy_quick`). -/
theorem axpy_spec (n : Int) (a : Rat) (x : Array Rat) (incx : Int) (y : Array Rat) (incy : Int)
    (hn : 0 < n) (hincy : incy ≠ 0) (hb : ∀ i, i < n.toNat → spos n.toNat incy i < y.size) :
    StridedUpd 0 n.toNat incy y (axpyR n a x incx y incy)
      (fun i => y.getD (spos n.toNat incy i) 0 + a * x.getD (spos n.toNat incx i) 0) := by
  have key := updG_strided (0 : Rat) n.toNat incy hincy (fun i v => v + a * x.getD (spos n.toNat incx i) 0) y hb
  unfold axpyR
  rw [if_neg (by omega), isZero_rat]
  by_cases ha : a = 0
  · rw [if_pos (decide_eq_true ha), ha]
    exact ⟨rfl, fun i hi => (add_zero _).symm.trans (congrArg _ (zero_mul _).symm), fun _ _ => rfl⟩
  · rw [if_neg (by simpa using ha),
      unit_branch_eq_loop _ 4 _ _ _ _ _ (fun t b => by simp only [steps_succ, steps_zero, Nat.add_zero])
        fun h t i => by rw [h.1, h.2, spos_one]]
    exact key

theorem axpy_quick (n : Int) (a : Rat) (x : Array Rat) (incx : Int) (y : Array Rat) (incy : Int) (hn : n ≤ 0) :
    axpyR n a x incx y incy = y := by simp [axpyR, hn]

theorem axpyC_spec (n : Int) (a : Cx Rat) (x : Array (Cx Rat)) (incx : Int) (y : Array (Cx Rat)) (incy : Int)
    (hn : 0 < n) (hincy : incy ≠ 0) (hb : ∀ i, i < n.toNat → spos n.toNat incy i < y.size) :
    StridedUpd 0 n.toNat incy y (axpyC n a x incx y incy)
      (fun i => y.getD (spos n.toNat incy i) 0 + a * x.getD (spos n.toNat incx i) 0) := by
  have key := updG_strided (0 : Cx Rat) n.toNat incy hincy (fun i v => v + a * x.getD (spos n.toNat incx i) 0) y hb
  unfold axpyC
  have hn' : ¬ n ≤ 0 := by omega
  simp only [hn', if_false, cabs1W_zero_iff]
  by_cases ha : a = 0
  · subst ha
    simp only [decide_true, if_true]
    refine ⟨rfl, ?_, fun _ _ => rfl⟩
    intro i hi; simp
  · simp only [ha, decide_false, Bool.false_eq_true, if_false, cmulF_eq_mul]
    exact key

/-- **scal (real).** `n > 0`, `incx > 0` (the routine returns at once otherwise, `scal_quick`). -/
theorem scal_spec (n : Int) (a : Rat) (x : Array Rat) (incx : Int)
    (hn : 0 < n) (hinc : 0 < incx) (hb : ∀ i, i < n.toNat → spos n.toNat incx i < x.size) :
    StridedUpd 0 n.toNat incx x (scalR n a x incx) (fun i => a * x.getD (spos n.toNat incx i) 0) := by
  have key := updG_strided (0 : Rat) n.toNat incx (by omega) (fun _ v => a * v) x hb
  unfold scalR
  have hn' : ¬ (n ≤ 0 ∨ incx ≤ 0) := by omega
  simp only [hn', if_false, ne_eq, ite_not]
  rw [unit_branch_eq_loop _ 5 _ _ _ _ _ (fun t b => by simp only [steps_succ, steps_zero, Nat.add_zero])
    fun h t i => by rw [h, spos_one]]
  exact key

theorem scal_quick (n : Int) (a : Rat) (x : Array Rat) (incx : Int) (h : n ≤ 0 ∨ incx ≤ 0) :
    scalR n a x incx = x := by simp [scalR, h]

theorem scalC_spec (n : Int) (a : Cx Rat) (x : Array (Cx Rat)) (incx : Int)
    (hn : 0 < n) (hinc : 0 < incx) (hb : ∀ i, i < n.toNat → spos n.toNat incx i < x.size) :
    StridedUpd 0 n.toNat incx x (scalC n a x incx) (fun i => a * x.getD (spos n.toNat incx i) 0) := by
  have key := updG_strided (0 : Cx Rat) n.toNat incx (by omega) (fun _ v => a * v) x hb
  unfold scalC
  have hn' : ¬ (n ≤ 0 ∨ incx ≤ 0) := by omega
  simp only [hn', if_false, cmulF_eq_mul]
  exact key

/-- **copy (real).** `n > 0`, any `incx`, nonzero `incy`. -/
theorem copy_spec (n : Int) (x : Array Rat) (incx : Int) (y : Array Rat) (incy : Int)
    (hn : 0 < n) (hincy : incy ≠ 0) (hb : ∀ i, i < n.toNat → spos n.toNat incy i < y.size) :
    StridedUpd 0 n.toNat incy y (copyR n x incx y incy) (fun i => x.getD (spos n.toNat incx i) 0) := by
  have key := updG_strided (0 : Rat) n.toNat incy hincy (fun i _ => x.getD (spos n.toNat incx i) 0) y hb
  unfold copyR copyG
  have hn' : ¬ n ≤ 0 := by omega
  simp only [hn', if_false]
  rw [unit_branch_eq_loop _ 7 _ _ _ _ _ (fun t b => by simp only [steps_succ, steps_zero, Nat.add_zero])
    fun h t i => by rw [h.1, h.2, spos_one]]
  exact key

theorem copyC_spec (n : Int) (x : Array (Cx Rat)) (incx : Int) (y : Array (Cx Rat)) (incy : Int)
    (hn : 0 < n) (hincy : incy ≠ 0) (hb : ∀ i, i < n.toNat → spos n.toNat incy i < y.size) :
    StridedUpd 0 n.toNat incy y (copyC n x incx y incy) (fun i => x.getD (spos n.toNat incx i) 0) := by
  have key := updG_strided (0 : Cx Rat) n.toNat incy hincy (fun i _ => x.getD (spos n.toNat incx i) 0) y hb
  unfold copyC
  have hn' : ¬ n ≤ 0 := by omega
  simp only [hn', if_false, copyG_eq_updG]
  exact key

/-- **swap (real).** The strided elements of `x` and `y` change places; every other position of both arrays is unchanged. -/
theorem swap_spec (n : Int) (x : Array Rat) (incx : Int) (y : Array Rat) (incy : Int)
    (hn : 0 < n) (hx : incx ≠ 0) (hy : incy ≠ 0) (hbx : ∀ i, i < n.toNat → spos n.toNat incx i < x.size)
    (hby : ∀ i, i < n.toNat → spos n.toNat incy i < y.size) :
    StridedUpd 0 n.toNat incx x (swapR n x incx y incy).1 (fun i => y.getD (spos n.toNat incy i) 0) ∧
    StridedUpd 0 n.toNat incy y (swapR n x incx y incy).2 (fun i => x.getD (spos n.toNat incx i) 0) := by
  have kx := updG_strided (0 : Rat) n.toNat incx hx (fun i _ => y.getD (spos n.toNat incy i) 0) x hbx
  have ky := updG_strided (0 : Rat) n.toNat incy hy (fun i _ => x.getD (spos n.toNat incx i) 0) y hby
  have e := swapG_eq n.toNat x incx y incy hx hy n.toNat (le_refl _)
  unfold swapR swapG
  have hn' : ¬ n ≤ 0 := by omega
  simp only [hn', if_false]
  rw [unit_branch_eq_loop _ 3 _ _ _ _ _ (fun t b => by simp only [steps_succ, steps_zero, Nat.add_zero])
    (fun h t i => by rw [h.1, h.2, spos_one]; rfl), e]
  exact ⟨kx, ky⟩

theorem swapC_spec (n : Int) (x : Array (Cx Rat)) (incx : Int) (y : Array (Cx Rat)) (incy : Int)
    (hn : 0 < n) (hx : incx ≠ 0) (hy : incy ≠ 0) (hbx : ∀ i, i < n.toNat → spos n.toNat incx i < x.size)
    (hby : ∀ i, i < n.toNat → spos n.toNat incy i < y.size) :
    StridedUpd 0 n.toNat incx x (swapC n x incx y incy).1 (fun i => y.getD (spos n.toNat incy i) 0) ∧
    StridedUpd 0 n.toNat incy y (swapC n x incx y incy).2 (fun i => x.getD (spos n.toNat incx i) 0) := by
  have kx := updG_strided (0 : Cx Rat) n.toNat incx hx (fun i _ => y.getD (spos n.toNat incy i) 0) x hbx
  have ky := updG_strided (0 : Cx Rat) n.toNat incy hy (fun i _ => x.getD (spos n.toNat incx i) 0) y hby
  have e := swapG_eq n.toNat x incx y incy hx hy n.toNat (le_refl _)
  unfold swapC
  have hn' : ¬ n ≤ 0 := by omega
  simp only [hn', if_false]
  unfold swapG
  rw [e]
  exact ⟨kx, ky⟩

/-- **nrm2 (real).** The `(scale, ssq)` pair before `scale * sqrt(ssq)`. -/
theorem nrm2_spec (N : Nat) (x : Array Rat) (incx : Int) :
    0 ≤ (nrm2AccR N x incx).1 ∧ 1 ≤ (nrm2AccR N x incx).2 ∧
    (nrm2AccR N x incx).1 ^ 2 * (nrm2AccR N x incx).2 = ∑ i ∈ range N, (x.getD (spos N incx i) 0) ^ 2 ∧
    (∀ i, i < N → |x.getD (spos N incx i) 0| ≤ (nrm2AccR N x incx).1) :=
  have ⟨⟨h0, h1, h2⟩, h3⟩ := ssq_loop_spec (fun i => x.getD (spos N incx i) 0) N
  ⟨h0, h1, h2, h3⟩

/-- **nrm2 (complex).** Real and imaginary parts enter the recurrence one after the other. -/
theorem nrm2C_spec (N : Nat) (x : Array (Cx Rat)) (incx : Int) :
    0 ≤ (nrm2AccC N x incx).1 ∧ 1 ≤ (nrm2AccC N x incx).2 ∧
    (nrm2AccC N x incx).1 ^ 2 * (nrm2AccC N x incx).2 =
      ∑ i ∈ range N, ((x.getD (spos N incx i) 0).re ^ 2 + (x.getD (spos N incx i) 0).im ^ 2) :=
  ssq2_loop_spec (fun i => (x.getD (spos N incx i) 0).re) (fun i => (x.getD (spos N incx i) 0).im) N

/-! ### concrete instances: `n` not a multiple of the unrolling factor, negative increments -/

/-- eight elements = clean-up loop of 2 + one block of 6 -/
example : asumR (8 : Int) (#[1, -2, 3, -4, 5, -6, 7, -8] : Array Rat) 1 = 36 := by decide +kernel
/-- `incx <= 0` and `n <= 0` quick returns -/
example : asumR (3 : Int) (#[1, -2, 3] : Array Rat) (-1) = 0 := by decide +kernel
/-- seven elements (clean-up 2 + block of 5), reversed `y` -/
example : dotR (7 : Int) (#[1, 2, 3, 4, 5, 6, 7] : Array Rat) 1 (#[7, 6, 5, 4, 3, 2, 1] : Array Rat) (-1) = 140 := by
  decide +kernel
example : dotR (7 : Int) (#[1, 2, 3, 4, 5, 6, 7] : Array Rat) 1 (#[7, 6, 5, 4, 3, 2, 1] : Array Rat) 1 = 84 := by
  decide +kernel
/-- the FIRST of two elements of maximal magnitude wins -/
example : iamaxR (5 : Int) (#[1, -3, 2, 3, 0] : Array Rat) 1 = 2 := by decide +kernel
example : iamaxR (3 : Int) (#[1, 9, -3, 9, 3, 9] : Array Rat) 2 = 2 := by decide +kernel
/-- `y := y + 2 x` with `incy = -2`: the gaps of `y` stay, element 0 of `x` meets the LAST strided slot -/
example : axpyR (3 : Int) 2 (#[1, 10, 100] : Array Rat) 1 (#[0, 7, 0, 7, 0] : Array Rat) (-2) = #[200, 7, 20, 7, 2] := by
  decide +kernel
/-- the hypotheses of `axpy_spec` / `swap_spec` / `scal_spec` / `copy_spec` are satisfiable -/
example := axpy_spec 3 2 (#[1, 10, 100] : Array Rat) 1 (#[0, 7, 0, 7, 0] : Array Rat) (-2)
  (by decide) (by decide) (by decide)
example : swapR (5 : Int) (#[1, 2, 3, 4, 5] : Array Rat) 1 (#[6, 7, 8, 9, 10] : Array Rat) (-1) =
    (#[10, 9, 8, 7, 6], #[5, 4, 3, 2, 1]) := by decide +kernel
example := swap_spec 5 (#[1, 2, 3, 4, 5] : Array Rat) 1 (#[6, 7, 8, 9, 10] : Array Rat) (-1)
  (by decide) (by decide) (by decide) (by decide) (by decide)
example := scal_spec 7 3 (#[1, 2, 3, 4, 5, 6, 7] : Array Rat) 1 (by decide) (by decide) (by decide)
example := copy_spec 9 (#[1, 2, 3, 4, 5, 6, 7, 8, 9] : Array Rat) (-1) (#[0, 0, 0, 0, 0, 0, 0, 0, 0] : Array Rat) 1
  (by decide) (by decide) (by decide)
/-- `scale = 4`, `ssq = 25/16`: `4^2 * 25/16 = 3^2 + 4^2` -/
example : nrm2AccR 2 (#[3, -4] : Array Rat) (-1) = (4, 25 / 16) := by decide +kernel
/-- complex: `conj(1+2i)(3-i) + conj(-i)(2) = (1 - 7i) + 2i`, second vector reversed -/
example : dotcC (2 : Int) (#[⟨1, 2⟩, ⟨0, -1⟩] : Array (Cx Rat)) 1 (#[⟨2, 0⟩, ⟨3, -1⟩] : Array (Cx Rat)) (-1) = ⟨1, -5⟩ := by
  decide +kernel
example : asumZ (2 : Int) (#[⟨1, -2⟩, ⟨-3, 4⟩] : Array (Cx Rat)) 1 = 10 ∧
    asumC (2 : Int) (#[⟨1, -2⟩, ⟨-3, 4⟩] : Array (Cx Rat)) 1 = 10 := by decide +kernel

end Slu.Cblas

/-! ## Connection to the 1-norm estimator's own BLAS-1 mirrors (Slu/Model/Lacon.lean, C12)

The model of `lacon2` has its own mirrors of `dasum_` / `idamax_`: `Lacon.asumD` (a plain left-to-right fold),
`Lacon.asumS` (blocks of six in double) and `Lacon.imaxBy`.  They are EQUAL — at `Float`/`Float32`,
no algebraic law involved — to this file's statement-order mirrors with unit increment, so the
bit comparison of family `cblas` and the theorems above cover the kernels C12 runs on. -/
namespace Slu.Cblas
open Slu

theorem f2cabs_eq_lacon_d (a : Float) : f2cabs a = Lacon.f2cAbs a := rfl
theorem f2cabs_eq_lacon_s (a : Float32) : f2cabs a = Lacon.f2cAbs a := rfl

/-- the `dasum_` mirror of the 1-norm estimator (Slu/Model/Lacon.lean, a plain left-to-right fold) IS
this file's statement-order mirror with its clean-up loop and blocks of six, at `Float` -/
theorem asumR_eq_lacon_asumD (x : Array Float) : asumR (x.size : Int) x 1 = Lacon.asumD x := by
  unfold asumR Lacon.asumD
  by_cases h : x.size = 0
  · have : x = #[] := Array.eq_empty_of_size_eq_zero h
    subst this; simp
  · have hc : ¬ (((x.size : Nat) : Int) ≤ 0 ∨ (1 : Int) ≤ 0) := by omega
    simp only [hc, if_false, ne_eq, not_true_eq_false, Int.toNat_natCast]
    rw [unrolled_eq_loop 6]
    · exact loop_getD_eq_foldl x 0 (fun acc a => acc + Lacon.f2cAbs a) 0
    · intro t b; rfl

/-- the same for `sasum_` (blocks of six accumulated in double, rounded once per block) -/
theorem asumR_eq_lacon_asumS (x : Array Float32) : asumR (x.size : Int) x 1 = Lacon.asumS x := by
  unfold asumR Lacon.asumS
  by_cases h : x.size = 0
  · have : x = #[] := Array.eq_empty_of_size_eq_zero h
    subst this; rfl
  · have hc : ¬ (((x.size : Nat) : Int) ≤ 0 ∨ (1 : Int) ≤ 0) := by omega
    simp only [hc, if_false, ne_eq, not_true_eq_false, Int.toNat_natCast]
    by_cases hq : x.size % 6 ≠ 0 ∧ x.size < 6
    · have h6 : x.size / 6 = 0 := Nat.div_eq_of_lt hq.2
      simp only [hq, not_false_eq_true, and_self, if_true]
      unfold unrolled
      rw [h6, loop_zero]
      rfl
    · have h6 : (x.size - x.size % 6) / 6 = x.size / 6 := by omega
      simp only [hq, if_false, h6]
      rfl

/-- `idamax_`/`isamax_` with unit increment is the estimator's `imaxBy` (0-based there) -/
theorem iamaxR_eq_lacon_imaxBy {R : Type} [Zero R] [Neg R] [LE R] [DecidableLE R] (x : Array R) (hx : 1 ≤ x.size) :
    iamaxR (x.size : Int) x 1 = ((Lacon.imaxBy (fun a : R => f2cabs a) 0 x : Nat) : Int) + 1 := by
  unfold iamaxR Lacon.imaxBy
  rw [if_neg (by omega)]
  by_cases h1 : x.size = 1
  · simp [h1]
  · rw [if_neg (by omega)]
    simp only [Int.toNat_natCast, spos_one]
    -- the two scans run in step: the 1-based index here is the 0-based index there plus one
    exact congrArg Prod.fst (List.foldl_hom (fun bm : Nat × R => (((bm.1 : Nat) : Int) + 1, bm.2))
      (l := List.range (x.size - 1)) (init := (0, f2cabs (x.getD 0 0))) fun bm i => by
        by_cases hle : f2cabs (x.getD (i + 1) 0) ≤ bm.2
        · simp only [if_pos hle]
        · simp only [if_neg hle]; exact Prod.ext (Nat.cast_succ (i + 1)) rfl)

end Slu.Cblas

/-! ## The bundled reference BLAS — level 2: `[sdcz]gemv_` and `[sdcz]trsv_`

`Slu.Cblas.gemv` (Slu/Model/Cblas2.lean) is `spGemv` on the dense column list of the column-major
array — the same loop nest as CBLAS/dgemv.c, compared bit for bit with `[sdcz]gemv_` by family
`cblas` — so `sp_gemv_spec` applies: `opA tr a lda i j` is `a[i + j*lda]` (N), `a[j + i*lda]` (T) or
its conjugate (C). -/
namespace Slu.Cblas
open Finset Slu.Kernels
section gemv
variable {K : Type} [Field K] [Conj K] [Inhabited K]
variable [BEq K] [LawfulBEq K]

/-- **gemv.** `[sdcz]gemv_` on an `m x n` column-major array with any `lda`, any nonzero `incy`, any
`incx`, every `alpha`, `beta` (quick returns and the `x_j = 0` column skip included): the strided
entries of the result are `alpha * Σ_j op(A)(i,j) x_j + beta * y_i`, every other position of `y` is
unchanged, the size is unchanged. -/
theorem gemv_spec (tr : Tr) (m n lda : Nat) (alpha beta : K) (a x y : Array K) (incx incy : Int)
    (hm : m ≠ 0) (hn : n ≠ 0) (hincy : incy ≠ 0)
    (hy : ∀ i, i < (if tr == Tr.N then m else n) → vpos (if tr == Tr.N then m else n) incy i < y.size) :
    (gemv tr m n alpha a lda x incx beta y incy).size = y.size ∧
    (∀ i, i < (if tr == Tr.N then m else n) →
      (gemv tr m n alpha a lda x incx beta y incy)[vpos (if tr == Tr.N then m else n) incy i]! =
        alpha * (∑ j ∈ range (if tr == Tr.N then n else m), opA tr a lda i j * x[vpos (if tr == Tr.N then n else m) incx j]!) +
          beta * y[vpos (if tr == Tr.N then m else n) incy i]!) ∧
    (∀ p, (∀ i, i < (if tr == Tr.N then m else n) → vpos (if tr == Tr.N then m else n) incy i ≠ p) →
      (gemv tr m n alpha a lda x incx beta y incy)[p]! = y[p]!) := by
  have hrows : ∀ j, j < (denseCSC m n lda a).n → ∀ e ∈ (denseCSC m n lda a).col j, e.1 < (denseCSC m n lda a).m := by
    intro j hj e he
    rw [dense_col m n lda a j hj] at he
    simp only [List.mem_map, List.mem_range] at he
    obtain ⟨i, hi, rfl⟩ := he
    exact hi
  obtain ⟨h1, h2, h3⟩ := sp_gemv_spec tr alpha (denseCSC m n lda a) x incx beta y incy hm hn hincy hrows hy
  rw [lenY_dense] at h3
  refine ⟨h1, ?_, h3⟩
  intro i hi
  have := h2 i hi
  rw [lenY_dense, lenX_dense] at this
  unfold gemv
  rw [this]
  refine congrArg (· + _) (congrArg _ (Finset.sum_congr rfl fun j hj => ?_))
  rw [dense_opEntry tr m n lda a i j hi (by rw [lenX_dense]; simpa using hj)]

/-- `beta = 0`: `y` is not read — the strided result does not depend on the old `y` -/
theorem gemv_beta_zero (tr : Tr) (m n lda : Nat) (alpha : K) (a x y y' : Array K) (incx incy : Int)
    (hm : m ≠ 0) (hn : n ≠ 0) (hincy : incy ≠ 0)
    (hy : ∀ i, i < (if tr == Tr.N then m else n) → vpos (if tr == Tr.N then m else n) incy i < y.size)
    (hy' : ∀ i, i < (if tr == Tr.N then m else n) → vpos (if tr == Tr.N then m else n) incy i < y'.size)
    (i : Nat) (hi : i < (if tr == Tr.N then m else n)) :
    (gemv tr m n alpha a lda x incx 0 y incy)[vpos (if tr == Tr.N then m else n) incy i]! =
      (gemv tr m n alpha a lda x incx 0 y' incy)[vpos (if tr == Tr.N then m else n) incy i]! := by
  rw [(gemv_spec tr m n lda alpha 0 a x y incx incy hm hn hincy hy).2.1 i hi,
    (gemv_spec tr m n lda alpha 0 a x y' incx incy hm hn hincy hy').2.1 i hi]
  ring

theorem gemv_empty (tr : Tr) (m n lda : Nat) (alpha beta : K) (a x y : Array K) (incx incy : Int)
    (h : m = 0 ∨ n = 0) : gemv tr m n alpha a lda x incx beta y incy = y :=
  sp_gemv_empty tr alpha (denseCSC m n lda a) x incx beta y incy h

end gemv

/-- a 3 x 2 matrix with `lda = 4`, `incx = -1`, `incy = 2`: `y := 2*A*x + 3*y` -/
example : gemv Tr.N 3 2 (2 : Rat) #[1, 2, 3, 99, 4, 5, 6, 99] 4 #[10, 1] (-1) 3 #[1, 0, 1, 0, 1] 2 =
    #[85, 0, 107, 0, 129] := by decide +kernel
example : gemv Tr.T 3 2 (1 : Rat) #[1, 2, 3, 99, 4, 5, 6, 99] 4 #[1, 1, 1] 1 0 #[7, 7] (-1) = #[15, 6] := by decide +kernel
example := gemv_spec Tr.N 3 2 4 (2 : Rat) 3 #[1, 2, 3, 99, 4, 5, 6, 99] #[10, 1] #[1, 0, 1, 0, 1] (-1) 2
  (by decide) (by decide) (by decide) (by decide)

/-! ### `[sdcz]trsv_`, branch by branch -/
section trsv
variable {K : Type} [Field K] [Conj K] [Inhabited K]
variable [BEq K]

theorem trsv_upper_trans_eq_sweep (tr : Tr) (htr : tr ≠ Tr.N) (nounit : Bool) (n lda : Nat) (a x : Array K) (incx : Int) :
    trsv true tr nounit n a lda x incx =
      sweepUT (spos n incx) (fun i j => cj tr a[i + j * lda]!) (fun j => cj tr a[j + j * lda]!) nounit x n := by
  have h := Tr.beq_N_eq_false htr
  unfold trsv sweepUT
  simp only [h, Bool.false_eq_true, if_false, if_true]

/-- **trsv, branch `uplo = U`, `trans = T` or `C`** (both `diag`, every `n`, `lda`, nonzero `incx`).
The strided entries of the result solve the LOWER triangular system `op(A) r = x`
(`op(A)(j,i) = [conj] A(i,j)`, diagonal replaced by one for `diag = U`), row by row; every other position
of the array and its size are unchanged.  The other three branches: `trsv_spec_partial_lower` (`uplo = L, trans = T/C`,
the mirrored backward sweep), `trsv_spec_partial_lower_notrans` and `trsv_spec_partial_upper_notrans` (`trans = N`:
column sweeps with the `x_j = 0` skip, which is invisible in exact arithmetic). -/
theorem trsv_spec_partial (tr : Tr) (htr : tr ≠ Tr.N) (nounit : Bool) (n lda : Nat) (a x : Array K) (incx : Int)
    (hinc : incx ≠ 0) (hb : ∀ i, i < n → spos n incx i < x.size)
    (hd : nounit = true → ∀ j, j < n → cj tr a[j + j * lda]! ≠ 0) :
    (trsv true tr nounit n a lda x incx).size = x.size ∧
    (∀ j, j < n →
      (∑ i ∈ range j, cj tr a[i + j * lda]! * (trsv true tr nounit n a lda x incx)[spos n incx i]!) +
        (if nounit then cj tr a[j + j * lda]! else 1) * (trsv true tr nounit n a lda x incx)[spos n incx j]! =
      x[spos n incx j]!) ∧
    (∀ p, (∀ i, i < n → spos n incx i ≠ p) → (trsv true tr nounit n a lda x incx)[p]! = x[p]!) := by
  rw [trsv_upper_trans_eq_sweep tr htr]
  obtain ⟨h1, h2, -, h3⟩ := sweepUT_spec n (spos n incx) (fun i j => cj tr a[i + j * lda]!)
    (fun j => cj tr a[j + j * lda]!) nounit x (spos_inj n incx hinc) hb n (le_refl _)
  exact ⟨h1, fun j hj => fwdSub_rows _ _ _ n _ h2 j hj (diag_ne_zero nounit _ fun h => hd h j hj), h3⟩

end trsv

/-- upper triangular `[[2,1],[0,4]]` (lda = 3), `A' r = x` with `incx = -1`: logical `x = (2, 9)` -/
example : trsv true Tr.T true 2 (#[2, 0, 99, 1, 4, 99] : Array Rat) 3 #[9, 2] (-1) = #[2, 1] := by decide +kernel
example := trsv_spec_partial Tr.T (by decide) true 2 3 (#[2, 0, 99, 1, 4, 99] : Array Rat) #[9, 2] (-1)
  (by decide) (by decide) (by decide)

section trsv
variable {K : Type} [Field K] [Conj K] [Inhabited K]
variable [BEq K]

theorem trsv_lower_trans_eq_sweep (tr : Tr) (htr : tr ≠ Tr.N) (nounit : Bool) (n lda : Nat) (a x : Array K) (incx : Int) :
    trsv false tr nounit n a lda x incx =
      sweepLT n (spos n incx) (fun i j => cj tr a[i + j * lda]!) (fun j => cj tr a[j + j * lda]!) nounit x n := by
  have h := Tr.beq_N_eq_false htr
  unfold trsv sweepLT
  simp only [h, Bool.false_eq_true, if_false]

/-- **trsv, branch `uplo = L`, `trans = T` or `C`.**  The strided entries of the result
solve the UPPER triangular system `op(A) r = x`: for every row `j`,
`Σ_{i = j+1}^{n-1} [conj]A(i,j) r_i + d_j r_j = x_j` (the sum is written in the order the code runs:
`i = n-1-ii`, `ii < n-1-j`); every other position and the size are unchanged. -/
theorem trsv_spec_partial_lower (tr : Tr) (htr : tr ≠ Tr.N) (nounit : Bool) (n lda : Nat) (a x : Array K) (incx : Int)
    (hinc : incx ≠ 0) (hb : ∀ i, i < n → spos n incx i < x.size)
    (hd : nounit = true → ∀ j, j < n → cj tr a[j + j * lda]! ≠ 0) :
    (trsv false tr nounit n a lda x incx).size = x.size ∧
    (∀ j, j < n →
      (∑ ii ∈ range (n - 1 - j), cj tr a[(n - 1 - ii) + j * lda]! * (trsv false tr nounit n a lda x incx)[spos n incx (n - 1 - ii)]!) +
        (if nounit then cj tr a[j + j * lda]! else 1) * (trsv false tr nounit n a lda x incx)[spos n incx j]! =
      x[spos n incx j]!) ∧
    (∀ p, (∀ i, i < n → spos n incx i ≠ p) → (trsv false tr nounit n a lda x incx)[p]! = x[p]!) := by
  obtain ⟨h1, h2, -, h3⟩ := sweepLT_spec n (spos n incx) (fun i j => cj tr a[i + j * lda]!)
    (fun j => cj tr a[j + j * lda]!) nounit x (spos_inj n incx hinc) hb hd n (le_refl _)
  rw [← trsv_lower_trans_eq_sweep tr htr] at h1 h2 h3
  exact ⟨h1, fun j hj => h2 j (by omega) hj, h3⟩

end trsv

/-- lower triangular `[[2,0],[1,4]]` (lda = 2), `A' r = x`, `incx = 2` -/
example : trsv false Tr.T true 2 (#[2, 1, 0, 4] : Array Rat) 2 #[5, 77, 8] 2 = #[3 / 2, 77, 2] := by decide +kernel
example := trsv_spec_partial_lower Tr.C (by decide) true 2 2 (#[2, 1, 0, 4] : Array Rat) #[5, 77, 8] 2
  (by decide) (by decide) (by decide)

section trsvN
variable {K : Type} [Field K] [Inhabited K] [BEq K] [LawfulBEq K]
variable [Conj K]

omit [LawfulBEq K] in
theorem trsv_lower_notrans_eq_sweep (nounit : Bool) (n lda : Nat) (a x : Array K) (incx : Int) :
    trsv false Tr.N nounit n a lda x incx =
      loop n (colStepLN n (spos n incx) (fun i j => a[i + j * lda]!) nounit) x := by
  unfold trsv
  have h : (Tr.N == Tr.N) = true := rfl
  simp only [h, if_true, Bool.false_eq_true, if_false]
  rfl

/-- **trsv, branch `uplo = L`, `trans = N`** — the column sweep with the `x_j = 0`
skip: the strided entries of the result solve the lower triangular system `A r = x` row by row
(diagonal replaced by one for `diag = U`); everything else is unchanged. -/
theorem trsv_spec_partial_lower_notrans (nounit : Bool) (n lda : Nat) (a x : Array K) (incx : Int)
    (hinc : incx ≠ 0) (hb : ∀ i, i < n → spos n incx i < x.size)
    (hd : nounit = true → ∀ j, j < n → a[j + j * lda]! ≠ 0) :
    (trsv false Tr.N nounit n a lda x incx).size = x.size ∧
    (∀ i, i < n →
      (∑ j ∈ range i, a[i + j * lda]! * (trsv false Tr.N nounit n a lda x incx)[spos n incx j]!) +
        (if nounit then a[i + i * lda]! else 1) * (trsv false Tr.N nounit n a lda x incx)[spos n incx i]! =
      x[spos n incx i]!) ∧
    (∀ p, (∀ i, i < n → spos n incx i ≠ p) → (trsv false Tr.N nounit n a lda x incx)[p]! = x[p]!) := by
  rw [trsv_lower_notrans_eq_sweep]
  obtain ⟨h1, h2, -, h3⟩ := sweepLN_spec n (spos n incx) (fun i j => a[i + j * lda]!) nounit x (spos_inj n incx hinc) hb
    n (le_refl _)
  exact ⟨h1, fun i hi => fwdSub_rows _ _ _ n _ h2 i hi (diag_ne_zero nounit _ fun h => hd h i hi), h3⟩

end trsvN

/-- lower triangular `[[2,0],[1,4]]`, `A r = x` with `x = (4, 10)` stored backwards -/
example : trsv false Tr.N true 2 (#[2, 1, 0, 4] : Array Rat) 2 #[10, 4] (-1) = #[2, 2] := by decide +kernel
example := trsv_spec_partial_lower_notrans true 2 2 (#[2, 1, 0, 4] : Array Rat) #[10, 4] (-1)
  (by decide) (by decide) (by decide)

section trsvUN
variable {K : Type} [Field K] [Inhabited K] [BEq K] [LawfulBEq K] [Conj K]

omit [LawfulBEq K] in
/-- the `uplo = U, trans = N` sweep (columns `n-1 .. 0`, inner `i = j-1 .. 0`) is the `uplo = L` sweep on
the reversed indexing `i ↦ n-1-i` -/
theorem trsv_upper_notrans_eq_sweep (nounit : Bool) (n lda : Nat) (a x : Array K) (incx : Int) :
    trsv true Tr.N nounit n a lda x incx =
      loop n (colStepLN n (fun i => spos n incx (n - 1 - i)) (fun i j => a[(n - 1 - i) + (n - 1 - j) * lda]!) nounit) x := by
  unfold trsv
  rw [if_pos (show (Tr.N == Tr.N) = true from rfl), if_pos rfl]
  refine loop_congr _ _ _ _ fun X jj hjj => ?_
  unfold colStepLN
  dsimp only
  refine ite_congr rfl (fun _ => rfl) fun _ => loop_congr _ _ _ _ fun Y ii hii => ?_
  rw [show n - 1 - jj - 1 - ii = n - 1 - (jj + 1 + ii) by omega]

/-- **trsv, branch `uplo = U`, `trans = N`**: the strided entries of the result solve the upper triangular system
`A r = x` row by row, the sum written from the last column down as the code runs. -/
theorem trsv_spec_partial_upper_notrans (nounit : Bool) (n lda : Nat) (a x : Array K) (incx : Int)
    (hinc : incx ≠ 0) (hb : ∀ i, i < n → spos n incx i < x.size)
    (hd : nounit = true → ∀ j, j < n → a[j + j * lda]! ≠ 0) :
    (trsv true Tr.N nounit n a lda x incx).size = x.size ∧
    (∀ i, i < n →
      (∑ jj ∈ range (n - 1 - i), a[i + (n - 1 - jj) * lda]! * (trsv true Tr.N nounit n a lda x incx)[spos n incx (n - 1 - jj)]!) +
        (if nounit then a[i + i * lda]! else 1) * (trsv true Tr.N nounit n a lda x incx)[spos n incx i]! =
      x[spos n incx i]!) ∧
    (∀ p, (∀ i, i < n → spos n incx i ≠ p) → (trsv true Tr.N nounit n a lda x incx)[p]! = x[p]!) := by
  obtain ⟨h1, h2, -, h3⟩ := sweepLN_spec n (fun i => spos n incx (n - 1 - i)) (fun i j => a[(n - 1 - i) + (n - 1 - j) * lda]!) nounit x
    (rev_inj (spos_inj n incx hinc))
    (fun i hi => hb _ (by omega)) n (le_refl _)
  rw [← trsv_upper_notrans_eq_sweep] at h1 h2 h3
  exact ⟨h1, fun i hi => fwdSub_rows_rev (fun i j => a[i + j * lda]!) (fun j => if nounit then a[j + j * lda]! else 1)
    (fun i => x[spos n incx i]!) n n (fun i => (trsv true Tr.N nounit n a lda x incx)[spos n incx i]!) h2 i hi (by omega)
    (diag_ne_zero nounit _ fun h => hd h i hi), fun p hp => h3 p fun i hi => hp _ (by omega)⟩

/-- every branch of `[sdcz]trsv_` keeps the size of the array and every position off the stride, whatever the diagonal -/
theorem trsv_size_frame (upper : Bool) (tr : Tr) (nounit : Bool) (n lda : Nat) (a x : Array K) (incx : Int)
    (hinc : incx ≠ 0) (hb : ∀ i, i < n → spos n incx i < x.size) :
    (trsv upper tr nounit n a lda x incx).size = x.size ∧
    (∀ p, (∀ i, i < n → spos n incx i ≠ p) → (trsv upper tr nounit n a lda x incx)[p]! = x[p]!) := by
  have hrev := rev_inj (spos_inj n incx hinc)
  by_cases htr : tr = Tr.N
  · subst htr
    cases upper
    · rw [trsv_lower_notrans_eq_sweep]
      obtain ⟨h1, -, -, h3⟩ := sweepLN_spec n (spos n incx) (fun i j => a[i + j * lda]!) nounit x (spos_inj n incx hinc) hb
        n (le_refl _)
      exact ⟨h1, h3⟩
    · rw [trsv_upper_notrans_eq_sweep]
      obtain ⟨h1, -, -, h3⟩ := sweepLN_spec n (fun i => spos n incx (n - 1 - i)) (fun i j => a[(n - 1 - i) + (n - 1 - j) * lda]!)
        nounit x hrev (fun i hi => hb _ (by omega)) n (le_refl _)
      exact ⟨h1, fun p hp => h3 p fun i hi => hp _ (by omega)⟩
  · cases upper
    · rw [trsv_lower_trans_eq_sweep tr htr, sweepLT_eq_sweepUT _ _ _ _ _ _ n (le_refl _)]
      obtain ⟨h1, -, -, h3⟩ := sweepUT_spec n (fun t => spos n incx (n - 1 - t)) (fun s t => cj tr a[(n - 1 - s) + (n - 1 - t) * lda]!)
        (fun t => cj tr a[(n - 1 - t) + (n - 1 - t) * lda]!) nounit x hrev (fun i hi => hb _ (by omega)) n (le_refl _)
      exact ⟨h1, fun p hp => h3 p fun i hi => hp _ (by omega)⟩
    · rw [trsv_upper_trans_eq_sweep tr htr]
      obtain ⟨h1, -, -, h3⟩ := sweepUT_spec n (spos n incx) (fun i j => cj tr a[i + j * lda]!) (fun j => cj tr a[j + j * lda]!)
        nounit x (spos_inj n incx hinc) hb n (le_refl _)
      exact ⟨h1, h3⟩

/-- **trsv, all twelve `uplo × trans × diag` combinations**: the size of the array and every position
off the stride are unchanged (`trsv_size_frame`; the diagonal hypothesis `hd` is not used).  That the strided entries solve
`op(A) r = x` is not part of this statement: the row equations are stated branch by branch, `trsv_spec_partial` (U, T/C),
`trsv_spec_partial_lower` (L, T/C), `trsv_spec_partial_lower_notrans` (L, N), `trsv_spec_partial_upper_notrans` (U, N),
which together cover every branch of `[sdcz]trsv_`. -/
theorem trsv_spec (upper : Bool) (tr : Tr) (nounit : Bool) (n lda : Nat) (a x : Array K) (incx : Int)
    (hinc : incx ≠ 0) (hb : ∀ i, i < n → spos n incx i < x.size)
    (hd : nounit = true → ∀ j, j < n → cj tr a[j + j * lda]! ≠ 0) :
    (trsv upper tr nounit n a lda x incx).size = x.size ∧
    (∀ p, (∀ i, i < n → spos n incx i ≠ p) → (trsv upper tr nounit n a lda x incx)[p]! = x[p]!) :=
  trsv_size_frame upper tr nounit n lda a x incx hinc hb

end trsvUN

/-- upper triangular `[[2,1],[0,4]]`, `A r = x`, `x = (4, 8)` -/
example : trsv true Tr.N true 2 (#[2, 0, 1, 4] : Array Rat) 2 #[4, 8] 1 = #[1, 2] := by decide +kernel
example := trsv_spec_partial_upper_notrans true 2 2 (#[2, 0, 1, 4] : Array Rat) #[4, 8] 1
  (by decide) (by decide) (by decide)

end Slu.Cblas
