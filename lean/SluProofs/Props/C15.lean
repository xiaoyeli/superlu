import Slu.Model.Ilu
import Slu.Model.IluFactor
import SluProofs.Lemmas.Ilu
import SluProofs.Lemmas.IluFactor
import SluProofs.Props.C14
import Slu.Model.IluDrop
import SluProofs.Lemmas.IluDrop
import SluProofs.Lemmas.QSelect
import Slu.Model.IluDropU
import SluProofs.Lemmas.IluDropU
import SluProofs.Lemmas.SumBasic
import Mathlib.Tactic.Ring
import Mathlib.Tactic.Linarith
import Mathlib.Algebra.Order.Field.Basic
/-
C15 — Incomplete LU never breaks down and is exact when dropping is off.  Three groups of theorems.

(1) The pivot routine `ilu_[sdcz]pivotL` — `iluPivotChoice` / `iluApply` (Slu/Model/Ilu.lean), a bit mirror executed
    against every pivot event of every run: totality, the recorded row, the no-candidate return, `info`; the MC64 glue
    of `gsisx`; the solve step.
(2) The factorization AS A WHOLE — `iluFactor` (Slu/Model/IluFactor.lean, whose head says what stays an oracle and what
    is not modelled), the column loop of `[sdcz]gsitrf` at specification level in exact arithmetic over any field with a
    magnitude satisfying `MagLaws` (`Rat`, `Cx Rat`), the dropping rules being oracles: `L̃·Ũ = Pr·A·Pc + E` for every
    oracle, `iluFactor = luFactor` when nothing is dropped and no pivot is replaced, nonzero diagonal of Ũ.
    The tie between `iluFactor` and the C column loop is the output clauses of the differential check (factors
    well-formed, identity with dropping off, X = solve with the returned factors) plus the pivot-event mirror; there is
    no event-level correspondence for the dropping steps.
(3) The dropping rules themselves — the loops of `ilu_[sdcz]drop_row` (Slu/Model/IluDrop.lean),
    `ilu_[sdcz]copy_to_ucol` (Slu/Model/IluDropU.lean) and `[sd]qselect` (Slu/Model/QSelect.lean), bit mirrors executed
    against direct calls; and both rules plugged into (2) as oracles.
-/
namespace Slu.Ilu
open Slu Slu.Kernels

/-- **C15 (row indices restored).** `[sdcz]gsisx` replaces every row index `r` of the caller's A by
`perm[r]` before the factorization and by `iperm[.]` afterwards; for every permutation `perm` of
`0..n-1` and every index array with entries below `n` the caller gets its own row indices back. -/
theorem gsisx_rowind_restored (n : Nat) (perm rowind : Array Nat) (h : PermOn n perm)
    (hr : ∀ k, k < rowind.size → rowind[k]! < n) :
    restoreRows perm (permuteRows perm rowind) = rowind := by
  refine ext_getElem! _ _ (by simp [restoreRows, permuteRows]) fun k hk => ?_
  have hk' : k < rowind.size := by simpa [restoreRows, permuteRows] using hk
  have e : (restoreRows perm (permuteRows perm rowind))[k]! = (invPerm perm)[perm[rowind[k]!]!]! := by
    simp [restoreRows, permuteRows, hk']
  rw [e, invPerm_perm n perm h _ (hr k hk')]

theorem gsisx_iperm_perm (n : Nat) (perm : Array Nat) (h : PermOn n perm) (i : Nat) (hi : i < n) :
    (invPerm perm)[perm[i]!]! = i := invPerm_perm n perm h i hi

/-- **C15 (permutations are bijections).** Folding MC64's permutation into the pivoting permutation,
`perm_r := perm_r ∘ perm`, gives again a permutation of `0..n-1`: injective, into range, onto. -/
theorem ilu_perm_bij (n : Nat) (permr perm : Array Nat) (hr : PermOn n permr) (hp : PermOn n perm) :
    PermOn n (foldPerm permr perm) ∧ ∀ v, v < n → ∃ i, i < n ∧ (foldPerm permr perm)[i]! = v := by
  have hP : PermOn n (foldPerm permr perm) := by
    refine ⟨by simp [foldPerm, hp.1], ?_, ?_⟩
    · intro i hi
      rw [foldPerm_get permr perm i (by rw [hp.1]; exact hi)]
      exact hr.2.1 _ (hp.2.1 i hi)
    · intro i j hi hj hij
      rw [foldPerm_get permr perm i (by rw [hp.1]; exact hi), foldPerm_get permr perm j (by rw [hp.1]; exact hj)] at hij
      exact hp.2.2 i j hi hj (hr.2.2 _ _ (hp.2.1 i hi) (hp.2.1 j hj) hij)
  exact ⟨hP, permOn_surj n _ hP⟩

/-- entry `i` of the folded array: original row `i` of A is MC64's row `perm[i]`, whose pivot position is `permr[perm[i]]` -/
theorem ilu_fold_spec (permr perm : Array Nat) (i : Nat) (hi : i < perm.size) :
    (foldPerm permr perm)[i]! = permr[perm[i]!]! := foldPerm_get permr perm i hi

/-- **C15 (the pivot policy is total).** `ilu_[sd]pivotL` in exact arithmetic, every MILU variant,
any threshold `u`, with or without a remembered pivot: whenever the column has an eligible candidate
row (a row that does not belong to a later relaxed supernode) — and `drop_sum ≥ 0` in the variants
that treat it as a sum of magnitudes — the routine returns a pivot position inside the column, the
value it leaves at the pivot is NONZERO, and either the return value is 0, or it is `jcol+1` and the
pivot holds the replacement value `fill_tol` (> 0). -/
theorem ilu_pivot_total (inp : PivIn Rat Rat) (hfill : 0 < inp.fillTol)
    (hds : inp.milu = Milu.smilu2 ∨ inp.milu = Milu.smilu3 → 0 ≤ inp.dropSum)
    (hc : ∃ k, k < inp.cands.length ∧ (inp.cands[k]!).elig = true) :
    ∃ p, (realPivot inp).pos = some p ∧ p < inp.cands.length ∧ (realPivot inp).pivVal ≠ 0 ∧
      ((realPivot inp).ret = 0 ∨
        ((realPivot inp).ret = inp.jcol + 1 ∧ (realPivot inp).pivVal = inp.fillTol)) :=
  (iluPivotChoice_total inp (fun p => inp.u * p) inp.dropSum id (fun v => sgnG v * inp.dropSum)
    LU.magLaws_rat.nonneg LU.magLaws_rat.zero
    hds (fun v hm => real_reset_ne_zero v _ (hds hm)) (ne_of_gt hfill) hc).imp fun _ h => h.1

/-- **C15 (the pivot policy is total, complex routines).** The same for `ilu_[cz]pivotL` over the Gaussian
rationals, for EVERY function `t` standing for the modulus `z_abs` used by `z_sgn` that is non-negative and
vanishes only at zero; in the variants where `drop_sum` is a sum of magnitudes it is `d + 0i` with `d ≥ 0`
(the SMILU_2/3 reset adds `z_sgn(pivot) * drop_sum`, which then cannot cancel the pivot), and the
replacement value is `fill_tol + 0i`. -/
theorem ilu_pivot_total_complex (t : Cx Rat → Rat) (ht0 : ∀ z, 0 ≤ t z) (ht : ∀ z, t z = 0 ↔ z = 0)
    (inp : PivIn (Cx Rat) Rat) (hfill : 0 < inp.fillTol)
    (hds : inp.milu = Milu.smilu2 ∨ inp.milu = Milu.smilu3 → 0 ≤ inp.dropSum.re ∧ inp.dropSum.im = 0)
    (hc : ∃ k, k < inp.cands.length ∧ (inp.cands[k]!).elig = true) :
    ∃ p, (complexPivot t inp).pos = some p ∧ p < inp.cands.length ∧ (complexPivot t inp).pivVal ≠ 0 ∧
      ((complexPivot t inp).ret = 0 ∨
        ((complexPivot t inp).ret = inp.jcol + 1 ∧ (complexPivot t inp).pivVal = ⟨inp.fillTol, 0⟩)) :=
  (iluPivotChoice_total inp (fun p => inp.u * p) inp.dropSum.re (fun r => ⟨r, 0⟩) (fun v => sgnCG t v * inp.dropSum)
    LU.magLaws_cx.nonneg LU.magLaws_cx.zero (fun hm => (hds hm).1)
    (fun v hm => cx_add_sgn_ne_zero t ht0 ht v _ (hds hm).1 (hds hm).2)
    (fun h => ne_of_gt hfill (congrArg Cx.re h)) hc).imp fun _ h => h.1

/-- the hypotheses on `t` are satisfiable (e.g. by `|re| + |im|`; over the reals by the modulus) -/
example : ∃ t : Cx Rat → Rat, (∀ z, 0 ≤ t z) ∧ (∀ z, t z = 0 ↔ z = 0) :=
  ⟨Mag.abs1, LU.magLaws_cx.nonneg, fun z => ⟨LU.magLaws_cx.definite z, fun h => h ▸ LU.magLaws_cx.zero⟩⟩

/-- **C15 (the recorded pivot row is the row at the pivot position).** Whenever `ilu_[sd]pivotL` returns 0,
the row it records in `perm_r` (`*pivrow`) is the row subscript stored at the position it pivots on — with
or without a remembered pivot, whether or not the remembered row is (still) among the column's candidates.
(False of the pinned code: a remembered row that had been dropped from L was recorded while the first
candidate was used; repaired in /repo by "fix: ilu_[sdcz]pivotL ... remembered pivot row".) -/
theorem ilu_pivot_row_recorded (inp : PivIn Rat Rat) (p : Nat)
    (hp : (realPivot inp).pos = some p) (hr : (realPivot inp).ret = 0) :
    (inp.cands[p]!).row = (realPivot inp).pivrow :=
  iluPivotChoice_row_recorded inp _ _ _ _ LU.magLaws_rat.nonneg p hp hr

/-- the same for `ilu_[cz]pivotL`, for every modulus function `t` -/
theorem ilu_pivot_row_recorded_complex (t : Cx Rat → Rat) (inp : PivIn (Cx Rat) Rat) (p : Nat)
    (hp : (complexPivot t inp).pos = some p) (hr : (complexPivot t inp).ret = 0) :
    (inp.cands[p]!).row = (complexPivot t inp).pivrow :=
  iluPivotChoice_row_recorded inp _ _ _ _ LU.magLaws_cx.nonneg p hp hr

/-- non-vacuity: a remembered row (5) that is absent from the column; the routine abandons it and records
the row it pivots on -/
example : (realPivot ({ jcol := 0, u := 1, usepr := true, pivrowIn := 5, diagind := 9, cands := [{ row := 2, val := 1, elig := true }, { row := 3, val := 4, elig := true }], fillTol := 1, milu := Milu.silu, dropSum := 0, freeRow := none } : PivIn Rat Rat)).pivrow = 3 := 
    by decide +kernel

/-- what the routine does when NO candidate row is eligible (SILU / SMILU_1): it reports the column as
singular (`jcol+1`) WITHOUT choosing a pivot — the search for a free row of l.163-181 is not reached
in these variants (the caller guarantees an eligible candidate by inserting a fill-in position into
an entirely empty column, dgsitrf.c:483-519). -/
theorem ilu_pivot_no_candidate (inp : PivIn Rat Rat) (hm : inp.milu.absVariant = false)
    (hn : ∀ k, k < inp.cands.length → (inp.cands[k]!).elig = false) :
    (realPivot inp).ret = inp.jcol + 1 ∧ (realPivot inp).pos = none := by
  have hneg : pivMaxOf inp inp.dropSum < 0 := by
    unfold pivMaxOf
    rw [hm, scan_pivmax_of_no_elig inp LU.magLaws_rat.nonneg hn]
    norm_num
  have := iluPivotChoice_neg inp (fun p => inp.u * p) inp.dropSum id (fun v => sgnG v * inp.dropSum) hneg
  exact ⟨congrArg PivOut.ret this, congrArg PivOut.pos this⟩

example : ∃ inp : PivIn Rat Rat, 0 < inp.fillTol ∧
    (inp.milu = Milu.smilu2 ∨ inp.milu = Milu.smilu3 → 0 ≤ inp.dropSum) ∧
    (∃ k, k < inp.cands.length ∧ (inp.cands[k]!).elig = true) :=
  ⟨{ jcol := 0, u := 1, usepr := false, pivrowIn := 0, diagind := 0, cands := [{ row := 0, val := 0, elig := true }],
     fillTol := 1 / 100, milu := Milu.silu, dropSum := 0, freeRow := none },
   (by norm_num), ⟨(by intro h; rcases h with h | h <;> cases h), ⟨0, (by simp), rfl⟩⟩⟩

/-- **C15 (info).** `info` counts the columns whose pivot was replaced and never exceeds the number
of columns. -/
theorem ilu_info_le_n (rets : List Nat) : replaceCount rets ≤ rets.length := by
  unfold replaceCount
  exact List.length_filter_le _ _

section solve
variable {K : Type} [Field K] [Conj K] [Inhabited K]

/-- **C15 (X is the preconditioner solve defined by the returned factors).** Whatever was dropped:
for every factor pair `F`, permutations, `trans`, `nrhs`, `ldx ≥ n`, column `j` of
`gstrs (gstrsCol F perm_c perm_r trans) n ldx nrhs X` — what the driver's solve step `gsisxSolve` (Slu/Model/Ilu.lean)
runs once B is copied into X — is `gstrsCol F perm_c perm_r trans` applied to column `j` of X, and the padding rows of
X are untouched (C14 then says what `gstrsCol` computes). -/
theorem ilu_solve_is_LU_solve (F : LUFac K) (permc permr : Array Nat) (tr : Tr) (ldx nrhs : Nat) (X : Array K)
    (hld : F.L.n ≤ ldx) (hX : ldx * nrhs ≤ X.size) :
    (∀ j i, j < nrhs → i < F.L.n →
      (gstrs (gstrsCol F permc permr tr) F.L.n ldx nrhs X)[ldx * j + i]! =
        (gstrsCol F permc permr tr (slice X (ldx * j) F.L.n))[i]!) ∧
    (∀ p, p < X.size → (ldx * nrhs ≤ p ∨ F.L.n ≤ p % ldx) →
      (gstrs (gstrsCol F permc permr tr) F.L.n ldx nrhs X)[p]! = X[p]!) := by
  have h := gstrs_columns_independent (gstrsCol F permc permr tr) F.L.n ldx nrhs X
    (fun v => gstrsCol_size F permc permr tr v) hld hX
  exact ⟨h.2.1, h.2.2⟩
end solve

open Slu.LU

section whole
variable {K : Type} [Field K] [Inhabited K] [Mag K Rat]

/-- **C15 (identity with explicit error).** For EVERY drop oracle (U-dropping, row dropping of L, diagonal
compensation), every MILU mode, any threshold, pivot replacement or not: whenever the model does not stop,
`Σ_{k ≤ j} Ũ(k,j) · L̃(i,k) = (Pr A Pc)(i,j) + E(i,j)` for every row and column, exactly, where `E` is the
matrix the model writes from the oracle's choices only:
column j is created as `− Σ_{t dropped from U(:,j)} u_tj · L̃(:,t) + (stored pivot − eliminated value) e_(piv j)`
(`cE`, `cE_get`), and each later row-dropping step subtracts the products `U(t,k) · L(i,t)` of the L entries
it zeroes and adds `(f_k − 1) · U(k,k) · L̃(:,k)` for the diagonal entries it scales (`lStep`). -/
theorem iluFactor_identity_with_error (laws : MagLaws K) (F : Flavour K Rat) (P : IluParams K Rat)
    (drop : DropOracle K) (hcol : ∀ j, (P.col j).size = P.m) (b : Bool)
    (h : (iluFactor F P drop b).fail = 0) (j : Nat) (hj : j < P.n) (i : Nat) (hi : i < P.m) :
    ((List.range (j + 1)).map fun k =>
        ((iluFactor F P drop b).U.getD j #[]).getD k 0 * ((iluFactor F P drop b).L.getD k #[]).get i).sum =
      (P.col j).get i + ((iluFactor F P drop b).E.getD j #[]).get i :=
  (iluRun_inv F P drop b laws hcol P.n h).core.identity j hj i hi

/-- **C15 (the error matrix in closed form, U-dropping only).** When the oracle drops from U only (no row
dropping of L, no diagonal compensation), column j of `E` is
`E(i,j) = [i = piv j] · (Ũ(j,j) − w_j(piv j)) − Σ_{t<j} d_j(t) · L̃(i,t)`
with `w_j` the eliminated column j, `d_j(t) = u_tj` for the dropped positions and 0 elsewhere, and `L̃` the
FINAL factor: the dropped multipliers times the L columns they belonged to, plus the pivot modification
(replacement by `fill_tol`, MILU reset) at the pivot position.  (The proof uses neither `laws` nor `hcol`: without row
dropping the run is the list of the columns its column steps wrote, `iluRun_noL_cols`.) -/
theorem iluFactor_error_udrop (laws : MagLaws K) (F : Flavour K Rat) (P : IluParams K Rat)
    (drop : DropOracle K) (hl : ∀ st j t i, drop.dropL st j t i = false) (hdm : ∀ st j k, drop.diagMul st j k = 1)
    (hcol : ∀ j, (P.col j).size = P.m) (b : Bool)
    (h : (iluFactor F P drop b).fail = 0) (j : Nat) (hj : j < P.n) (i : Nat) (hi : i < P.m) :
    ((iluFactor F P drop b).E.getD j #[]).get i =
      (if i = (iluFactor F P drop b).piv.getD j 0 then
          ((iluFactor F P drop b).U.getD j #[]).getD j 0 - (cW P (iluRun F P drop b j) j).get ((iluFactor F P drop b).piv.getD j 0)
        else 0)
      - ((List.range j).map fun t =>
          (dropdU (cUs P (iluRun F P drop b j) j) (cD P drop (iluRun F P drop b j) j)).getD t 0 *
            ((iluFactor F P drop b).L.getD t #[]).get i).sum := by
  rw [iluFactor_eq_run] at h ⊢
  obtain ⟨e1, e2, e3, e4⟩ := iluRun_noL_cols F P drop b hl hdm P.n h
  have e2' := (iluRun_noL_cols F P drop b hl hdm j (iluRun_fail_le F P drop b P.n j (by omega) h)).2.1
  rw [getD_of_toList _ _ _ e4 _ hj, cE_get F P drop _ j i hi, getD_of_toList _ _ _ e1 _ hj, getD_of_toList _ _ _ e3 _ hj, cU_diag,
    dotL_prev _ _ j i (by rw [dropdU_length, cUs_length])]
  refine congrArg (_ - ·) (congrArg List.sum (List.map_congr_left fun t ht => ?_))
  -- column `t < j` of L̃ is the same in the state column `j` found and in the final state
  have ht := List.mem_range.mp ht
  rw [getD_of_toList _ _ _ e2 _ (show t < P.n by omega), ← getD_of_toList _ _ _ e2' #[] ht]
  rfl

/-- **C15 (dropping disabled, no pivot replaced: the complete LU of the same pivot policy).** Every MILU
mode.  If the oracle drops nothing, the model did not stop and the policy returned 0 for every column
(`iinfo = 0`), then pivots, L and U are exactly those of the COMPLETE LU whose pivot is chosen by
`ilu_[sdcz]pivotL` with `drop_sum = 0` (`luFactorIluPivot`), and the error matrix vanishes identically.
(`drop_sum` is 0 in every mode when nothing is dropped, the damping multiplies 0, and the MILU reset adds
`0` resp. `sgn(pivot) * 0`: `FlavourLaws`.) -/
theorem iluFactor_nodrop_eq_lu (laws : MagLaws K) (F : Flavour K Rat) (hF : FlavourLaws F) (P : IluParams K Rat)
    (drop : DropOracle K) (hd : DropsNothing drop) (b : Bool)
    (h : (iluFactor F P drop b).fail = 0) (hi : (iluFactor F P drop b).iinfo = 0) :
    (iluFactor F P drop b).toLU = luFactorIluPivot F P b ∧
    ∀ k i, ((iluFactor F P drop b).E.getD k #[]).get i = 0 := by
  rw [luFactorIluPivot_eq_run]
  exact iluRun_dropsNothing F P drop b laws hF hd P.n h hi

/-- **C15 (the two pivot policies coincide).** When every candidate row is eligible, the complete LU driven
by `ilu_[sdcz]pivotL` with `drop_sum = 0` IS `Slu.LU.luFactor` (driven by `[sdcz]pivotL`) with the same
threshold, candidate order, remembered rows and diagonal rows: same pivots, L, U, reuse flag and `info` —
for every matrix, singular ones included. -/
theorem luFactorIluPivot_eq (laws : MagLaws K) (F : Flavour K Rat) (hF : FlavourLaws F) (P : IluParams K Rat)
    (hel : ∀ j r, P.elig j r = true) (b : Bool) : luFactorIluPivot F P b = luFactor P.toLU b := by
  unfold luFactorIluPivot luFactor
  rw [show luStepIluPivot F P = LU.step P.toLU from
    funext fun st => funext fun j => luStepIluPivot_eq_step F P laws hF hel st j]
  rfl

/-- **C15 (dropping disabled and no pivot replaced = `luFactor`).** -/
theorem iluFactor_nodrop_eq_luFactor (laws : MagLaws K) (F : Flavour K Rat) (hF : FlavourLaws F) (P : IluParams K Rat)
    (drop : DropOracle K) (hd : DropsNothing drop) (hel : ∀ j r, P.elig j r = true) (b : Bool)
    (h : (iluFactor F P drop b).fail = 0) (hi : (iluFactor F P drop b).iinfo = 0) :
    (iluFactor F P drop b).toLU = luFactor P.toLU b := by
  rw [(iluFactor_nodrop_eq_lu laws F hF P drop hd b h hi).1, luFactorIluPivot_eq laws F hF P hel b]

/-- nothing dropped, no pivot replaced: `Pr A Pc = L̃ Ũ` exactly, whatever rows are eligible and whatever the threshold —
the identity with error at `E = 0` -/
theorem iluFactor_nodrop_exact (laws : MagLaws K) (F : Flavour K Rat) (hF : FlavourLaws F) (P : IluParams K Rat)
    (drop : DropOracle K) (hd : DropsNothing drop) (hcol : ∀ j, (P.col j).size = P.m) (b : Bool)
    (h : (iluFactor F P drop b).fail = 0) (hi : (iluFactor F P drop b).iinfo = 0)
    (j : Nat) (hj : j < P.n) (i : Nat) (hi' : i < P.m) :
    (P.col j).get i =
      ((List.range (j + 1)).map fun k =>
        ((iluFactor F P drop b).U.getD j #[]).getD k 0 * ((iluFactor F P drop b).L.getD k #[]).get i).sum := by
  rw [iluFactor_identity_with_error laws F P drop hcol b h j hj i hi', (iluFactor_nodrop_eq_lu laws F hF P drop hd b h hi).2,
    add_zero]

/-- **C15 (… hence the complete-LU guarantees).** With dropping disabled and no pivot replaced the returned
factors satisfy `Pr A Pc = L U` exactly, as C02 `luFactor_identity` says of `luFactor` (read off
`iluFactor_nodrop_exact`: of `hel` and `hP` the proof uses the column sizes only; the other C02 theorems — unit lower
triangular L, nonzero diagonal, threshold bound on the multipliers, schedule independence — transfer through
`iluFactor_nodrop_eq_luFactor`). -/
theorem iluFactor_nodrop_identity (laws : MagLaws K) (F : Flavour K Rat) (hF : FlavourLaws F) (P : IluParams K Rat)
    (drop : DropOracle K) (hd : DropsNothing drop) (hel : ∀ j r, P.elig j r = true) (hP : Legal P.toLU) (b : Bool)
    (h : (iluFactor F P drop b).fail = 0) (hi : (iluFactor F P drop b).iinfo = 0)
    (j : Nat) (hj : j < P.n) (i : Nat) (hi' : i < P.m) :
    (P.col j).get i =
      ((List.range (j + 1)).map fun k =>
        ((iluFactor F P drop b).U.getD j #[]).getD k 0 * ((iluFactor F P drop b).L.getD k #[]).get i).sum :=
  iluFactor_nodrop_exact laws F hF P drop hd hP.col_size b h hi j hj i hi'

end whole

/-- **C15 (the vector step is what `iluApply` leaves in the column).** `colStep` stores the new L column as a
vector over all rows; `ilu_[sdcz]pivotL` works on the candidate list (`iluApply`: store the pivot value, interchange
with position 0, cdiv — mirrored bit for bit against the C routine).  Whenever the policy returns a position `p`
inside the column whose row it records, position 0 of `iluApply` holds the recorded pivot row with the value that
becomes `Ũ(j,j)`, and every other position holds a candidate row other than the pivot row together with exactly
the entry of the new L column at that row (candidate rows pairwise distinct). -/
theorem ilu_apply_matches_colStep {K : Type} [Field K] [Inhabited K] [Mag K Rat]
    (P : IluParams K Rat) (piv : Array Nat) (j : Nat) (w : Vec K) (o : PivOut K)
    (hnd : (P.order j).Nodup) (p : Nat) (hpos : o.pos = some p) (hp : p < (iluCands P piv j w).length)
    (hrow : ((iluCands P piv j w)[p]! : Cand K).row = o.pivrow) (k : Nat) (e : Cand K)
    (he : (iluApply (iluCands P piv j w) o)[k]? = some e) :
    (k = 0 → e.row = o.pivrow ∧ e.val = o.pivVal) ∧
    (k ≠ 0 → e.row ≠ o.pivrow ∧ e.row ∈ P.order j ∧
      e.val = Vec.get ((w.setIfInBounds o.pivrow o.pivVal).map (· * (1 / o.pivVal))) e.row) := by
  have hmap : (iluCands P piv j w).map (·.row) = (P.order j).filter fun r => !(piv.contains r) := by
    simp [iluCands, Function.comp_def]
  obtain ⟨h0, h1⟩ := iluApply_matches _ w o (hmap ▸ hnd.filter _)
    (fun c hc => by obtain ⟨r, -, rfl⟩ := List.mem_map.mp hc; rfl) p hpos hp (by rw [← hrow, getElem!_pos _ p hp]) k e he
  exact ⟨h0, fun hk => ⟨(h1 hk).1, (List.mem_filter.mp (hmap ▸ (h1 hk).2.1)).1, (h1 hk).2.2⟩⟩

theorem realFlavour_laws : FlavourLaws (realFlavour : Flavour Rat Rat) where
  ds0 := rfl
  ofR0 := rfl
  reset0 := fun v => by simp [realFlavour]
  rscale0 := fun r => by simp [Mag.rscale]

theorem complexFlavour_laws (t : Cx Rat → Rat) : FlavourLaws (complexFlavour t) where
  ds0 := rfl
  ofR0 := rfl
  reset0 := fun v => by simp [complexFlavour]
  rscale0 := fun r => by
    show (⟨(0 : Cx Rat).re * r, (0 : Cx Rat).im * r⟩ : Cx Rat) = 0
    simp [Cx.zero_def]

/-- in the variants where `drop_sum` is a sum of magnitudes it is a non-negative real of `K`: it lies in every set `S` that
holds the embedded non-negative reals and is closed under addition and under scaling by a non-negative real (`0 ≤ ·` for the
real routines, `0 ≤ re ∧ im = 0` for the complex ones), provided the damping factor is non-negative on `S` -/
theorem cDsum_mem {K : Type} [Field K] [Inhabited K] [Mag K Rat] (laws : MagLaws K) (F : Flavour K Rat) (S : K → Prop) (h0 : S 0)
    (hof : ∀ r : Rat, 0 ≤ r → S (F.ofR r)) (hadd : ∀ a b, S a → S b → S (a + b))
    (hsc : ∀ a (r : Rat), S a → 0 ≤ r → S (Mag.rscale a r))
    (P : IluParams K Rat) (drop : DropOracle K) (st : IluSt K) (j : Nat)
    (homega : ∀ j s, S s → 0 ≤ P.omega j s) (hm : P.milu = Milu.smilu2 ∨ P.milu = Milu.smilu3) :
    S (cDsum F P drop st j) := by
  have hraw : S (rawSum F P.milu (droppedVals (cUs P st j) (cD P drop st j))) := by
    rcases hm with hm | hm <;> rw [hm]
    · exact hof _ (laws.nonneg _)
    · exact List.sum_induction S hadd h0 (List.forall_mem_map.mpr fun v _ => hof _ (laws.nonneg v))
  exact hsc _ _ hraw (homega j _ hraw)

/-- **C15 (U's diagonal is nonzero).** Real routines, every MILU mode, EVERY drop oracle whose diagonal
factors are nonzero, any threshold, with or without remembered pivots: if every column has an eligible
candidate row when it is reached (a row of `order j` that is not yet a pivot row and does not belong to a
later relaxed supernode), the replacement values are positive, the damping factor is non-negative and the
candidate rows are rows of the matrix, then the model never stops and every diagonal entry of Ũ is nonzero. -/
theorem iluFactor_udiag_nonzero (P : IluParams Rat Rat) (drop : DropOracle Rat) (b : Bool)
    (hcol : ∀ j, (P.col j).size = P.m)
    (hrows : ∀ j, ∀ r ∈ P.order j, r < P.m)
    (hfill : ∀ j, 0 < P.fillTol j)
    (homega : ∀ j s, 0 ≤ s → 0 ≤ P.omega j s)
    (hdm : ∀ st j k, drop.diagMul st j k ≠ 0)
    (hc : ∀ j < P.n, (iluRun realFlavour P drop b j).fail = 0 →
      ∃ r ∈ P.order j, r ∉ (iluRun realFlavour P drop b j).piv.toList ∧ P.elig j r = true) :
    (iluFactor realFlavour P drop b).fail = 0 ∧
    ∀ k < P.n, ((iluFactor realFlavour P drop b).U.getD k #[]).getD k 0 ≠ 0 := by
  apply iluRun_udiag realFlavour P drop b magLaws_rat hcol hdm _ P.n (le_refl _)
  intro j hj hf
  have hds := cDsum_mem magLaws_rat realFlavour (0 ≤ ·) le_rfl (fun _ h => h) (fun _ _ => add_nonneg)
    (fun _ _ => mul_nonneg) P drop (iluRun realFlavour P drop b j) j homega
  exact cBad_false_of_elig realFlavour P drop magLaws_rat _ j (hrows j) (ne_of_gt (hfill j)) hds
    (fun v hm => real_reset_ne_zero v _ (hds hm)) (hc j hj hf)

theorem exists_free_row (m : Nat) (l : List Nat) (h : l.length < m) : ∃ r < m, r ∉ l := by
  have hcard : l.toFinset.card < (Finset.range m).card := by
    rw [Finset.card_range]; exact lt_of_le_of_lt (List.toFinset_card_le l) h
  obtain ⟨r, hr, hnot⟩ := Finset.exists_mem_notMem_of_card_lt_card hcard
  exact ⟨r, Finset.mem_range.mp hr, fun hmem => hnot (List.mem_toFinset.mpr hmem)⟩

/-- every row is a candidate of every column and eligible, `n ≤ m`: the hypothesis `hc` of
`iluFactor_udiag_nonzero` holds (the first `j < m` pivot rows are distinct rows `< m`, so a free row exists) -/
theorem iluFactor_udiag_nonzero_full (P : IluParams Rat Rat) (drop : DropOracle Rat) (b : Bool)
    (hcol : ∀ j, (P.col j).size = P.m)
    (horder : ∀ j, P.order j = List.range P.m) (hel : ∀ j r, P.elig j r = true) (hnm : P.n ≤ P.m)
    (hfill : ∀ j, 0 < P.fillTol j)
    (homega : ∀ j s, 0 ≤ s → 0 ≤ P.omega j s)
    (hdm : ∀ st j k, drop.diagMul st j k ≠ 0) :
    (iluFactor realFlavour P drop b).fail = 0 ∧
    ∀ k < P.n, ((iluFactor realFlavour P drop b).U.getD k #[]).getD k 0 ≠ 0 := by
  have hrows : ∀ j, ∀ r ∈ P.order j, r < P.m := by
    intro j r hr; rw [horder] at hr; exact List.mem_range.mp hr
  apply iluFactor_udiag_nonzero P drop b hcol hrows hfill homega hdm
  intro j hj hf
  have inv := iluRun_inv realFlavour P drop b magLaws_rat hcol j hf
  have hlen : (iluRun realFlavour P drop b j).piv.toList.length = j := by
    rw [Array.length_toList]; exact inv.core.sizes.1
  obtain ⟨r, hr, hnot⟩ := exists_free_row P.m _ (by rw [hlen]; omega)
  exact ⟨r, by rw [horder]; exact List.mem_range.mpr hr, hnot, hel j r⟩

/-- **C15 (U's diagonal is nonzero, complex routines).** The same for `ilu_[cz]pivotL`, for every function
`t` standing for the modulus inside `z_sgn` that is non-negative and vanishes only at zero. -/
theorem iluFactor_udiag_nonzero_complex (t : Cx Rat → Rat) (ht0 : ∀ z, 0 ≤ t z) (ht : ∀ z, t z = 0 ↔ z = 0)
    (P : IluParams (Cx Rat) Rat) (drop : DropOracle (Cx Rat)) (b : Bool)
    (hcol : ∀ j, (P.col j).size = P.m)
    (hrows : ∀ j, ∀ r ∈ P.order j, r < P.m)
    (hfill : ∀ j, 0 < P.fillTol j)
    (homega : ∀ j s, 0 ≤ P.omega j s)
    (hdm : ∀ st j k, drop.diagMul st j k ≠ 0)
    (hc : ∀ j < P.n, (iluRun (complexFlavour t) P drop b j).fail = 0 →
      ∃ r ∈ P.order j, r ∉ (iluRun (complexFlavour t) P drop b j).piv.toList ∧ P.elig j r = true) :
    (iluFactor (complexFlavour t) P drop b).fail = 0 ∧
    ∀ k < P.n, ((iluFactor (complexFlavour t) P drop b).U.getD k #[]).getD k 0 ≠ 0 := by
  apply iluRun_udiag (complexFlavour t) P drop b magLaws_cx hcol hdm _ P.n (le_refl _)
  intro j hj hf
  -- the non-negative reals of `Cx Rat`; `Mag.rscale` multiplies both components by the real factor
  have hds := cDsum_mem magLaws_cx (complexFlavour t) (fun z => 0 ≤ z.re ∧ z.im = 0) ⟨le_rfl, rfl⟩ (fun _ h => ⟨h, rfl⟩)
    (fun a b ha hb => ⟨add_nonneg ha.1 hb.1, by rw [Cx.add_def, ha.2, hb.2, add_zero]⟩)
    (fun a r ha hr => ⟨mul_nonneg ha.1 hr, (congrArg (· * r) ha.2).trans (zero_mul r)⟩)
    P drop (iluRun (complexFlavour t) P drop b j) j (fun j s _ => homega j s)
  exact cBad_false_of_elig (complexFlavour t) P drop magLaws_cx _ j (hrows j)
    (fun h => ne_of_gt (hfill j) (congrArg Cx.re h)) (fun hm => (hds hm).1)
    (fun v hm => cx_add_sgn_ne_zero t ht0 ht v _ (hds hm).1 (hds hm).2) (hc j hj hf)

def exIluCols : Nat → Vec Rat
  | 0 => #[4, 2, 1]
  | 1 => #[1, 3, 1]
  | _ => #[1, 1, 5]

def exIlu (mi : Milu) : IluParams Rat Rat :=
  { m := 3, n := 3, col := exIluCols, u := 1 / 10, order := fun _ => [0, 1, 2], oldPiv := fun _ => 0,
    diagRow := fun j => j, milu := mi, fillTol := fun _ => 1 / 100, elig := fun _ _ => true, omega := fun _ _ => 1 }

theorem exIlu_col (mi : Milu) : ∀ j, ((exIlu mi).col j).size = (exIlu mi).m := by
  intro j; match j with | 0 => rfl | 1 => rfl | (_ + 2) => rfl

/-- drops `U(0,2)` -/
def exDropU : DropOracle Rat :=
  { dropU := fun _ j _ _ t => j == 2 && t == 0, dropL := fun _ _ _ _ => false, diagMul := fun _ _ _ => 1 }

/-- drops `U(0,2)`, and after column 1 drops `L(2,0)` and doubles `U(0,0)` -/
def exDropUL : DropOracle Rat :=
  { dropU := fun _ j _ _ t => j == 2 && t == 0, dropL := fun _ j t i => j == 1 && t == 0 && i == 2,
    diagMul := fun _ j k => if j == 1 && k == 0 then 2 else 1 }

/-- nothing dropped: the ILU model returns the factors of `luFactor`, `E = 0` -/
example : (iluFactor realFlavour (exIlu .smilu2) noDrop false).piv = (luFactor (exIlu .smilu2).toLU false).piv ∧
    (iluFactor realFlavour (exIlu .smilu2) noDrop false).L = (luFactor (exIlu .smilu2).toLU false).L ∧
    (iluFactor realFlavour (exIlu .smilu2) noDrop false).U = (luFactor (exIlu .smilu2).toLU false).U ∧
    (iluFactor realFlavour (exIlu .smilu2) noDrop false).U = #[#[4], #[1, 5/2], #[1, 1/2, 23/5]] := by
  decide +kernel
example : (iluFactor realFlavour (exIlu .smilu2) noDrop false).E = #[#[0, 0, 0], #[0, 0, 0], #[0, 0, 0]] := by
  decide +kernel
/-- … and the theorem applies (its hypotheses hold) -/
example :=
  have h : (iluFactor realFlavour (exIlu .smilu2) noDrop false).fail = 0 ∧
      (iluFactor realFlavour (exIlu .smilu2) noDrop false).iinfo = 0 := by decide +kernel
  iluFactor_nodrop_eq_luFactor magLaws_rat realFlavour realFlavour_laws (exIlu .smilu2) noDrop
    noDrop_dropsNothing (fun _ _ => rfl) false h.1 h.2

/-- one dropped entry `u_02 = 1` (SILU): Ũ(:,2) loses it, the error column is `−1 · L̃(:,0)` -/
example : (iluFactor realFlavour (exIlu .silu) exDropU false).U = #[#[4], #[1, 5/2], #[0, 1/2, 23/5]] ∧
    (iluFactor realFlavour (exIlu .silu) exDropU false).L = #[#[1, 1/2, 1/4], #[0, 1, 3/10], #[0, 0, 1]] ∧
    (iluFactor realFlavour (exIlu .silu) exDropU false).E = #[#[0, 0, 0], #[0, 0, 0], #[-1, -1/2, -1/4]] := by
  decide +kernel
/-- the same with SMILU_1: the dropped value is added to the pivot (`23/5 + 1`), which shows in `E(2,2)` -/
example : (iluFactor realFlavour (exIlu .smilu1) exDropU false).U = #[#[4], #[1, 5/2], #[0, 1/2, 28/5]] ∧
    (iluFactor realFlavour (exIlu .smilu1) exDropU false).E = #[#[0, 0, 0], #[0, 0, 0], #[-1, -1/2, 3/4]] := by
  decide +kernel
/-- the identity `L̃Ũ = A + E`, evaluated (every entry), with row dropping and a scaled diagonal as well -/
example : ∀ j < 3, ∀ i < 3,
    ((List.range (j + 1)).map fun k =>
        ((iluFactor realFlavour (exIlu .smilu1) exDropUL false).U.getD j #[]).getD k 0 *
          ((iluFactor realFlavour (exIlu .smilu1) exDropUL false).L.getD k #[]).get i).sum =
      ((exIlu .smilu1).col j).get i + ((iluFactor realFlavour (exIlu .smilu1) exDropUL false).E.getD j #[]).get i := by
  decide +kernel
example : (iluFactor realFlavour (exIlu .smilu1) exDropUL false).E = #[#[4, 2, -1], #[0, 0, -1/4], #[-1, -1/2, 1]] := by
  decide +kernel
/-- … which is what the theorem says (hypothesis: the model did not stop) -/
example := iluFactor_identity_with_error magLaws_rat realFlavour (exIlu .smilu1) exDropUL (exIlu_col _) false
  (by decide +kernel)

/-- a zero column: the pivot is replaced by `fill_tol = 1/100`, `iinfo = 1`, the diagonal stays nonzero and
the replacement is the only entry of `E` -/
def exIluZ : IluParams Rat Rat := { exIlu .silu with col := fun j => if j = 1 then #[0, 0, 0] else exIluCols j }

example : (iluFactor realFlavour exIluZ noDrop false).iinfo = 1 ∧ (iluFactor realFlavour exIluZ noDrop false).fail = 0 ∧
    (iluFactor realFlavour exIluZ noDrop false).U = #[#[4], #[0, 1/100], #[1, 1/2, 19/4]] ∧
    (iluFactor realFlavour exIluZ noDrop false).E = #[#[0, 0, 0], #[0, 1/100, 0], #[0, 0, 0]] := by
  decide +kernel
/-- the hypotheses of `iluFactor_udiag_nonzero_full` hold for it -/
example := iluFactor_udiag_nonzero_full exIluZ exDropUL false
  (by intro j; match j with | 0 => rfl | 1 => rfl | (_ + 2) => rfl)
  (fun _ => rfl) (fun _ _ => rfl) (by decide) (fun _ => by norm_num [exIluZ, exIlu])
  (fun _ _ _ => by norm_num [exIluZ, exIlu]) (fun _ j k => by simp only [exDropUL]; split <;> norm_num)

end Slu.Ilu

/-! ## The dropping loops of `ilu_[sdcz]drop_row` (Slu/Model/IluDrop.lean), a bit mirror executed against direct calls

The `dropRow_*` theorems below speak of `dropBlock`, NOT of the whole routine `Slu.IluDrop.dropRow`: `dropBlock` is the two
dropping loops and the diagonal compensation on the `m x n` block of a supernode (rows in storage order, `n` rows of the
diagonal block first) once it has been gathered into a row array; the gather / scatter, the compaction of `lsub` / `lusup`,
the shifts of `xlsub` / `xlusup` and the return value of `dropRow` are executed and compared, not proved.
`(dropBlock ..).1` is the loop state on exit (`r` rows dropped, kept rows at positions `0..m1`, ghost map `orig` =
original position of the row stored at each position, ghost `trace` = (original position, norm consulted) of every dropped
row, newest first), `(dropBlock ..).2.2.1` the rows after the compensation.  All statements hold for EVERY scalar
instance (`opsF64`, `opsF32`, `opsC64`, `opsC32` — the executed bit mirrors — and `opsRat`), every norm, rule, MILU mode,
tolerance and quota. -/
namespace Slu.IluDrop
open Slu Slu.Ilu

section block
variable {K R T : Type} [Inhabited K] [Inhabited R] [LT R] [DecidableLT R]
variable (ops : DropOps K R T) (rule : Rule) (milu : Milu) (nrm : Nrm) (dropTol : T) (quota : Int) (alpha : R) (fillTol : T)
variable (m n : Nat) (rows : Array (Array K)) (subs : Array Int)

/-- **C15 (drop_row: the value returned).** The number of rows dropped plus the number of rows kept (positions
`0..m1`) is the number of rows of the supernode; one trace entry per dropped row; at least the `n` rows of the diagonal
block are left. -/
theorem dropRow_count (hn : 1 ≤ n) (hnm : n < m) (hr : rows.size = m) (hs : subs.size = m) :
    (dropBlock ops rule milu nrm dropTol quota alpha fillTol m n rows subs).1.r
      + ((dropBlock ops rule milu nrm dropTol quota alpha fillTol m n rows subs).1.m1 + 1) = m ∧
    (dropBlock ops rule milu nrm dropTol quota alpha fillTol m n rows subs).1.trace.length
      = (dropBlock ops rule milu nrm dropTol quota alpha fillTol m n rows subs).1.r ∧
    n ≤ (dropBlock ops rule milu nrm dropTol quota alpha fillTol m n rows subs).1.m1 + 1 := by
  have h := (dropBlock_inv ops rule milu nrm dropTol quota alpha fillTol m n rows subs hn hnm hr hs).1
  exact ⟨by have := h.cnt; omega, h.tlen, h.n_le⟩

/-- **C15 (drop_row: the rows of the diagonal block are never dropped, never moved).** Position `p < n` is a kept
position, still holds original row `p` with its subscript, no dropped row is a row of the diagonal block, and outside
its diagonal entry the row is unchanged by the compensation. -/
theorem dropRow_diag_block_kept (hn : 1 ≤ n) (hnm : n < m) (hr : rows.size = m) (hs : subs.size = m) (p : Nat) (hp : p < n) :
    p ≤ (dropBlock ops rule milu nrm dropTol quota alpha fillTol m n rows subs).1.m1 ∧
    (dropBlock ops rule milu nrm dropTol quota alpha fillTol m n rows subs).1.orig[p]! = p ∧
    (dropBlock ops rule milu nrm dropTol quota alpha fillTol m n rows subs).1.subs[p]! = subs[p]! ∧
    (∀ e ∈ (dropBlock ops rule milu nrm dropTol quota alpha fillTol m n rows subs).1.trace, e.1 ≠ p) ∧
    (∀ j, j ≠ p → ((dropBlock ops rule milu nrm dropTol quota alpha fillTol m n rows subs).2.2.1[p]!)[j]! = (rows[p]!)[j]!) := by
  have h := (dropBlock_inv ops rule milu nrm dropTol quota alpha fillTol m n rows subs hn hnm hr hs).1
  have hle : p ≤ (dropBlock ops rule milu nrm dropTol quota alpha fillTol m n rows subs).1.m1 := by have := h.n_le; omega
  have hk := h.kept p hle
  rw [h.diag p hp] at hk
  refine ⟨hle, h.diag p hp, hk.2, fun e he heq => ?_, fun j hj => ?_⟩
  · have := (trace_not_kept h e he).1; omega
  · rw [dropBlock_get ops rule milu nrm dropTol quota alpha fillTol m n rows subs h.rsize hnm p]
    split
    · rw [fixedRow_get_ne ops milu alpha fillTol m _ hj, hk.1]
    · rw [hk.1]

/-- **C15 (drop_row: the kept rows are original rows, each at most once, with their values).** Every kept position
`p ≤ m1` holds the original row `orig p < m` (subscript and, below the diagonal block, all values bit for bit; rows of
the diagonal block: `dropRow_diag_block_kept`), distinct kept positions hold distinct original rows, and none of them
is a dropped row. -/
theorem dropRow_kept_subset (hn : 1 ≤ n) (hnm : n < m) (hr : rows.size = m) (hs : subs.size = m) (p : Nat)
    (hp : p ≤ (dropBlock ops rule milu nrm dropTol quota alpha fillTol m n rows subs).1.m1) :
    (dropBlock ops rule milu nrm dropTol quota alpha fillTol m n rows subs).1.orig[p]! < m ∧
    (dropBlock ops rule milu nrm dropTol quota alpha fillTol m n rows subs).1.subs[p]!
      = subs[(dropBlock ops rule milu nrm dropTol quota alpha fillTol m n rows subs).1.orig[p]!]! ∧
    (n ≤ p → (dropBlock ops rule milu nrm dropTol quota alpha fillTol m n rows subs).2.2.1[p]!
      = rows[(dropBlock ops rule milu nrm dropTol quota alpha fillTol m n rows subs).1.orig[p]!]!) ∧
    (∀ q, q ≤ (dropBlock ops rule milu nrm dropTol quota alpha fillTol m n rows subs).1.m1 →
      (dropBlock ops rule milu nrm dropTol quota alpha fillTol m n rows subs).1.orig[q]!
        = (dropBlock ops rule milu nrm dropTol quota alpha fillTol m n rows subs).1.orig[p]! → q = p) ∧
    (∀ e ∈ (dropBlock ops rule milu nrm dropTol quota alpha fillTol m n rows subs).1.trace,
      e.1 ≠ (dropBlock ops rule milu nrm dropTol quota alpha fillTol m n rows subs).1.orig[p]!) := by
  have h := (dropBlock_inv ops rule milu nrm dropTol quota alpha fillTol m n rows subs hn hnm hr hs).1
  have hk := h.kept p hp
  refine ⟨h.orig_lt hp, hk.2, fun hnp => ?_, fun q hq heq => h.inj hq hp heq, fun e he heq => ?_⟩
  · rw [dropBlock_get ops rule milu nrm dropTol quota alpha fillTol m n rows subs h.rsize hnm p, if_neg (by omega)]
    exact hk.1
  · exact (trace_not_kept h e he).2 p hp heq.symm

/-- **C15 (drop_row: the thresholds).** There is a secondary threshold `tol` such that every dropped row was either
dropped by the first loop — then the norm recorded IS the norm of that row and it is `< drop_tol` (strictly) — or by
the second loop with the norm CONSULTED `<= tol`.  (The consulted norm `temp[i]` of a row that was moved by the second
loop is the norm of another row: `dropRow_secondary_uses_neighbour_norm` below.) -/
theorem dropRow_threshold (hn : 1 ≤ n) (hnm : n < m) (hr : rows.size = m) (hs : subs.size = m) :
    ∃ tol, ∀ e ∈ (dropBlock ops rule milu nrm dropTol quota alpha fillTol m n rows subs).1.trace,
      (e.2 = ops.rowNorm nrm rows[e.1]! ∧ ops.ltTol e.2 dropTol = true) ∨ ops.leTol e.2 tol = true :=
  (dropBlock_inv ops rule milu nrm dropTol quota alpha fillTol m n rows subs hn hnm hr hs).2.1

/-- **C15 (drop_row: first loop only).** Without a secondary rule bit nothing is dropped unless `DROP_BASIC` is set, and
every dropped row has its own norm strictly below `drop_tol`. -/
theorem dropRow_threshold_basic (hn : 1 ≤ n) (hnm : n < m) (hr : rows.size = m) (hs : subs.size = m) (hsec : rule.secondary = false) :
    (∀ e ∈ (dropBlock ops rule milu nrm dropTol quota alpha fillTol m n rows subs).1.trace,
      e.2 = ops.rowNorm nrm rows[e.1]! ∧ ops.ltTol e.2 dropTol = true) ∧
    (rule.basic = false → (dropBlock ops rule milu nrm dropTol quota alpha fillTol m n rows subs).1.r = 0) :=
  (dropBlock_inv ops rule milu nrm dropTol quota alpha fillTol m n rows subs hn hnm hr hs).2.2 hsec

/-- **C15 (drop_row: the MILU compensation).** Once a row has been dropped, row `m-1` of the block holds the
accumulated compensation `accOf` of the dropped rows in the order they were dropped (first one copied — through `fabs`
under SMILU_3 —, later ones added: signed under SMILU_1/2, moduli under SMILU_3; this is the exact order of the
floating-point additions), and the diagonal entry of column `j` becomes `diagComp milu alpha fill_tol (old diagonal)
(accumulator entry j)` unless that accumulator entry is zero or MILU is off. -/
theorem dropRow_milu_sum (hn : 1 ≤ n) (hnm : n < m) (hr : rows.size = m) (hs : subs.size = m)
    (hpos : 0 < (dropBlock ops rule milu nrm dropTol quota alpha fillTol m n rows subs).1.r) :
    (dropBlock ops rule milu nrm dropTol quota alpha fillTol m n rows subs).1.rows[m - 1]! =
      accOf ops milu ((dropBlock ops rule milu nrm dropTol quota alpha fillTol m n rows subs).1.trace.reverse.map fun e => rows[e.1]!) ∧
    ∀ j, j < n → j < (rows[j]!).size →
      ((dropBlock ops rule milu nrm dropTol quota alpha fillTol m n rows subs).2.2.1[j]!)[j]! =
        if milu = .silu ∨ ops.isZero (((dropBlock ops rule milu nrm dropTol quota alpha fillTol m n rows subs).1.rows[m - 1]!)[j]!) = true
        then (rows[j]!)[j]!
        else (ops.diagComp milu alpha fillTol ((rows[j]!)[j]!)
              (((dropBlock ops rule milu nrm dropTol quota alpha fillTol m n rows subs).1.rows[m - 1]!)[j]!)).1 := by
  have h := (dropBlock_inv ops rule milu nrm dropTol quota alpha fillTol m n rows subs hn hnm hr hs).1
  refine ⟨h.acc hpos, fun j hj hjs => ?_⟩
  have hle : j ≤ (dropBlock ops rule milu nrm dropTol quota alpha fillTol m n rows subs).1.m1 := by have := h.n_le; omega
  have hk := (h.kept j hle).1
  rw [h.diag j hj] at hk
  rw [dropBlock_get ops rule milu nrm dropTol quota alpha fillTol m n rows subs h.rsize hnm j]
  by_cases hm : milu = .silu
  · rw [if_neg fun c => c.2.1 hm, if_pos (Or.inl hm), hk]
  · rw [if_pos ⟨by omega, hm, hj⟩]
    simp only [hm, false_or]
    unfold fixedRow
    split
    · rw [hk]
    · rw [hk, getElem!_setIfInBounds_self _ _ hjs]

end block

/-- the compensation of one column from the entries of the dropped rows in that column: the signed sum under SMILU_1
and SMILU_2, the sum of the moduli under SMILU_3 (`other` under SILU, where the row is not used) -/
def colComp (milu : Milu) (vals : List Rat) (other : Rat) : Rat :=
  match milu with
  | .smilu1 | .smilu2 => vals.sum
  | .smilu3 => (vals.map rabs).sum
  | .silu => other

/-- **C15 (drop_row: the MILU compensation in exact arithmetic).** Over `Rat`, with every row of the block of length
`n`: once a row has been dropped, entry `j` of the accumulator row `m-1` is the SIGNED sum of the entries `j` of the
dropped rows under SMILU_1 and SMILU_2, and the sum of their MODULI under SMILU_3 (dropped rows listed by the ghost
trace: original positions, all `< m`, none in the diagonal block, none kept). -/
theorem dropRow_milu_sum_rat (nrm2 : Array Rat → Rat) (rule : Rule) (milu : Milu) (nrm : Nrm) (dropTol : Rat) (quota : Int)
    (alpha fillTol : Rat) (m n : Nat) (rows : Array (Array Rat)) (subs : Array Int)
    (hn : 1 ≤ n) (hnm : n < m) (hr : rows.size = m) (hs : subs.size = m) (hrows : ∀ i, i < m → (rows[i]!).size = n)
    (hpos : 0 < (dropBlock (opsRat nrm2) rule milu nrm dropTol quota alpha fillTol m n rows subs).1.r) (j : Nat) (hj : j < n) :
    ((dropBlock (opsRat nrm2) rule milu nrm dropTol quota alpha fillTol m n rows subs).1.rows[m - 1]!)[j]! =
      colComp milu
        ((dropBlock (opsRat nrm2) rule milu nrm dropTol quota alpha fillTol m n rows subs).1.trace.reverse.map fun e => (rows[e.1]!)[j]!)
        (((dropBlock (opsRat nrm2) rule milu nrm dropTol quota alpha fillTol m n rows subs).1.rows[m - 1]!)[j]!) := by
  have h := (dropBlock_inv (opsRat nrm2) rule milu nrm dropTol quota alpha fillTol m n rows subs hn hnm hr hs).1
  have hne : ((dropBlock (opsRat nrm2) rule milu nrm dropTol quota alpha fillTol m n rows subs).1.trace.reverse.map
      fun e => rows[e.1]!) ≠ [] := fun e => by
    have := congrArg List.length e
    rw [List.length_map, List.length_reverse, h.tlen] at this
    exact absurd this (Nat.ne_of_gt hpos)
  rw [h.acc hpos]
  refine (accOf_rat nrm2 milu n j hj _ hne fun y hy => ?_).trans (by rw [List.map_map]; rfl)
  obtain ⟨e, he, rfl⟩ := List.mem_map.mp hy
  exact hrows e.1 (trace_lt h e (List.mem_reverse.mp he))

/-- **C15 (drop_row: what the compensation does to the diagonal, real files).** Over `Rat`, for `alpha ≤ 1` (every
`ILU_MILU_Dim > 0`) and a nonzero accumulated value `t`: in all three MILU modes the diagonal entry is multiplied by
`1 + min(|t|, 2(1 - alpha))` — the SIGN of the dropped sum is lost (`t * omega ≥ 0` for either sign of `t`) — and the
replacement branch `t == -1` of SMILU_1 (`nzp`, hook H2 phase 2) is never taken. -/
theorem diagComp_rat (nrm2 : Array Rat → Rat) (milu : Milu) (hm : milu ≠ .silu) (alpha fillTol d t : Rat) (ha : alpha ≤ 1) (ht : t ≠ 0) :
    (opsRat nrm2).diagComp milu alpha fillTol d t = (d * (1 + min |t| (2 * (1 - alpha))), false) := by
  have hc : 0 ≤ 2 * (1 - alpha) := by linarith
  have hnn : 0 ≤ min |t| (2 * (1 - alpha)) := le_min (abs_nonneg t) hc
  have key := clamp_mul (2 * (1 - alpha)) t hc ht
  cases milu with
  | silu => exact absurd rfl hm
  | smilu1 =>
    show (if t * _ != -1 then (d * (1 + t * _), false) else (d * fillTol, true)) = _
    rw [key, if_pos (by rw [bne_iff_ne]; intro h; rw [h] at hnn; norm_num at hnn)]
  | smilu2 =>
    show (d * (1 + rabs (t * _)), false) = _
    rw [key, rabs_eq_abs, abs_of_nonneg hnn]
  | smilu3 =>
    show (d * (1 + t * _), false) = _
    rw [key]

/-- one column, six rows: the diagonal 4, then 1/4, 3, 1, 5, 2; subscripts 10..15 -/
def exRows : Array (Array Rat) := #[#[4], #[1/4], #[3], #[1], #[5], #[2]]
def exSubs : Array Int := #[10, 11, 12, 13, 14, 15]
def exRule : Rule := { nodrop := false, basic := true, secondary := true, interp := false }
/-- max-norm, `drop_tol = 1/2`, `quota = 3`, `alpha = 1/2`, `fill_tol = 1/100` -/
def exBlock (milu : Milu) := dropBlock (opsRat fun _ => 0) exRule milu .inf (1/2 : Rat) 3 (1/2 : Rat) (1/100 : Rat) 6 1 exRows exSubs

/-- the hypotheses of the `dropRow_*` theorems hold for it, and rows are dropped in BOTH loops: the first loop drops
original row 1 (norm 1/4 < 1/2), `qselect` then returns `tol = 2` (rank 2 of the norms 2, 3, 1, 5) and the second loop
drops two more rows — original rows 5 (norm 2) and 4 (norm 5 > tol: a moved row is judged by its neighbour's norm, the
defect shown in `dropRow_secondary_uses_neighbour_norm` below); 3 rows are returned as dropped, positions 0..2 are kept;
the accumulator row is 1/4 + 2 + 5 and
the diagonal becomes `4 * (1 + min(29/4, 2(1 - 1/2))) = 8` under SMILU_1. -/
example : (exBlock .smilu1).1.r = 3 ∧ (exBlock .smilu1).1.m1 = 2 ∧ (exBlock .smilu1).2.1.tol = some 2 ∧
    (exBlock .smilu1).2.1.usedSelect = true ∧
    (exBlock .smilu1).1.trace = [(4, 1), (5, 2), (1, 1/4)] ∧
    (exBlock .smilu1).1.rows[5]! = #[29/4] ∧ (exBlock .smilu1).2.2.1[0]! = #[8] ∧
    ((exBlock .smilu1).1.subs.extract 0 3) = #[10, 13, 12] := by
  decide +kernel

example := dropRow_count (opsRat fun _ => 0) exRule .smilu1 .inf (1/2 : Rat) 3 (1/2 : Rat) (1/100 : Rat) 6 1 exRows exSubs
  (by decide) (by decide) rfl rfl
example := dropRow_milu_sum (opsRat fun _ => 0) exRule .smilu1 .inf (1/2 : Rat) 3 (1/2 : Rat) (1/100 : Rat) 6 1 exRows exSubs
  (by decide) (by decide) rfl rfl (by decide +kernel)

example := dropRow_milu_sum_rat (fun _ => 0) exRule .smilu1 .inf (1/2 : Rat) 3 (1/2 : Rat) (1/100 : Rat) 6 1 exRows exSubs
  (by decide) (by decide) rfl rfl (by decide) (by decide +kernel) 0 (by decide)
example := diagComp_rat (fun _ => 0) .smilu1 (by decide) (1/2) (1/100) 4 (29/4) (by decide +kernel) (by decide +kernel)

/-- **C15 (a defect of `ilu_?drop_row`, reproduced on the C code by findings/D15_drop_row_neighbour_norm.c).**
The second loop stores, for the row it moves from position `m1` to position `i`, the norm `temp[m1-1]` (the index is
taken AFTER `m1--`, ilu_ddrop_row.c:257-259) instead of `temp[m1]`.  On the block above the secondary threshold is 2;
the routine drops original row 4, whose norm is 5 > 2, because the norm it consulted was 1 (the norm of original row 3),
and it keeps original row 3 (norm 1 ≤ 2) at position 1.  So "every row dropped by the second loop has norm <= tol"
is FALSE of the code; what is true is `dropRow_threshold` (the norm CONSULTED is <= tol). -/
theorem dropRow_secondary_uses_neighbour_norm :
    (exBlock .silu).2.1.tol = some 2 ∧
    ((4, 1) ∈ (exBlock .silu).1.trace) ∧ (opsRat fun _ => 0).rowNorm .inf exRows[4]! = 5 ∧
    (exBlock .silu).1.orig[1]! = 3 ∧ 1 ≤ (exBlock .silu).1.m1 ∧ (opsRat fun _ => 0).rowNorm .inf exRows[3]! = 1 := by
  decide +kernel

end Slu.IluDrop

/-! ## The modelled rule as an instance of the drop oracle of `iluFactor` -/
namespace Slu.Ilu
open Slu.IluDrop Slu.LU

/-- what the caller `[sd]gsitrf` decides, and the model of the factorization as a whole does not contain (supernode
partition, symbolic structure, quota formula, dynamic tolerance): after column `j`, drop rows of the supernode
`first..last` (`last ≤ j`) whose rows below the diagonal block are `below` (storage order), with these arguments -/
structure DropCall where
  first : Nat
  last : Nat
  below : List Nat
  rule : Rule
  nrm : Nrm
  dropTol : Rat
  quota : Int
  alpha : Rat
  fillTol : Rat

/-- the supernode `first..last` of the specification-level state, as the `m x n` block `ilu_?drop_row` works on: the
rows of the diagonal block are the pivot rows (strict lower part: L, diagonal and above: U, as SuperLU stores a
supernode), then the rows `below` with their L entries -/
def blockOf (st : IluSt Rat) (c : DropCall) : Array (Array Rat) × Array Int :=
  let n := c.last + 1 - c.first
  let diagRows := (List.range n).map fun k => st.piv.getD (c.first + k) 0
  let lrow (i : Nat) : Array Rat := (Array.range n).map fun t => (st.L.getD (c.first + t) #[]).get i
  let drow (k : Nat) : Array Rat := (Array.range n).map fun t =>
    if t < k then (st.L.getD (c.first + t) #[]).get (st.piv.getD (c.first + k) 0) else (st.U.getD (c.first + t) #[]).getD (c.first + k) 0
  (((List.range n).map drow ++ c.below.map lrow).toArray, (List.map Int.ofNat (diagRows ++ c.below)).toArray)

theorem blockOf_size (st : IluSt Rat) (c : DropCall) :
    (blockOf st c).1.size = (c.last + 1 - c.first) + c.below.length ∧ (blockOf st c).2.size = (blockOf st c).1.size := by
  simp only [blockOf, List.size_toArray, List.length_append, List.length_map, List.length_range, and_self]

/-- `ilu_?drop_row` (the model `dropBlock`, exact arithmetic) as a `DropOracle`: the L entries it zeroes are the entries
of the dropped rows in the columns of the supernode, the diagonal factors are its MILU compensation: `diagComp` is called
with diagonal `d := 1`, so that what it returns IS the factor (`1 + t*omega`; in the `t*omega == -1` branch of SMILU_1,
where the C code replaces the diagonal by `d * fill_tol`, the factor is `fill_tol`); U entries are not touched by this
routine -/
def dropRowOracle (nrm2 : Array Rat → Rat) (milu : Milu) (call : IluSt Rat → Nat → Option DropCall) : DropOracle Rat :=
  { dropU := fun _ _ _ _ _ => false
    dropL := fun st j t i =>
      match call st j with
      | none => false
      | some c =>
        let b := blockOf st c
        let o := dropBlock (opsRat nrm2) c.rule milu c.nrm c.dropTol c.quota c.alpha c.fillTol b.1.size (c.last + 1 - c.first) b.1 b.2
        decide (c.first ≤ t ∧ t ≤ c.last) && (o.1.trace.map fun e => b.2[e.1]!).contains (i : Int)
    diagMul := fun st j k =>
      match call st j with
      | none => 1
      | some c =>
        let b := blockOf st c
        let o := dropBlock (opsRat nrm2) c.rule milu c.nrm c.dropTol c.quota c.alpha c.fillTol b.1.size (c.last + 1 - c.first) b.1 b.2
        if c.first ≤ k ∧ k ≤ c.last ∧ o.1.r ≠ 0 ∧ milu ≠ .silu then
          let t := (o.1.rows[b.1.size - 1]!)[k - c.first]!
          if t = 0 then 1 else ((opsRat nrm2).diagComp milu c.alpha c.fillTol 1 t).1
        else 1 }

/-- **C15 (the whole-factorization identity for the MODELLED row-dropping rule).** `iluFactor_identity_with_error`
instantiated with `dropRowOracle`: whatever supernodes, structures, quotas and tolerances the caller passes
(`call`), with the rows chosen by the model of `ilu_?drop_row` (norms, both loops, qselect / interpolation, the
neighbour-norm behaviour included) and its diagonal compensation, `L̃·Ũ = Pr·A·Pc + E` entrywise. -/
theorem iluFactor_identity_dropRow (F : Flavour Rat Rat) (P : IluParams Rat Rat) (nrm2 : Array Rat → Rat)
    (call : IluSt Rat → Nat → Option DropCall) (hcol : ∀ j, (P.col j).size = P.m) (b : Bool)
    (h : (iluFactor F P (dropRowOracle nrm2 P.milu call) b).fail = 0) (j : Nat) (hj : j < P.n) (i : Nat) (hi : i < P.m) :
    ((List.range (j + 1)).map fun k =>
        ((iluFactor F P (dropRowOracle nrm2 P.milu call) b).U.getD j #[]).getD k 0 *
          ((iluFactor F P (dropRowOracle nrm2 P.milu call) b).L.getD k #[]).get i).sum =
      (P.col j).get i + ((iluFactor F P (dropRowOracle nrm2 P.milu call) b).E.getD j #[]).get i :=
  iluFactor_identity_with_error magLaws_rat F P (dropRowOracle nrm2 P.milu call) hcol b h j hj i hi

/-- the rows the oracle drops are rows BELOW the diagonal block of the supernode, and every one of them met the test of
the loop that dropped it (`dropRow_diag_block_kept`, `dropRow_threshold` applied to the block of the state) -/
theorem dropRowOracle_rows (nrm2 : Array Rat → Rat) (milu : Milu) (c : DropCall) (st : IluSt Rat)
    (hn : c.first ≤ c.last) (hb : c.below ≠ []) :
    let b := blockOf st c
    let o := dropBlock (opsRat nrm2) c.rule milu c.nrm c.dropTol c.quota c.alpha c.fillTol b.1.size (c.last + 1 - c.first) b.1 b.2
    (∀ e ∈ o.1.trace, c.last + 1 - c.first ≤ e.1) ∧
    ∃ tol, ∀ e ∈ o.1.trace, (e.2 = (opsRat nrm2).rowNorm c.nrm b.1[e.1]! ∧ e.2 < c.dropTol) ∨ e.2 ≤ tol := by
  intro b o
  obtain ⟨hsz, hsz2⟩ : b.1.size = (c.last + 1 - c.first) + c.below.length ∧ b.2.size = b.1.size :=
    blockOf_size st c
  have hlen : 0 < c.below.length := List.length_pos_of_ne_nil hb
  obtain ⟨hinv, ⟨tol, ht⟩, -⟩ := dropBlock_inv (opsRat nrm2) c.rule milu c.nrm c.dropTol c.quota c.alpha c.fillTol b.1.size
    (c.last + 1 - c.first) b.1 b.2 (by omega) (by omega) rfl hsz2
  refine ⟨fun e he => (trace_not_kept hinv e he).1, tol, fun e he => ?_⟩
  rcases ht e he with h | h
  · exact Or.inl ⟨h.1, of_decide_eq_true h.2⟩
  · exact Or.inr (of_decide_eq_true h)

end Slu.Ilu

namespace Slu.QSelect

/-- **C15 (qselect terminates).** For every `<` that is asymmetric — IEEE `<` on `double`/`float` with NaN (every
comparison with NaN false), and `Rat` — every array, every `1 ≤ n ≤ A.size` and every `k` (any integer: it is clamped),
the model of `[sd]qselect` (the routine as it is since the `fix:` commit fba5c82) returns: the explicit fuel `n + 1` of
the outer loop and `n` of the partition loop is never exhausted. -/
theorem qselect_terminates {R : Type} [Inhabited R] [LT R] [DecidableLT R] (hasym : ∀ a b : R, a < b → ¬ b < a)
    (A : Array R) (n : Nat) (k : Int) (hn : 1 ≤ n) (hA : n ≤ A.size) : (qselect n A k).isSome = true := by
  obtain ⟨v, A', e, _⟩ := qselect_some hasym A n k hn hA
  rw [e]; rfl

/-- **C15 (qselect permutes).** The array afterwards is a permutation of the array before (ties, NaN included), and
nothing at or beyond index `n` is touched. -/
theorem qselect_perm {R : Type} [Inhabited R] [LT R] [DecidableLT R] (hasym : ∀ a b : R, a < b → ¬ b < a)
    (A : Array R) (n : Nat) (k : Int) (hn : 1 ≤ n) (hA : n ≤ A.size) (v : R) (A' : Array R)
    (h : qselect n A k = some (v, A')) : A'.toList.Perm A.toList ∧ ∀ y, n ≤ y → A'[y]! = A[y]! := by
  obtain ⟨v', A'', e, e2, e3⟩ := qselect_some hasym A n k hn hA
  rw [e] at h
  obtain rfl : A'' = A' := by injection h with h; exact (Prod.mk.inj h).2
  exact ⟨Array.perm_iff_toList_perm.mp e2, e3⟩

theorem clampK_of_lt (n k : Nat) (hk : k < n) : clampK n (k : Int) = k := by unfold clampK; omega

/-- **C15 (qselect returns the element of rank k).** Over `Rat` (every finite `double`/`float` is one), for every array
of size `n ≥ 1`, ties allowed, and every `k < n`: the value returned is entry `k` of the array sorted in DESCENDING
order (`List.mergeSort` with `≥`), i.e. the k-th largest, zero-based; it is stored at position `k` of the permuted
array. -/
theorem qselect_spec (A : Array Rat) (n k : Nat) (hn : 1 ≤ n) (hA : n = A.size) (hk : k < n) (v : Rat) (A' : Array Rat)
    (h : qselect n A (k : Int) = some (v, A')) :
    (A.toList.mergeSort (fun a b => decide (b ≤ a)))[k]? = some v ∧ A'[k]! = v := by
  obtain ⟨v', A'', e, e2, e3, e4, e5⟩ := qselect_split rat_asym rat_negtrans A n k hn hA
  rw [e] at h
  obtain ⟨rfl, rfl⟩ : v' = v ∧ A'' = A' := by injection h with h; exact Prod.mk.inj h
  rw [clampK_of_lt n k hk] at e3 e4 e5
  rw [e3]
  exact ⟨rank_of_split A A'' e2 k (by rw [e2.size_eq]; omega) e4 e5, rfl⟩

example : qselect 6 (#[2, 7, 2, 9, 7, 1] : Array Rat) 2 = some (7, #[9, 7, 7, 2, 2, 1]) := by decide +kernel
example := qselect_spec #[2, 7, 2, 9, 7, 1] 6 2 (by decide) rfl (by decide) 7 #[9, 7, 7, 2, 2, 1] (by decide +kernel)

/-- the routine on `Int`, and the hypotheses of `qselect_terminates` there (`k = -3` is clamped to 0) -/
example : (qselect 7 (#[3, 1, 4, 1, 5, 9, 2] : Array Int) 2) = some (4, #[9, 5, 4, 3, 2, 1, 1]) := by decide +kernel
example := qselect_terminates (R := Int) (fun a b h => by omega) #[3, 1, 4, 1, 5, 9, 2] 7 (-3) (by decide) (by decide)

end Slu.QSelect

namespace Slu.IluDropU
open Slu Slu.Ilu Slu.IluDrop

section generic
variable {K R T : Type} [Inhabited K] [Inhabited R] [LT R] [DecidableLT R] (ops : UOps K R T) (inp : UIn K R T)

/-- **C15 (copy_to_ucol: nothing is invented, nothing is lost).** For every scalar instance and every call whose
`ucol/usub` can hold the listed rows ("capacity suffices": the memory growth of l.110-121 is not modelled): the
`(usub, ucol)` pairs stored for column `jcol`, the pairs removed by the second sweep and the pairs dropped by the first
loop are TOGETHER a permutation of the column's `(perm_r[row], dense[row])` pairs — the stored entries are a sub-multiset
of the column with values unchanged, and every entry of the column is accounted for exactly once. -/
theorem dropU_kept_subset (hU : (inp.xusub[inp.jcol]!).toNat + (rowsOf inp).length ≤ inp.ucol.size)
    (hS : (inp.xusub[inp.jcol]!).toNat + (rowsOf inp).length ≤ inp.usub.size) :
    (stored inp (copyToUcol ops inp) ++ (copyToUcol ops inp).s2.removed ++
      (copyToUcol ops inp).s1.dropped.map (fun e => (inp.permR[e.1]!, e.2))).Perm (colPairs ops inp) := by
  have h := copyToUcol_spec ops inp
  rw [stored_eq ops inp hU hS, List.append_assoc]
  exact (h.first.trans h.second).perm

/-- **C15 (copy_to_ucol: counts).** `*nnzUj` grows by the number of entries stored; stored + removed by the second
sweep + dropped by the first loop = number of listed rows; `xusub[jcol+1] = xusub[jcol] + stored`. -/
theorem dropU_count :
    (copyToUcol ops inp).nnzUj = inp.nnzUj + (stored inp (copyToUcol ops inp)).length ∧
    (stored inp (copyToUcol ops inp)).length + (copyToUcol ops inp).s2.removed.length + (copyToUcol ops inp).s1.dropped.length
      = (rowsOf inp).length ∧
    (inp.jcol + 1 < inp.xusub.size → 0 ≤ inp.xusub[inp.jcol]! →
      (copyToUcol ops inp).xusub[inp.jcol + 1]! = inp.xusub[inp.jcol]! + (stored inp (copyToUcol ops inp)).length) := by
  obtain ⟨c2, c1⟩ := (copyToUcol_spec ops inp).count
  have hl : (stored inp (copyToUcol ops inp)).length = (copyToUcol ops inp).s2.cnt := by simp [stored]; rfl
  refine ⟨by rw [hl]; rfl, by omega, fun h1 h2 => ?_⟩
  rw [hl]
  show (inp.xusub.setIfInBounds (inp.jcol + 1) _)[inp.jcol + 1]! = _
  rw [getElem!_setIfInBounds, if_pos ⟨rfl, h1⟩]
  show (((inp.xusub[inp.jcol]!).toNat + (copyToUcol ops inp).cnt : Nat) : Int) = _
  rw [Int.natCast_add, Int.toNat_of_nonneg h2]; rfl

/-- **C15 (copy_to_ucol: the thresholds).** With the effective arguments of l.91-93 (`NODROP`: `drop_tol = -1`,
`quota = Glu->n`): every entry dropped by the first loop FAILED `quota > 0 && |u| >= drop_tol`; every entry removed by the
second sweep has `|u| <= tol` for the threshold `tol` of the second rule (which then ran); every entry stored on exit PASSED
the first test and, if the second rule ran, has `|u| > tol` (fails `<=`).  Unlike `ilu_?drop_row` there is no index slip:
the entry moved into a hole is re-examined with its own modulus. -/
theorem dropU_threshold (hU : (inp.xusub[inp.jcol]!).toNat + (rowsOf inp).length ≤ inp.ucol.size)
    (hS : (inp.xusub[inp.jcol]!).toNat + (rowsOf inp).length ≤ inp.usub.size) :
    (∀ e ∈ (copyToUcol ops inp).s1.dropped,
      keepC ops (effTol ops inp.rule inp.dropTol) (effQuota inp.rule inp.quota inp.n) e.2 = false) ∧
    (∀ e ∈ (copyToUcol ops inp).s2.removed, ∃ tol, (copyToUcol ops inp).tol = some tol ∧ ops.base.leTol (ops.abs1 e.2) tol = true) ∧
    (∀ e ∈ stored inp (copyToUcol ops inp),
      keepC ops (effTol ops inp.rule inp.dropTol) (effQuota inp.rule inp.quota inp.n) e.2 = true ∧
      ∀ tol, (copyToUcol ops inp).tol = some tol → ops.base.leTol (ops.abs1 e.2) tol = false) := by
  have h := copyToUcol_spec ops inp
  refine ⟨fun e he => h.first.dropped_ok _ (List.mem_map_of_mem he), h.second.dropped_ok, fun e he => ?_⟩
  rw [stored_eq ops inp hU hS] at he
  exact (h.first.trans h.second).kept_ok e he

/-- **C15 (copy_to_ucol: the SPA is cleaned).** On exit `dense` is zero on every listed row and unchanged elsewhere. -/
theorem dropU_dense_zeroed (r : Nat) :
    (copyToUcol ops inp).dense[r]! = if r ∈ rowsOf inp ∧ r < inp.dense.size then ops.zeroK else inp.dense[r]! := by
  show (copyToUcol ops inp).s1.dense[r]! = _
  rw [(copyToUcol_spec ops inp).dense_eq]
  exact (zeroed_get ops.zeroK (rowsOf inp) inp.dense r).2

end generic

/-- **C15 (copy_to_ucol: `*sum` in exact arithmetic, real files).** Over `Rat`, with `vals` the values dropped by the
first loop and removed by the second sweep: `*sum` on exit is `0` under SILU, the signed sum under SMILU_1, its modulus
under SMILU_2 and the sum of the moduli under SMILU_3 — case by case the value of `rawSum realFlavour` of
`Slu.Model.IluFactor` (`ofR = id`, `Mag.abs1 = |·|`), written out.  (In the COMPLEX files the
second sweep adds a stale modulus under SMILU_3, ilu_zcopy_to_ucol.c:204; there the statement is false of the code and is
not claimed.) -/
theorem dropU_milu_sum_rat (nrm2 : Array Rat → Rat) (d0 : Rat) (inp : UIn Rat Rat Rat) :
    (copyToUcol (uopsRat nrm2 d0) inp).sum =
      match inp.milu with
      | .silu => 0
      | .smilu1 => ((copyToUcol (uopsRat nrm2 d0) inp).s1.dropped.map (·.2) ++ (copyToUcol (uopsRat nrm2 d0) inp).s2.removed.map (·.2)).sum
      | .smilu2 => |((copyToUcol (uopsRat nrm2 d0) inp).s1.dropped.map (·.2) ++ (copyToUcol (uopsRat nrm2 d0) inp).s2.removed.map (·.2)).sum|
      | .smilu3 => (((copyToUcol (uopsRat nrm2 d0) inp).s1.dropped.map (·.2) ++ (copyToUcol (uopsRat nrm2 d0) inp).s2.removed.map (·.2)).map
                      (fun x => |x|)).sum := by
  show finSum (uopsRat nrm2 d0) inp.milu (copyToUcol (uopsRat nrm2 d0) inp).s2.sum = _
  rw [(copyToUcol_spec (uopsRat nrm2 d0) inp).sum_eq]
  simp only [acc1_rat, acc2_rat]
  rw [foldl_add_sum (fun e : Int × Rat => miluTerm inp.milu e.2), foldl_add_sum (fun e : Nat × Rat => miluTerm inp.milu e.2),
    List.map_reverse, List.map_reverse, List.sum_reverse, List.sum_reverse]
  generalize (copyToUcol (uopsRat nrm2 d0) inp).s1.dropped = ds
  generalize (copyToUcol (uopsRat nrm2 d0) inp).s2.removed = rm
  rw [show (uopsRat nrm2 d0).zeroK = 0 from rfl]
  -- mode by mode: the summand `miluTerm` is 0, x, x, |x| and `finSum` is the identity, the identity, |·|, the identity
  -- (`fin2 = rabs`, `fin3 = id` at `uopsRat`); what is left is `0 + Σ ds + Σ rm` against `Σ (ds ++ rm)`
  cases inp.milu
  · simp [finSum, miluTerm]
  · simp [finSum, miluTerm]
  · simp [finSum, miluTerm, uopsRat]
  · simp [finSum, miluTerm, uopsRat, Function.comp_def]

/-- supernodes {0,1,2}, {3}; column 4; segments with representatives 2 (rows 2,0,1 from column 0) and 3 (row 3); visited in
the order 3, 2, 0, 1; values 5, 1, 1/4, 3; `drop_tol = 1/2`, `quota = 2`, SMILU_1, DROP_BASIC | DROP_COLUMN -/
def exU : UIn Rat Rat Rat :=
  { jcol := 4, nseg := 2, segrep := #[2, 3], repfnz := #[-1, -1, 0, 3, -1], permR := #[1, 2, 0, 3, 4],
    dense := #[1/4, 3, 1, 5, 9], rule := { nodrop := false, basic := true, secondary := true, interp := false },
    milu := .smilu1, dropTol := 1/2, quota := 2, nnzUj := 10, n := 5, xsup := #[0, 3, 4, 5], supno := #[0, 0, 0, 1, 2],
    lsub := #[2, 0, 1, 3], xlsub := #[0, 0, 0, 3, 4], ucol := #[7, 0, 0, 0, 0], usub := #[7, 0, 0, 0, 0],
    xusub := #[0, 0, 0, 1, 1, 0], work := #[0, 0, 0, 0, 0] }

/-- the first loop drops 1/4 (< 1/2), `qselect` returns `tol = 1` (rank 2 of 5, 1, 3), the second sweep removes the entry 1
and moves the last entry into its place; two entries are stored, `*sum = 1/4 + 1` -/
example : rowsOf exU = [3, 2, 0, 1] ∧
    stored exU (copyToUcol (uopsRat (fun _ => 0) 1000) exU) = [(3, 5), (2, 3)] ∧
    (copyToUcol (uopsRat (fun _ => 0) 1000) exU).tol = some 1 ∧
    (copyToUcol (uopsRat (fun _ => 0) 1000) exU).s1.dropped = [(0, 1/4)] ∧
    (copyToUcol (uopsRat (fun _ => 0) 1000) exU).s2.removed = [(0, 1)] ∧
    (copyToUcol (uopsRat (fun _ => 0) 1000) exU).sum = 5/4 ∧
    (copyToUcol (uopsRat (fun _ => 0) 1000) exU).nnzUj = 12 ∧
    (copyToUcol (uopsRat (fun _ => 0) 1000) exU).xusub = #[0, 0, 0, 1, 1, 3] ∧
    (copyToUcol (uopsRat (fun _ => 0) 1000) exU).dense = #[0, 0, 0, 0, 9] := by
  decide +kernel

example := dropU_kept_subset (uopsRat (fun _ => 0) 1000) exU (by decide +kernel) (by decide +kernel)
example := dropU_threshold (uopsRat (fun _ => 0) 1000) exU (by decide +kernel) (by decide +kernel)
example := (dropU_count (uopsRat (fun _ => 0) 1000) exU).2.2 (by decide +kernel) (by decide +kernel)
example := dropU_dense_zeroed (uopsRat (fun _ => 0) 1000) exU 2
example := dropU_milu_sum_rat (fun _ => 0) 1000 exU

end Slu.IluDropU

/-! ## Both modelled rules as the drop oracle of `iluFactor` -/
namespace Slu.Ilu
open Slu.IluDrop Slu.IluDropU Slu.LU

/-- what `[sd]gsitrf` decides for the U-dropping of column `j` and the specification-level model does not contain: the
order in which the U-segments list the multipliers (positions `t` of `us`, i.e. pivot indices), the rule bits, the
tolerance (after DROP_DYNAMIC updates), the quota (a floating-point formula of the caller) and `Glu->n` -/
structure UCall where
  order : List Nat
  rule : Rule
  dropTol : Rat
  quota : Int
  n : Nat

/-- the model of `ilu_?copy_to_ucol` (exact arithmetic) run on the multipliers `us` of a column: `dense` = `us` indexed by
position, `perm_r` = identity on positions -/
def ucore (d0 : Rat) (milu : Milu) (c : UCall) (us : List Rat) :=
  dropCore (uopsRat (fun _ => 0) d0) c.rule milu c.dropTol c.quota c.n ((Array.range us.length).map Int.ofNat) us.toArray
    (Array.replicate c.n 0) c.order

/-- position `t` is dropped: it is listed and is not among the `usub` entries stored on exit -/
def dropUFn (d0 : Rat) (milu : Milu) (callU : IluSt Rat → Nat → Vec Rat → List Rat → Option UCall) :
    IluSt Rat → Nat → Vec Rat → List Rat → Nat → Bool :=
  fun st j w us t =>
    match callU st j w us with
    | none => false
    | some c =>
      decide (t ∈ c.order) &&
        !(((ucore d0 milu c us).2.1.a.toList.take (ucore d0 milu c us).2.1.cnt).map (·.1)).contains (t : Int)

/-- BOTH rules as modelled: U entries by `Slu.IluDropU` (both rules of `ilu_?copy_to_ucol`), L rows and the diagonal
compensation by `Slu.IluDrop` (`dropRowOracle`) -/
def dropBothOracle (nrm2 : Array Rat → Rat) (d0 : Rat) (milu : Milu) (callL : IluSt Rat → Nat → Option DropCall)
    (callU : IluSt Rat → Nat → Vec Rat → List Rat → Option UCall) : DropOracle Rat :=
  { dropU := dropUFn d0 milu callU
    dropL := (dropRowOracle nrm2 milu callL).dropL
    diagMul := (dropRowOracle nrm2 milu callL).diagMul }

/-- **C15 (the whole-factorization identity with BOTH modelled dropping rules).** `iluFactor_identity_with_error`
instantiated with `dropBothOracle`: whatever segments, quotas, tolerances and supernodes the caller passes (`callU`,
`callL`), with the U entries chosen by the model of `ilu_?copy_to_ucol` (threshold test, `qselect` / interpolation, the
second sweep) AND the L rows chosen by the model of `ilu_?drop_row` with its diagonal compensation,
`L̃·Ũ = Pr·A·Pc + E` entrywise. -/
theorem iluFactor_identity_dropU (F : Flavour Rat Rat) (P : IluParams Rat Rat) (nrm2 : Array Rat → Rat) (d0 : Rat)
    (callL : IluSt Rat → Nat → Option DropCall) (callU : IluSt Rat → Nat → Vec Rat → List Rat → Option UCall)
    (hcol : ∀ j, (P.col j).size = P.m) (b : Bool)
    (h : (iluFactor F P (dropBothOracle nrm2 d0 P.milu callL callU) b).fail = 0) (j : Nat) (hj : j < P.n) (i : Nat) (hi : i < P.m) :
    ((List.range (j + 1)).map fun k =>
        ((iluFactor F P (dropBothOracle nrm2 d0 P.milu callL callU) b).U.getD j #[]).getD k 0 *
          ((iluFactor F P (dropBothOracle nrm2 d0 P.milu callL callU) b).L.getD k #[]).get i).sum =
      (P.col j).get i + ((iluFactor F P (dropBothOracle nrm2 d0 P.milu callL callU) b).E.getD j #[]).get i :=
  iluFactor_identity_with_error magLaws_rat F P (dropBothOracle nrm2 d0 P.milu callL callU) hcol b h j hj i hi

theorem idPerm_get (n t : Nat) (h : t < n) : ((Array.range n).map Int.ofNat)[t]! = (t : Int) := by
  rw [getElem!_pos _ t (by simpa using h)]; simp

/-- **C15 (what the U side of `dropBothOracle` drops).** For a call whose segment order lists distinct positions of `us`:
a listed position that the oracle DROPS either failed the first test `quota > 0 && |u| >= drop_tol` (effective arguments
of l.91-93) or the second rule ran with a threshold `tol` and `|u| <= tol`; a listed position it KEEPS passed the first
test (`dropU_threshold` / `dropU_kept_subset` applied to the multipliers of the column). -/
theorem dropUOracle_entries (d0 : Rat) (milu : Milu) (c : UCall) (us : List Rat)
    (hnd : c.order.Nodup) (hlt : ∀ t ∈ c.order, t < us.length) (t : Nat) (ht : t ∈ c.order) :
    ((((ucore d0 milu c us).2.1.a.toList.take (ucore d0 milu c us).2.1.cnt).map (·.1)).contains (t : Int) = false →
      keepC (uopsRat (fun _ => 0) d0) (effTol (uopsRat (fun _ => 0) d0) c.rule c.dropTol) (effQuota c.rule c.quota c.n)
        (us.toArray[t]!) = false ∨
      ∃ tol, (ucore d0 milu c us).2.2.1 = some tol ∧ |us.toArray[t]!| ≤ tol) ∧
    ((((ucore d0 milu c us).2.1.a.toList.take (ucore d0 milu c us).2.1.cnt).map (·.1)).contains (t : Int) = true →
      keepC (uopsRat (fun _ => 0) d0) (effTol (uopsRat (fun _ => 0) d0) c.rule c.dropTol) (effQuota c.rule c.quota c.n)
        (us.toArray[t]!) = true) := by
  have h := dropCore_spec (uopsRat (fun _ => 0) d0) c.rule milu c.dropTol c.quota c.n ((Array.range us.length).map Int.ofNat)
    us.toArray (Array.replicate c.n 0) c.order
  have hb := h.first.trans h.second
  unfold ucore
  -- the pairs of the column: position `t'` of the order carries `(t', us[t'])`
  have hin : ∀ e, e ∈ (visits (0 : Rat) us.toArray c.order).map (fun e => (((Array.range us.length).map Int.ofNat)[e.1]!, e.2)) ↔
      ∃ t' ∈ c.order, e = ((t' : Int), us.toArray[t']!) := fun e => by
    rw [visits_nodup _ _ _ hnd, List.map_map]
    exact ⟨fun he => by obtain ⟨t', h1, rfl⟩ := List.mem_map.mp he; exact ⟨t', h1, Prod.ext (idPerm_get _ _ (hlt t' h1)) rfl⟩,
      fun ⟨t', h1, he⟩ => List.mem_map.mpr ⟨t', h1, he ▸ Prod.ext (idPerm_get _ _ (hlt t' h1)) rfl⟩⟩
  constructor
  · intro hnot
    rcases hb.cases ((hin _).mpr ⟨t, ht, rfl⟩) with ⟨hk, -⟩ | ⟨-, hf | ⟨tol, e1, e2⟩⟩
    · have := List.mem_map_of_mem (f := (·.1)) hk
      rw [← List.contains_iff_mem, hnot] at this
      exact absurd this Bool.false_ne_true
    · exact Or.inl hf
    · exact Or.inr ⟨tol, e1, rabs_eq_abs _ ▸ of_decide_eq_true e2⟩
  · intro hyes
    obtain ⟨e, he, het⟩ := List.mem_map.mp (List.contains_iff_mem.mp hyes)
    obtain ⟨t', -, rfl⟩ := (hin e).mp (hb.kept_mem he)
    obtain rfl : t' = t := Int.ofNat_inj.mp het
    exact (hb.kept_ok _ he).1

example := dropUOracle_entries 1000 .smilu1 { order := [1, 0, 2], rule := exRule, dropTol := 1/2, quota := 1, n := 3 } [3, 1/4, 1]
  (by decide) (by decide) 0 (by decide)

end Slu.Ilu
