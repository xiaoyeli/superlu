import Slu.Model.Readers
import SluProofs.Lemmas.ReadersSort
import SluProofs.Lemmas.ReadersCols
import SluProofs.Lemmas.ReadersText
import SluProofs.Lemmas.ReadersTriple
import SluProofs.Lemmas.ReadValues
/-
C16 — Matrix file readers return exactly the matrix in the file.

Theorems about the index/format logic of `Slu.Readers` (the model that the correspondence check runs
on the very bytes given to `[sdcz]readhb / readrb / readMM / readtriple`).  `Trip α` is a coordinate entry
`(row, col, val)` with an arbitrary value type (real, complex, single, double alike).

The last section (`namespace Values`) is about the VALUE block of Harwell-Boeing / Rutherford-Boeing
files: `Values.readValues` / `Values.readValuesCx` mirror `[sd]ReadValues` / `[cz]ReadValues` loop by
loop (line loop, field loop, field cut, D -> E, pair toggle carried across lines) with the libc
conversion `atof` as a parameter `conv`.  ASSUMED, not proved: what `atof` returns; the only property of it
used is that leading blanks are skipped (hypothesis `hconv`).
-/
namespace Slu.Readers

variable {α : Type}

/-! ### Coordinate entries -> compressed columns (dreadMM.c:183-207, dreadtriple.c:98-122) -/

/-- **C16 (counting sort).** Monotone column pointers from `colptr[0] = 0` to `colptr[n] = nz`, and the storage
segment of column `j` holds exactly the triplets with that column, in file order (duplicates kept, rows in any
order). -/
theorem triplets_to_csc [Inhabited α] (n : Nat) (ts : List (Trip α)) (h : ∀ t ∈ ts, t.col < n) :
    (cscOfTriplets n ts).1.size = n + 1 ∧
    (cscOfTriplets n ts).2.size = ts.length ∧
    (cscOfTriplets n ts).1.getD 0 1 = 0 ∧
    (cscOfTriplets n ts).1.getD n 0 = ts.length ∧
    (∀ j, j < n → (cscOfTriplets n ts).1.getD j 0 ≤ (cscOfTriplets n ts).1.getD (j + 1) 0) ∧
    (∀ j, j < n → colSeg (cscOfTriplets n ts).1 (cscOfTriplets n ts).2 j = ts.filter (fun t => decide (t.col = j))) := by
  have hp := cscOfTriplets_getD n ts h
  refine ⟨(cscOfTriplets_size n ts h).1, (cscOfTriplets_size n ts h).2, ?_, ?_, fun j hj => ?_,
    cscOfTriplets_colSeg n ts h⟩
  · rw [hp 0 (Nat.zero_le n), cntLt_zero]
  · rw [hp n (Nat.le_refl n), cntLt_all ts n h]
  · rw [hp j (Nat.le_of_lt hj), hp (j + 1) hj]
    exact cntLt_mono ts (Nat.le_succ j)

theorem triplets_to_csc_pointer [Inhabited α] (n : Nat) (ts : List (Trip α)) (h : ∀ t ∈ ts, t.col < n)
    (j : Nat) (hj : j ≤ n) :
    (cscOfTriplets n ts).1.getD j 0 = ts.countP (fun t => decide (t.col < j)) :=
  cscOfTriplets_getD n ts h j hj 0

example : ∀ t ∈ [(⟨2, 1, 'a'⟩ : Trip Char), ⟨0, 0, 'b'⟩, ⟨1, 2, 'c'⟩, ⟨0, 1, 'd'⟩], t.col < 3 := by decide +kernel
example : (cscOfTriplets 3 [(⟨2, 1, 'a'⟩ : Trip Char), ⟨0, 0, 'b'⟩, ⟨1, 2, 'c'⟩, ⟨0, 1, 'd'⟩]).1 = #[0, 1, 3, 4] := by decide +kernel

/-! ### Symmetric expansion of Matrix Market files (dreadMM.c:163-171) -/

/-- **C16 (readMM expansion).** The expanded list is `T + strict(T)ᵀ` and has `2*nnz - ndiag` entries, whether or
not diagonal entries are present (`ndiag` = number of stored diagonal entries). -/
theorem mmExpand_spec (ts : List (Trip α)) :
    (∀ t, t ∈ mmExpand ts ↔ t ∈ ts ∨ (t.row ≠ t.col ∧ t.swap ∈ ts)) ∧
    (mmExpand ts).length + ts.countP (fun t => decide (t.row = t.col)) = 2 * ts.length :=
  ⟨mem_mmExpand ts, mmExpand_length ts⟩

/-- the expansion keeps indices in range, so `triplets_to_csc` applies to it -/
theorem mmExpand_in_range (n : Nat) (ts : List (Trip α)) (h : ∀ t ∈ ts, t.row < n ∧ t.col < n) :
    ∀ t ∈ mmExpand ts, t.row < n ∧ t.col < n := by
  intro t ht
  rcases (mem_mmExpand ts t).mp ht with h1 | ⟨_, h2⟩
  · exact h t h1
  · have := h _ h2
    simp only [Trip.swap] at this
    exact ⟨this.2, this.1⟩

/-- **C16 (readMM, symmetric file).** Column `j` of the returned matrix is exactly the sub-list of the
expanded entries with that column. -/
theorem readMM_symmetric_columns [Inhabited α] (n : Nat) (ts : List (Trip α)) (h : ∀ t ∈ ts, t.row < n ∧ t.col < n)
    (j : Nat) (hj : j < n) :
    colSeg (cscOfTriplets n (mmExpand ts)).1 (cscOfTriplets n (mmExpand ts)).2 j =
      (mmExpand ts).filter (fun t => decide (t.col = j)) ∧
    (cscOfTriplets n (mmExpand ts)).1.getD n 0 + ts.countP (fun t => decide (t.row = t.col)) = 2 * ts.length := by
  have hr := fun t ht => (mmExpand_in_range n ts h t ht).2
  exact ⟨cscOfTriplets_colSeg n _ hr j hj,
    by rw [cscOfTriplets_getD n _ hr n (Nat.le_refl n), cntLt_all _ n hr]; exact mmExpand_length ts⟩

-- a 3x3 symmetric file WITHOUT diagonal entries: (2,1), (3,1), (3,2)  -> 6 = 2*3 - 0 entries
example : ∀ t ∈ [(⟨1, 0, 'a'⟩ : Trip Char), ⟨2, 0, 'b'⟩, ⟨2, 1, 'c'⟩], t.row < 3 ∧ t.col < 3 := by decide +kernel
example : (mmExpand [(⟨1, 0, 'a'⟩ : Trip Char), ⟨2, 0, 'b'⟩, ⟨2, 1, 'c'⟩]).length = 6 := by decide +kernel

/-! ### `FormFullA` of the Harwell-Boeing / Rutherford-Boeing readers (dreadhb.c:192-288) -/

/-- **C16 (FormFullA).** For a stored triangle `es` (entries in storage order) column `j` of the result consists of
the mirror images of the off-diagonal entries of row `j` (in storage order: this is column `j` of the transpose
built by counting sort) followed by the stored column `j`; the whole is `A = T + strict(T)ᵀ`, with
`2*nnz - ndiag` entries. -/
theorem formFull_spec [Inhabited α] (n : Nat) (es : List (Trip α))
    (hrow : ∀ e ∈ es, e.row < n) (hcol : ∀ e ∈ es, e.col < n) :
    (formFull n es).length = n ∧
    (formFull n es = (List.range n).map fun j =>
      (es.filter (fun e => decide (e.row = j) && decide (e.row ≠ e.col))).map Trip.swap ++
        es.filter (fun e => decide (e.col = j))) ∧
    (∀ t, t ∈ (formFull n es).flatten ↔ t ∈ es ∨ (t.row ≠ t.col ∧ t.swap ∈ es)) ∧
    (formFull n es).flatten.length + es.countP (fun e => decide (e.row = e.col)) = 2 * es.length :=
  ⟨formFull_length n es, formFull_cols n es hrow,
    fun t => (formFull_perm n es hrow hcol).mem_iff.trans (mem_symFull es t), formFull_count n es hrow hcol⟩

/-- **C16 (FormFullA, returned arrays).** The arrays handed back (`a_colptr`, `a_rowind/a_val` as the
entry array) have `colptr[n] = 2*nnz - ndiag` (the count of the full matrix, not `2*nnz - n`), and the storage
segment of column `j` is the column list of `formFull_spec`. -/
theorem formFull_arrays [Inhabited α] (n : Nat) (es : List (Trip α))
    (hrow : ∀ e ∈ es, e.row < n) (hcol : ∀ e ∈ es, e.col < n) :
    (cscOfCols (formFull n es)).1.size = n + 1 ∧
    (cscOfCols (formFull n es)).1.getD 0 1 = 0 ∧
    (cscOfCols (formFull n es)).1.getD n 0 + es.countP (fun e => decide (e.row = e.col)) = 2 * es.length ∧
    (cscOfCols (formFull n es)).2.size + es.countP (fun e => decide (e.row = e.col)) = 2 * es.length ∧
    (∀ j, j < n → colSeg (cscOfCols (formFull n es)).1 (cscOfCols (formFull n es)).2 j =
      (es.filter (fun e => decide (e.row = j) && decide (e.row ≠ e.col))).map Trip.swap ++
        es.filter (fun e => decide (e.col = j))) := by
  obtain ⟨h1, h2, _⟩ := cscOfCols_inv (formFull n es)
  have hlen := formFull_length n es
  have hcount := formFull_count n es hrow hcol
  refine ⟨by rw [h1, hlen], ?_, ?_, ?_, fun j hj => ?_⟩
  · rw [cscOfCols_getD _ 0 (Nat.zero_le _)]; rfl
  · rw [cscOfCols_getD _ n (Nat.le_of_eq hlen.symm), List.take_of_length_le (Nat.le_of_eq hlen)]; exact hcount
  · rw [← Array.length_toList, h2]; exact hcount
  · rw [cscOfCols_colSeg _ j (hlen.symm ▸ hj), List.getElem_of_eq (formFull_cols n es hrow), List.getElem_map,
      List.getElem_range]

example : ∀ e ∈ [(⟨1, 0, 'a'⟩ : Trip Char), ⟨2, 0, 'b'⟩, ⟨2, 1, 'c'⟩], e.row < 3 := by decide +kernel
example : (formFull 3 [(⟨1, 0, 'a'⟩ : Trip Char), ⟨2, 0, 'b'⟩, ⟨2, 1, 'c'⟩]).flatten.length = 6 := by decide +kernel

/-! ### Fortran edit descriptors (dreadhb.c:101-139) -/

/-- **C16 (`(kIw)`).** Anything may stand before the parenthesis (no `(` in it) and after the descriptor. -/
theorem parse_int_format (k w : Nat) (pre post : List Char) (hpre : ∀ c ∈ pre, c ≠ '(') :
    parseIntFormat (pre ++ renderIntFmt k w ++ post) = some (k, w) := by
  have := parseIntFormat_letter k w 'I' (by decide) (by decide) pre post hpre
  simpa [renderIntFmt] using this

/-- **C16 (`(kEw.d)`, `(kDw.d)`, `(kFw.d)`, `(sPkEw.d)`, `(sP,kEw.d)`).** Every exponent letter in either case,
an optional scale factor `sP` (any sign) with or without the comma. -/
theorem parse_float_format (scale : Option (Int × Bool)) (k w d : Nat) (letter : Char) (hl : isEDF letter = true)
    (pre post : List Char) (hpre : ∀ c ∈ pre, c ≠ '(') :
    parseFloatFormat (pre ++ renderFloatFmt scale k letter w d ++ post) =
      some { count := k, width := w, scale := (match scale with | some (s, _) => s | none => 0), letter := letter } := by
  -- width: `atoi` on the text behind the letter stops at the period
  have hw : atoi (natDigits w ++ '.' :: (natDigits d ++ ')' :: post)) = (w : Int) :=
    atoi_natDigits (stops_cons (by decide)) w
  rw [List.append_assoc, renderFloatFmt_eq, parseFloatFormat, afterParen_append pre _ hpre]
  simp only [Option.bind_eq_bind, Option.bind_some]
  rw [floatScan_descr scale k letter hl]
  simp only [Option.bind_some, hw]
  rfl

example : renderFloatFmt (some (1, true)) 4 'E' 20 12 = "(1P,4E20.12)".toList := by decide +kernel
example : renderIntFmt 16 5 = "(16I5)".toList := by decide +kernel
example : isEDF 'd' = true ∧ ∀ c ∈ "title ".toList, c ≠ '(' := by decide +kernel
example : parseFloatFormat "(1P,4E20.12)        ".toList =
    some { count := 4, width := 20, scale := 1, letter := 'E' } := by decide +kernel

/-! ### Fixed-width integer blocks (dreadhb.c:141-160) -/

/-- **C16 (round trip of pointer / index blocks).** A list of naturals printed with `(kIw)` — `k` right-justified
fields of width `w` per line, the last line possibly shorter, no separator required — is read back by `ReadVector`
converted to 0-based, provided each number fits its field and a line fits the reader's 100-character buffer. -/
theorem read_print_ints (k w : Nat) (xs : List Nat) (hk : 0 < k) (hw : 0 < w) (hkw : k * w + 1 < 100)
    (hfit : ∀ x ∈ xs, (natDigits x).length ≤ w) :
    readVector k w xs.length (printInts k w xs) = some (xs.map (fun x : Nat => (x : Int) - 1), []) :=
  readVector_printInts hk hkw hfit

-- the layout `(16I5)` of EXAMPLE/g20.rua meets the hypotheses (16*5+1 < 100); a smaller instance:
example : readVector 3 4 5 (printInts 3 4 [1, 22, 333, 4444, 5]) = some ([0, 21, 332, 4443, 4], []) :=
  readVector_printInts_of_lt 3 4 [1, 22, 333, 4444, 5] (by decide) (by decide) (by decide) (by decide)

/-! ### A whole file: SuperLU's triplet format (dreadtriple.c:27-128) -/

/-- **C16 (round trip of a triplet file).** For in-range entries with natural-number values — any order,
duplicates allowed — the text `n nnz` followed by one line `row+1 col+1 value` per entry is read back (header,
1-based conversion, zero-base heuristic, bound check, counting sort) as the compressed-column form of exactly
those entries, which `triplets_to_csc` describes. -/
theorem read_print_triple (n : Nat) (ts : List (Trip Nat)) (h : ∀ t ∈ ts, t.row < n ∧ t.col < n) :
    readTriple false (printTriple n ts) =
      .ok (resultOfCsc n n (cscOfTriplets n (ts.map tripRat)).1 (cscOfTriplets n (ts.map tripRat)).2) := by
  have e : printTriple n ts =
      natDigits n ++ ' ' :: (natDigits ts.length ++ '\n' :: (ts.flatMap printTripLine ++ [])) := by
    simp [printTriple]
  have hlines := readTriplets_lines n ts h true '\n' (by decide) [] []
  rw [e]
  unfold readTriple
  rw [scanInt_natDigits (stops_cons (by decide)) n]
  simp only [scanInt_ws_natDigits ' ' '\n' _ _ (by decide) (by decide)]
  have hneg : (decide ((n : Int) < 0) || decide ((ts.length : Int) < 0)) = false := by
    simp only [Bool.or_eq_false_iff, decide_eq_false_iff_not]
    exact ⟨Int.not_lt.mpr (Int.natCast_nonneg _), Int.not_lt.mpr (Int.natCast_nonneg _)⟩
  simp only [hneg, Bool.false_eq_true, if_false, Int.toNat_natCast, hlines]
  rfl

example : readTriple false (printTriple 3 [⟨2, 1, 7⟩, ⟨0, 0, 12⟩, ⟨1, 2, 0⟩]) =
    .ok (resultOfCsc 3 3
      (cscOfTriplets 3 ([⟨2, 1, 7⟩, ⟨0, 0, 12⟩, ⟨1, 2, 0⟩].map tripRat)).1
      (cscOfTriplets 3 ([⟨2, 1, 7⟩, ⟨0, 0, 12⟩, ⟨1, 2, 0⟩].map tripRat)).2) :=
  read_print_triple 3 _ (by decide)

example : ∀ t ∈ [(⟨2, 1, 7⟩ : Trip Nat), ⟨0, 0, 12⟩, ⟨1, 2, 0⟩, ⟨2, 1, 5⟩], t.row < 3 ∧ t.col < 3 := by decide +kernel

/-! ### The value block: fields, `D` exponents, complex pairs across lines
(`[sd]ReadValues` dreadhb.c:162-183, `[cz]ReadValues` zreadhb.c:162-193; same text in `*readrb.c`)

A field text is a `List Char`, a text line what `fgets` delivers. -/
namespace Values

/-- the text handed to `atof` for a field is exactly the padded field with `D`/`d` replaced: no hypothesis on `conv` -/
theorem read_print_values_raw (perline persize : Nat) (conv : List Char → α) (n : Nat) (fields : List (List Char))
    (hp : 0 < perline) (hfit : ∀ f ∈ fields, f.length ≤ persize) (hn : n ≤ fields.length) :
    readValues perline persize conv n (printFields perline persize fields) =
      (fields.map fun f => conv (dToE (pad persize f))).take n := by
  obtain ⟨junk, hj⟩ := flatMap_printFields hfit hp
  rw [readValues_eq_gfold, hj, List.take_append_of_le_length (by rw [List.length_map]; exact hn),
    ← List.map_take, ← List.map_take, List.map_map]
  rfl

/-- **C16 (value block, real).** For EVERY number `perline ≥ 1` of fields per line and every announced count `n` not
exceeding the number of fields present: the fields printed right-justified, `perline` to a line (the last line
possibly shorter), are read back by `dReadValues` as the first `n` fields, each converted after its Fortran
exponent letter `D`/`d` was replaced by `E` — no hypothesis on `conv` other than what `atof` does with the
padding: leading blanks are skipped. -/
theorem read_print_values (perline persize : Nat) (conv : List Char → α) (n : Nat) (fields : List (List Char))
    (hp : 0 < perline) (hfit : ∀ f ∈ fields, f.length ≤ persize) (hn : n ≤ fields.length)
    (hconv : ∀ (k : Nat) (s : List Char), conv (List.replicate k ' ' ++ s) = conv s) :
    readValues perline persize conv n (printFields perline persize fields) =
      (fields.map fun f => conv (dToE f)).take n :=
  (read_print_values_raw perline persize conv n fields hp hfit hn).trans
    (congrArg (List.take n) (List.map_congr_left fun f _ => by rw [dToE_pad, hconv]))

/-- fields written with `E` (or without exponent letter) reach `atof` unchanged -/
theorem read_print_values_no_D (perline persize : Nat) (conv : List Char → α) (n : Nat) (fields : List (List Char))
    (hp : 0 < perline) (hfit : ∀ f ∈ fields, f.length ≤ persize) (hn : n ≤ fields.length)
    (hconv : ∀ (k : Nat) (s : List Char), conv (List.replicate k ' ' ++ s) = conv s)
    (hD : ∀ f ∈ fields, ∀ c ∈ f, c ≠ 'D' ∧ c ≠ 'd') :
    readValues perline persize conv n (printFields perline persize fields) = (fields.map conv).take n :=
  (read_print_values perline persize conv n fields hp hfit hn hconv).trans
    (congrArg (List.take n) (List.map_congr_left fun f hf => by rw [dToE_id f (hD f hf)]))

/-- **C16 (value block, complex).** For EVERY `perline ≥ 1`, odd or even, the complex reader returns
the first `n` pairs (real, imaginary) of consecutive fields: fields `2i` and `2i+1` form value `i`
(`pairUp_getElem`) wherever the line breaks fall, in particular when the two halves sit on different lines. -/
theorem read_print_values_cx (perline persize : Nat) (conv : List Char → α) (n : Nat) (fields : List (List Char))
    (hp : 0 < perline) (hfit : ∀ f ∈ fields, f.length ≤ persize) (hn : 2 * n ≤ fields.length)
    (hconv : ∀ (k : Nat) (s : List Char), conv (List.replicate k ' ' ++ s) = conv s) :
    readValuesCx perline persize conv n (printFields perline persize fields) =
      (pairUp (fields.map fun f => conv (dToE f))).take n := by
  obtain ⟨junk, hj⟩ := flatMap_printFields hfit hp
  rw [readValuesCx_eq_gfold, hj, List.map_append,
    pairUp_take_append _ _ _ (by rw [List.length_map, List.length_map]; exact hn), List.map_map]
  exact congrArg (fun l => (pairUp l).take n)
    (List.map_congr_left fun f _ => (congrArg conv (dToE_pad persize f)).trans (hconv _ _))

theorem pairUp_getElem (l : List α) (i : Nat) (h : 2 * i + 1 < l.length) :
    (pairUp l)[i]? = some (l[2 * i]'(by omega), l[2 * i + 1]) := by
  induction l using pairs_induction generalizing i with
  | h0 => exact absurd h (Nat.not_lt_zero _)
  | h1 => exact absurd (Nat.lt_of_succ_lt_succ h) (Nat.not_lt_zero _)
  | h2 a b l ih =>
    cases i with
    | zero => rfl
    | succ i => exact ih i (Nat.lt_of_add_lt_add_right (n := 2) h)

/-- **C16 (the toggle must survive the line break — negative result).** The variant that clears the
toggle at every line returns something else as soon as `perline` is odd: with 3 fields per line the
real part `3` of the second number of `1 2 3 / 4` is forgotten and `4` is taken for a real part,
paired with whatever lies behind the end of the line. -/
theorem reset_per_line_differs :
    readValuesCx 3 2 id 2 [" 1 2 3\n".toList, " 4\n".toList] = [(" 1".toList, " 2".toList), (" 3".toList, " 4".toList)] ∧
    readValuesCxResetPerLine 3 2 id 2 [" 1 2 3\n".toList, " 4\n".toList] = [(" 1".toList, " 2".toList), (" 4".toList, "\n".toList)] ∧
    readValuesCxResetPerLine 3 2 id 2 [" 1 2 3\n".toList, " 4\n".toList] ≠ readValuesCx 3 2 id 2 [" 1 2 3\n".toList, " 4\n".toList] := by
  decide +kernel

/-- ... and is indistinguishable from the right reader for every even `perline` (why files written
with the usual 2 or 4 values per line do not show the defect) -/
theorem reset_per_line_even (perline persize : Nat) (conv : List Char → α) (n : Nat) (lines : List (List Char))
    (k : Nat) (hk : perline = 2 * k) :
    readValuesCxResetPerLine perline persize conv n lines = readValuesCx perline persize conv n lines := by
  rw [readValuesCxResetPerLine, readValuesCx, scanLinesReset_eq perline persize conv n hk]

/-- **C16 (field isolation).** The readers depend on the text only through the `perline` fields
`buf[j*persize .. (j+1)*persize)` of each line: two blocks whose lines agree field by field are read
alike, whatever follows the last field of a line ... -/
theorem read_values_congr (perline persize : Nat) (conv : List Char → α) (n : Nat) (lines lines' : List (List Char))
    (hlen : lines.length = lines'.length)
    (h : ∀ (i : Nat) (h1 : i < lines.length) (h2 : i < lines'.length) (j : Nat), j < perline →
      field lines[i] j persize = field lines'[i] j persize) :
    readValues perline persize conv n lines = readValues perline persize conv n lines' ∧
    readValuesCx perline persize conv n lines = readValuesCx perline persize conv n lines' := by
  have hflat : lines.flatMap (lineFieldsAll perline persize) = lines'.flatMap (lineFieldsAll perline persize) := by
    rw [List.flatMap_def, List.flatMap_def]
    refine congrArg List.flatten (List.ext_getElem (by rw [List.length_map, List.length_map, hlen]) ?_)
    intro i h1 h2
    rw [List.getElem_map, List.getElem_map]
    exact List.map_congr_left fun j hj => h i _ _ j (List.mem_range.mp hj)
  rw [readValues_eq_gfold, readValues_eq_gfold, readValuesCx_eq_gfold, readValuesCx_eq_gfold, hflat]
  exact ⟨rfl, rfl⟩

/-- ... and field `j` of a line is cut at its own end: it does not depend on the text of field `j+1`
or of anything behind it (what a dropped terminator `buf[(j+1)*persize] = 0` breaks). -/
theorem field_isolated (pre f post post' : List Char) (j persize : Nat) (hpre : pre.length = j * persize)
    (hf : f.length = persize) :
    field (pre ++ f ++ post) j persize = f ∧ field (pre ++ f ++ post) j persize = field (pre ++ f ++ post') j persize := by
  rw [field_mid pre f post j persize hpre hf, field_mid pre f post' j persize hpre hf]
  exact ⟨rfl, rfl⟩

/-- **C16 (line splitting).** The block as a character stream — the concatenation of its lines — is
cut by `fgets(buf, 100, fp)` into exactly those lines whenever a full line fits the reader's
100-byte buffer (`perline * persize + 1 < 100`: `fgets(buf, 100, fp)` delivers at most 99 characters,
the newline included) and no field contains a newline; so the read-back
theorems above apply to `fgetsLines stream`, which is how the correspondence check runs the model. -/
theorem fgets_lines_of_printed_block (perline persize : Nat) (fields : List (List Char))
    (hfit : ∀ f ∈ fields, f.length ≤ persize) (hnl : ∀ f ∈ fields, ∀ c ∈ f, c ≠ '\n')
    (hbuf : perline * persize + 1 < 100) :
    fgetsLines (printFields perline persize fields).flatten = printFields perline persize fields :=
  fgetsLines_flatten _ (goodLine_printFields hfit hnl hbuf)

-- hypotheses are satisfiable: `atoi` skips leading blanks as `atof` does
example : ∀ (k : Nat) (s : List Char), atoi (List.replicate k ' ' ++ s) = atoi s := by
  intro k s; simp [atoi, scanInt_spaces]
-- a real block of 5 values, 3 per line, width 6: two lines, the last one short; a D exponent
example : printFields 3 6 ["1.5".toList, "-2D1".toList, "3".toList, "4e2".toList, "5".toList] =
    ["   1.5  -2D1     3\n".toList, "   4e2     5\n".toList] := by decide +kernel
example : ∀ f ∈ ["1.5".toList, "-2D1".toList, "3".toList, "4e2".toList, "5".toList], f.length ≤ 6 := by decide +kernel
example : readValues 3 6 id 5 ["   1.5  -2D1     3\n".toList, "   4e2     5\n".toList] =
    ["   1.5".toList, "  -2E1".toList, "     3".toList, "   4e2".toList, "     5".toList] := by decide +kernel
example : readValues 3 6 atoi 4 ["   1.5  -2D1     3\n".toList, "   4e2     5\n".toList] = [1, -2, 3, 4] := by decide +kernel
-- a complex block of 5 values = 10 fields, 3 per line: pairs 2, 3 and 5 straddle line ends
example : readValuesCx 3 3 atoi 5 [" 10 11 20\n".toList, " 21 30 31\n".toList, " 40 41 50\n".toList, " 51\n".toList] =
    [(10, 11), (20, 21), (30, 31), (40, 41), (50, 51)] := by decide +kernel
example : readValuesCxResetPerLine 3 3 atoi 5 [" 10 11 20\n".toList, " 21 30 31\n".toList, " 40 41 50\n".toList, " 51\n".toList] =
    [(10, 11), (21, 30), (40, 41), (51, 0)] := by decide +kernel

end Values

end Slu.Readers
