import Slu.Model.Ldperm
import SluProofs.Lemmas.ArrayBasic
import SluProofs.Lemmas.PermFn
import Mathlib.Algebra.Order.Field.Rat
import Mathlib.Tactic.Ring
import Mathlib.Algebra.BigOperators.Group.Finset.Basic
import Mathlib.Algebra.Order.BigOperators.Ring.Finset
import Mathlib.Data.Fintype.EquivFin
/-
C17 — Large-diagonal row permutation is a max-product matching with unit scaling.

MC64 (SRC/mc64ad.c) is an oracle of the model.  What is proved here, for every order `n`, every
nonnegative weight matrix and all positive scalings, is that the property's *scaling clause*
(every scaled entry at most one, matched entries exactly one) implies its *optimality clause* (the
matched product is maximal over all perfect matchings) — weak duality in multiplicative form over
`Rat` — together with the slack form that the run-time check evaluates on the floating-point duals,
the soundness of the executable checker `Slu.Ldperm.matchingCert(S)`, and the index-shift glue of
`[sdcz]ldperm` restoring the caller's arrays.  "MC64 always returns such a certificate" is not proved;
it is checked on every run by the verified checker.
-/
namespace Slu.Ldperm
open Slu Finset

/-- **C17 (slack form).**  For every `n`, nonnegative `W`, positive `r`, `c`: if every scaled entry
`r i * W i j * c j` is at most `hi` and the scaled entries matched by the bijection `σ` are at least
`lo > 0`, then for every other perfect matching `τ`:  `lo^n * ∏ W i (τ i) ≤ hi^n * ∏ W i (σ i)`. -/
theorem matching_certificate_slack (n : ℕ) (W : Fin n → Fin n → ℚ) (r c : Fin n → ℚ)
    (σ τ : Fin n → Fin n) (lo hi : ℚ)
    (hσ : Function.Bijective σ) (hτ : Function.Bijective τ)
    (hW : ∀ i j, 0 ≤ W i j) (hr : ∀ i, 0 < r i) (hc : ∀ j, 0 < c j) (hlo : 0 < lo)
    (hle : ∀ i j, r i * W i j * c j ≤ hi)
    (hge : ∀ i, lo ≤ r i * W i (σ i) * c (σ i)) :
    lo ^ n * ∏ i, W i (τ i) ≤ hi ^ n * ∏ i, W i (σ i) := by
  have h0 : ∀ i, 0 ≤ r i * W i (τ i) * c (τ i) := fun i => mul_nonneg (mul_nonneg (hr i).le (hW _ _)) (hc _).le
  -- row by row `lo * (scaled entry along τ) ≤ (scaled entry along σ) * hi`; multiply the rows
  have key := prod_le_prod (s := univ) (fun i _ => mul_nonneg hlo.le (h0 i))
    fun i _ => mul_le_mul (hge i) (hle i (τ i)) (h0 i) (hlo.le.trans (hge i))
  -- the scalings come out as `(∏ r) * (∏ c)` on both sides, `c` along a bijection being all of `c`
  simp only [prod_mul_distrib, prod_const, card_univ, Fintype.card_fin, hτ.prod_comp c, hσ.prod_comp c] at key
  have hPQ : 0 < (∏ i, r i) * ∏ j, c j := mul_pos (prod_pos fun i _ => hr i) (prod_pos fun j _ => hc j)
  refine le_of_mul_le_mul_left ?_ hPQ
  calc (∏ i, r i) * (∏ j, c j) * (lo ^ n * ∏ i, W i (τ i))
      = lo ^ n * ((∏ i, r i) * (∏ i, W i (τ i)) * ∏ j, c j) := by ring
    _ ≤ (∏ i, r i) * (∏ i, W i (σ i)) * (∏ j, c j) * hi ^ n := key
    _ = (∏ i, r i) * (∏ j, c j) * (hi ^ n * ∏ i, W i (σ i)) := by ring

/-- **C17 (`matching_certificate`).**  For every `n`, every nonnegative weight matrix `W` and positive
scalings `r`, `c`: if `σ` is a bijection, `r i * W i j * c j ≤ 1` for all entries and `= 1` on the
matched entries, then the product of the matched weights is at least the product along every other
perfect matching `τ`. -/
theorem matching_certificate (n : ℕ) (W : Fin n → Fin n → ℚ) (r c : Fin n → ℚ)
    (σ τ : Fin n → Fin n)
    (hσ : Function.Bijective σ) (hτ : Function.Bijective τ)
    (hW : ∀ i j, 0 ≤ W i j) (hr : ∀ i, 0 < r i) (hc : ∀ j, 0 < c j)
    (hle : ∀ i j, r i * W i j * c j ≤ 1)
    (heq : ∀ i, r i * W i (σ i) * c (σ i) = 1) :
    ∏ i, W i (τ i) ≤ ∏ i, W i (σ i) := by
  have h := matching_certificate_slack n W r c σ τ 1 1 hσ hτ hW hr hc one_pos hle (fun i => (heq i).ge)
  rwa [one_pow, one_mul, one_mul] at h

/-- Under the exact certificate the matched weights are all nonzero (a nonzero on every diagonal
position of the permuted matrix) and their product is positive. -/
theorem matching_certificate_diag_pos (n : ℕ) (W : Fin n → Fin n → ℚ) (r c : Fin n → ℚ)
    (σ : Fin n → Fin n) (hW : ∀ i j, 0 ≤ W i j)
    (heq : ∀ i, r i * W i (σ i) * c (σ i) = 1) :
    (∀ i, 0 < W i (σ i)) ∧ 0 < ∏ i, W i (σ i) := by
  have h : ∀ i, 0 < W i (σ i) := by
    intro i
    rcases (hW i (σ i)).lt_or_eq with h | h
    · exact h
    · have := heq i; rw [← h] at this; simp at this
  exact ⟨h, prod_pos fun i _ => h i⟩

theorem Wof_ind {P : Nat → Nat → Rat → Prop} (es : List WEntry) (i j : Nat) (h0 : P i j 0)
    (h : ∀ e ∈ es, P e.1 e.2.1 e.2.2) : P i j (Wof es i j) := by
  unfold Wof
  split
  · next e he =>
    have hp := List.find?_some he
    simp only [Bool.and_eq_true, beq_iff_eq] at hp
    exact hp.1 ▸ hp.2 ▸ h e (List.mem_of_find?_eq_some he)
  · exact h0

theorem isPermFn_spec {n : Nat} {σ : Nat → Nat} (h : isPermFn n σ = true) : PermFn n σ := by
  unfold isPermFn at h
  simp only [Bool.and_eq_true, List.all_eq_true, List.mem_range, decide_eq_true_eq, Bool.or_eq_true,
    beq_iff_eq, bne_iff_ne, ne_eq] at h
  exact ⟨h.1, fun i hi j hj hij => (h.2 i hi j hj).resolve_right (not_not_intro hij)⟩

/-- What `matchingCertS lo hi n es σ r c = true` means, in terms of the matrix `Wof es`: the hypotheses of
`matching_certificate_slack` on `Fin n`, except that the bound on ALL entries is `max hi 0` (an entry that is not
stored is `0`, and the checker looks at stored entries only; `max hi 0 = hi` as soon as `lo ≤ hi`). -/
theorem matchingCertS_sound {lo hi : Rat} {n : Nat} {es : List WEntry} {σ : Nat → Nat} {r c : Nat → Rat}
    (h : matchingCertS lo hi n es σ r c = true) :
    0 < lo ∧ PermFn n σ ∧
    (∀ i, i < n → 0 < r i ∧ 0 < c i) ∧
    (∀ i j, 0 ≤ Wof es i j) ∧
    (∀ i j, r i * Wof es i j * c j ≤ max hi 0) ∧
    (∀ e ∈ es, r e.1 * e.2.2 * c e.2.1 ≤ hi) ∧
    (∀ i, i < n → lo ≤ r i * Wof es i (σ i) * c (σ i)) := by
  unfold matchingCertS at h
  simp only [Bool.and_eq_true, List.all_eq_true, List.mem_range, decide_eq_true_eq] at h
  obtain ⟨⟨⟨⟨h0, hp⟩, hrc⟩, hes⟩, hm⟩ := h
  have hle : ∀ e ∈ es, r e.1 * e.2.2 * c e.2.1 ≤ hi := fun e he => (hes e he).2
  exact ⟨h0, isPermFn_spec hp, hrc, fun i j => Wof_ind (P := fun _ _ w => 0 ≤ w) es i j le_rfl fun e he => (hes e he).1,
    fun i j => Wof_ind (P := fun i j w => r i * w * c j ≤ max hi 0) es i j (by simp) fun e he =>
      (hle e he).trans (le_max_left _ _), hle, hm⟩

/-- **C17 (checker soundness, slack form).**  If the executable checker accepts `(es, σ, r, c)` with
bounds `0 < lo ≤ hi`, then along every bijection `τ` of `Fin n` the product of the weights `Wof es`
is bounded by the matched product:  `lo^n * ∏ W i (τ i) ≤ hi^n * ∏ W i (σ i)`. -/
theorem matchingCertS_optimal {lo hi : Rat} {n : Nat} {es : List WEntry} {σ : Nat → Nat} {r c : Nat → Rat}
    (h : matchingCertS lo hi n es σ r c = true) (hlh : lo ≤ hi)
    (τ : Fin n → Fin n) (hτ : Function.Bijective τ) :
    lo ^ n * ∏ i : Fin n, Wof es i (τ i) ≤ hi ^ n * ∏ i : Fin n, Wof es i (σ i) := by
  obtain ⟨h0, hp, hrc, hW, hle, _, hm⟩ := matchingCertS_sound h
  have hhi : max hi 0 = hi := max_eq_left (le_trans h0.le hlh)
  exact matching_certificate_slack n (fun i j => Wof es i j) (fun i => r i) (fun j => c j)
    (fun i => ⟨σ i, hp.lt i i.2⟩) τ lo hi hp.bijective hτ (fun i j => hW i j) (fun i => (hrc i i.2).1) (fun j => (hrc j j.2).2) h0
    (fun i j => hhi ▸ hle i j) (fun i => hm i i.2)

/-- **C17 (checker soundness).**  `matchingCert n es σ r c = true` yields the hypotheses of
`matching_certificate` — `σ` is a bijection of `Fin n`, weights nonnegative, scalings positive, every
scaled entry at most one, matched entries exactly one — hence the matched product is maximal, and
every matched weight is nonzero. -/
theorem matchingCert_sound {n : Nat} {es : List WEntry} {σ : Nat → Nat} {r c : Nat → Rat}
    (h : matchingCert n es σ r c = true) :
    ∃ σ' : Fin n → Fin n, (∀ i, (σ' i : Nat) = σ i) ∧ Function.Bijective σ' ∧
      (∀ i j : Fin n, 0 ≤ Wof es i j) ∧ (∀ i : Fin n, 0 < r i ∧ 0 < c i) ∧
      (∀ i j : Fin n, r i * Wof es i j * c j ≤ 1) ∧
      (∀ i : Fin n, r i * Wof es i (σ' i) * c (σ' i) = 1) ∧
      (∀ i : Fin n, 0 < Wof es i (σ' i)) ∧
      ∀ τ : Fin n → Fin n, Function.Bijective τ →
        ∏ i : Fin n, Wof es i (τ i) ≤ ∏ i : Fin n, Wof es i (σ' i) := by
  obtain ⟨_, hp, hrc, hW, hle, _, hm⟩ := matchingCertS_sound (lo := 1) (hi := 1) h
  have hle1 : ∀ i j, r i * Wof es i j * c j ≤ 1 := fun i j =>
    (hle i j).trans_eq (max_eq_left zero_le_one)
  let σ' : Fin n → Fin n := fun i => ⟨σ i, hp.lt i i.2⟩
  have heq : ∀ i : Fin n, r i * Wof es i (σ' i) * c (σ' i) = 1 := fun i => le_antisymm (hle1 i (σ i)) (hm i i.2)
  have hpos := matching_certificate_diag_pos n (fun i j => Wof es i j) (fun i => r i) (fun j => c j) σ'
    (fun i j => hW i j) heq
  exact ⟨σ', fun _ => rfl, hp.bijective, fun i j => hW i j, fun i => hrc i i.2, fun i j => hle1 i j, heq, hpos.1,
    fun τ hτ => matching_certificate n (fun i j => Wof es i j) (fun i => r i) (fun j => c j) σ' τ hp.bijective hτ
      (fun i j => hW i j) (fun i => (hrc i i.2).1) (fun j => (hrc j j.2).2) (fun i j => hle1 i j) heq⟩

theorem shiftDown_shiftUp (a : Array Int) : shiftDown (shiftUp a) = a :=
  map_map_cancel (fun x => Int.add_sub_cancel x 1) a

/-- **C17 (`shift_roundtrip`).**  Whatever the oracle returns, `ldperm` hands the caller's `colptr`
and `adjncy` back exactly as they were: the `+1` shifts before the MC64 call (dldperm.c:116-117) are
undone by the `-1` shifts after it (dldperm.c:162-163); the return value is MC64's `info[0]` and the
permutation is MC64's shifted to 0-based. -/
theorem shift_roundtrip {R W : Type} [Inhabited R]
    (mc64 : (n : Nat) → (ip irn : Array Int) → (a : W) → Mc64Out R)
    (n : Nat) (colptr adjncy : Array Int) (w : W) :
    (ldperm mc64 n colptr adjncy w).colptr = colptr ∧
    (ldperm mc64 n colptr adjncy w).adjncy = adjncy ∧
    (ldperm mc64 n colptr adjncy w).ret = (mc64 n (shiftUp colptr) (shiftUp adjncy) w).info ∧
    (ldperm mc64 n colptr adjncy w).perm = shiftDown (mc64 n (shiftUp colptr) (shiftUp adjncy) w).cperm := by
  simp [ldperm, shiftDown_shiftUp]

/-- the duals are copied out of MC64's work array: `u[i] = dw[i]`, `v[i] = dw[n+i]` -/
theorem ldperm_duals {R W : Type} [Inhabited R]
    (mc64 : (n : Nat) → (ip irn : Array Int) → (a : W) → Mc64Out R)
    (n : Nat) (colptr adjncy : Array Int) (w : W) (i : Nat) (hi : i < n) :
    (ldperm mc64 n colptr adjncy w).u[i]! = (mc64 n (shiftUp colptr) (shiftUp adjncy) w).dw[i]! ∧
    (ldperm mc64 n colptr adjncy w).v[i]! = (mc64 n (shiftUp colptr) (shiftUp adjncy) w).dw[n + i]! := by
  simp [ldperm, hi]

/-- 2×2 example `W = [[1/2, 4],[3, 1/5]]`: the anti-diagonal matching (product 12) is certified by
`r = (1/4, 1/3)`, `c = (1, 1)`; the diagonal matching has product 1/10. -/
example : matchingCert 2 [(0, 0, 1/2), (1, 0, 3), (0, 1, 4), (1, 1, 1/5)]
    (fun i => if i = 0 then 1 else 0) (fun i => if i = 0 then 1/4 else 1/3) (fun _ => 1) = true := by
  decide +kernel

example : ∃ (W : Fin 2 → Fin 2 → ℚ) (r c : Fin 2 → ℚ) (σ : Fin 2 → Fin 2),
    Function.Bijective σ ∧ (∀ i j, 0 ≤ W i j) ∧ (∀ i, 0 < r i) ∧ (∀ j, 0 < c j) ∧
    (∀ i j, r i * W i j * c j ≤ 1) ∧ (∀ i, r i * W i (σ i) * c (σ i) = 1) ∧ σ ≠ id :=
  ⟨fun i j => if i = j then 1/2 else 2, fun _ => 1/2, fun _ => 1, fun i => if i = 0 then 1 else 0,
    Finite.injective_iff_bijective.mp (by decide), by decide +kernel, by decide +kernel, by decide +kernel,
    by decide +kernel, by decide +kernel, fun h => absurd (congrFun h 0) (by decide)⟩

end Slu.Ldperm
