import SluProofs.Lemmas.ArgChain
/-
C18 — Illegal arguments are rejected with the documented negative info.

`Slu.ArgChains.check_<fn> a` is REGENERATED on every run by tools/argchain.py from the C source of `<fn>`: the
value of the info variable when the argument-screening exit is reached.  `Slu.ArgSpec.specInfo_<routine> dt a` is
hand-written from the header comments: -(position of the first violated documented precondition), 0 if none, for
the precision whose Dtype tag is `dt`.  The theorems equate the two for EVERY argument record `a : Args` (unbounded
integer fields), in particular for records that violate several preconditions at once, which is where the ORDER
of the tests shows.  A source change that alters a chain changes `Slu/Gen/ArgChains.lean`, and these proofs are
re-checked against the new text.

Each routine's chain is compared with its preconditions level by level for precision s, at every shift `k` of
the tags; the chains of d, c, z are shown to be that chain at tags shifted by 1, 2, 3
(`argchain_types_agree_<routine>`), which carries the comparison over (`four_precisions`).

Two routines deviate, in the unchanged tree, from their documentation.  The deviation is kept OUT of the spec
and stated as a hypothesis (`<routine>_agrees`) of a theorem named `_partial`.  The full statement, which is not
a theorem, is recorded below in a comment block under the name `…_goal`:

/- argchain_gsisx_goal :  ∀ a, check_[sdcz]gsisx a = specInfo_gsisx dt a
   FALSE today, in the direction C18 does not speak about: `[sdcz]gsisx` examines the description of B
   (resp. X) even when B->ncol = 0 (resp. X->ncol = 0) although the header says that B is then not
   used, i.e. it rejects calls the header allows.  `[sdcz]gssvx` (since the fix: commits 533c341,
   cb8543f) satisfies the full statement (`argchain_gssvx_spec`). -/
/- argchain_sp_trsv_goal : ∀ a, check_sp_[sdcz]trsv a = specInfo_sp_trsv dt a
   FALSE today, in the direction C18 does not speak about: the header documents 'u','l','n','t','c' but
   only upper case is accepted (legal calls rejected).  The documented type tags of L and U ARE tested
   since the /repo commit "fix: sp_[sdcz]trsv, sp_[sdcz]gemv: test the documented Stype/Dtype/Mtype". -/
/- sp_gemv: the full statement holds since that commit (`argchain_sp_gemv_spec`). -/
-/
namespace Slu.ArgSpec
open Slu.ArgChains
-- the simp sets of `argchain_unfold` and `argchain_gen_unfold` serve all nine routines: each call leaves some unused
set_option linter.unusedSimpArgs false

theorem argchain_types_agree_gssv (a : Args) :
    check_sgssv a = check_dgssv (retag 1 a) ∧
    check_sgssv a = check_cgssv (retag 2 a) ∧
    check_sgssv a = check_zgssv (retag 3 a) := by
  argchain_same

theorem argchain_types_agree_gssvx (a : Args) :
    check_sgssvx a = check_dgssvx (retag 1 a) ∧
    check_sgssvx a = check_cgssvx (retag 2 a) ∧
    check_sgssvx a = check_zgssvx (retag 3 a) := by
  argchain_same

theorem argchain_types_agree_gsisx (a : Args) :
    check_sgsisx a = check_dgsisx (retag 1 a) ∧
    check_sgsisx a = check_cgsisx (retag 2 a) ∧
    check_sgsisx a = check_zgsisx (retag 3 a) := by
  argchain_same

theorem argchain_types_agree_gstrs (a : Args) :
    check_sgstrs a = check_dgstrs (retag 1 a) ∧
    check_sgstrs a = check_cgstrs (retag 2 a) ∧
    check_sgstrs a = check_zgstrs (retag 3 a) := by
  argchain_same

theorem argchain_types_agree_gsrfs (a : Args) :
    check_sgsrfs a = check_dgsrfs (retag 1 a) ∧
    check_sgsrfs a = check_cgsrfs (retag 2 a) ∧
    check_sgsrfs a = check_zgsrfs (retag 3 a) := by
  argchain_same

theorem argchain_types_agree_gscon (a : Args) :
    check_sgscon a = check_dgscon (retag 1 a) ∧
    check_sgscon a = check_cgscon (retag 2 a) ∧
    check_sgscon a = check_zgscon (retag 3 a) := by
  argchain_same

theorem argchain_types_agree_gsequ (a : Args) :
    check_sgsequ a = check_dgsequ (retag 1 a) ∧
    check_sgsequ a = check_cgsequ (retag 2 a) ∧
    check_sgsequ a = check_zgsequ (retag 3 a) := by
  argchain_same

theorem argchain_types_agree_sp_trsv (a : Args) :
    check_sp_strsv a = check_sp_dtrsv (retag 1 a) ∧
    check_sp_strsv a = check_sp_ctrsv (retag 2 a) ∧
    check_sp_strsv a = check_sp_ztrsv (retag 3 a) := by
  argchain_same

theorem argchain_types_agree_sp_gemv (a : Args) :
    check_sp_sgemv a = check_sp_dgemv (retag 1 a) ∧
    check_sp_sgemv a = check_sp_cgemv (retag 2 a) ∧
    check_sp_sgemv a = check_sp_zgemv (retag 3 a) := by
  argchain_same

theorem argchain_types_agree (a : Args) :
    (check_sgssv a = check_dgssv (retag 1 a) ∧ check_sgssv a = check_cgssv (retag 2 a) ∧ check_sgssv a = check_zgssv (retag 3 a)) ∧
    (check_sgssvx a = check_dgssvx (retag 1 a) ∧ check_sgssvx a = check_cgssvx (retag 2 a) ∧ check_sgssvx a = check_zgssvx (retag 3 a)) ∧
    (check_sgsisx a = check_dgsisx (retag 1 a) ∧ check_sgsisx a = check_cgsisx (retag 2 a) ∧ check_sgsisx a = check_zgsisx (retag 3 a)) ∧
    (check_sgstrs a = check_dgstrs (retag 1 a) ∧ check_sgstrs a = check_cgstrs (retag 2 a) ∧ check_sgstrs a = check_zgstrs (retag 3 a)) ∧
    (check_sgsrfs a = check_dgsrfs (retag 1 a) ∧ check_sgsrfs a = check_cgsrfs (retag 2 a) ∧ check_sgsrfs a = check_zgsrfs (retag 3 a)) ∧
    (check_sgscon a = check_dgscon (retag 1 a) ∧ check_sgscon a = check_cgscon (retag 2 a) ∧ check_sgscon a = check_zgscon (retag 3 a)) ∧
    (check_sgsequ a = check_dgsequ (retag 1 a) ∧ check_sgsequ a = check_cgsequ (retag 2 a) ∧ check_sgsequ a = check_zgsequ (retag 3 a)) ∧
    (check_sp_strsv a = check_sp_dtrsv (retag 1 a) ∧ check_sp_strsv a = check_sp_ctrsv (retag 2 a) ∧ check_sp_strsv a = check_sp_ztrsv (retag 3 a)) ∧
    (check_sp_sgemv a = check_sp_dgemv (retag 1 a) ∧ check_sp_sgemv a = check_sp_cgemv (retag 2 a) ∧ check_sp_sgemv a = check_sp_zgemv (retag 3 a)) :=
  ⟨argchain_types_agree_gssv a, argchain_types_agree_gssvx a, argchain_types_agree_gsisx a, argchain_types_agree_gstrs a, argchain_types_agree_gsrfs a, argchain_types_agree_gscon a, argchain_types_agree_gsequ a, argchain_types_agree_sp_trsv a, argchain_types_agree_sp_gemv a⟩

theorem argchain_gssv_spec (a : Args) :
    check_sgssv a = specInfo_gssv SLU_S a ∧
    check_dgssv a = specInfo_gssv SLU_D a ∧
    check_cgssv a = specInfo_gssv SLU_C a ∧
    check_zgssv a = specInfo_gssv SLU_Z a := by
  refine four_precisions argchain_types_agree_gssv (fun k a => ?_) a
  simp only [specInfo_gssv, spec_gssv]
  argchain_unfold
  argchain_gen_unfold
  argchain_cascade

theorem argchain_gssvx_spec (a : Args) :
    check_sgssvx a = specInfo_gssvx SLU_S a ∧
    check_dgssvx a = specInfo_gssvx SLU_D a ∧
    check_cgssvx a = specInfo_gssvx SLU_C a ∧
    check_zgssvx a = specInfo_gssvx SLU_Z a := by
  refine four_precisions argchain_types_agree_gssvx (fun k a => ?_) a
  simp only [specInfo_gssvx, spec_gssvx]
  argchain_unfold
  argchain_gen_unfold
  argchain_cascade

theorem argchain_gstrs_spec (a : Args) :
    check_sgstrs a = specInfo_gstrs SLU_S a ∧
    check_dgstrs a = specInfo_gstrs SLU_D a ∧
    check_cgstrs a = specInfo_gstrs SLU_C a ∧
    check_zgstrs a = specInfo_gstrs SLU_Z a := by
  refine four_precisions argchain_types_agree_gstrs (fun k a => ?_) a
  simp only [specInfo_gstrs, spec_gstrs]
  argchain_unfold
  argchain_gen_unfold
  argchain_cascade

theorem argchain_gsrfs_spec (a : Args) :
    check_sgsrfs a = specInfo_gsrfs SLU_S a ∧
    check_dgsrfs a = specInfo_gsrfs SLU_D a ∧
    check_cgsrfs a = specInfo_gsrfs SLU_C a ∧
    check_zgsrfs a = specInfo_gsrfs SLU_Z a := by
  refine four_precisions argchain_types_agree_gsrfs (fun k a => ?_) a
  simp only [specInfo_gsrfs, spec_gsrfs]
  argchain_unfold
  argchain_gen_unfold
  argchain_cascade

theorem argchain_gscon_spec (a : Args) :
    check_sgscon a = specInfo_gscon SLU_S a ∧
    check_dgscon a = specInfo_gscon SLU_D a ∧
    check_cgscon a = specInfo_gscon SLU_C a ∧
    check_zgscon a = specInfo_gscon SLU_Z a := by
  refine four_precisions argchain_types_agree_gscon (fun k a => ?_) a
  simp only [specInfo_gscon, spec_gscon]
  argchain_unfold
  argchain_gen_unfold
  argchain_cascade

theorem argchain_gsequ_spec (a : Args) :
    check_sgsequ a = specInfo_gsequ SLU_S a ∧
    check_dgsequ a = specInfo_gsequ SLU_D a ∧
    check_cgsequ a = specInfo_gsequ SLU_C a ∧
    check_zgsequ a = specInfo_gsequ SLU_Z a := by
  refine four_precisions argchain_types_agree_gsequ (fun k a => ?_) a
  simp only [specInfo_gsequ, spec_gsequ]
  argchain_unfold
  argchain_gen_unfold
  argchain_cascade

theorem argchain_gsisx_partial (a : Args) :
    (gsisx_agrees SLU_S a → check_sgsisx a = specInfo_gsisx SLU_S a) ∧
    (gsisx_agrees SLU_D a → check_dgsisx a = specInfo_gsisx SLU_D a) ∧
    (gsisx_agrees SLU_C a → check_cgsisx a = specInfo_gsisx SLU_C a) ∧
    (gsisx_agrees SLU_Z a → check_zgsisx a = specInfo_gsisx SLU_Z a) := by
  refine four_precisions_of argchain_types_agree_gsisx (fun k a h => ?_) a
  simp only [specInfo_gsisx, spec_gsisx, spec_gssvx]
  argchain_unfold
  argchain_gen_unfold
  argchain_cascade

theorem argchain_sp_trsv_partial (a : Args) :
    (sp_trsv_agrees SLU_S a → check_sp_strsv a = specInfo_sp_trsv SLU_S a) ∧
    (sp_trsv_agrees SLU_D a → check_sp_dtrsv a = specInfo_sp_trsv SLU_D a) ∧
    (sp_trsv_agrees SLU_C a → check_sp_ctrsv a = specInfo_sp_trsv SLU_C a) ∧
    (sp_trsv_agrees SLU_Z a → check_sp_ztrsv a = specInfo_sp_trsv SLU_Z a) := by
  refine four_precisions_of argchain_types_agree_sp_trsv (fun k a h => ?_) a
  simp only [specInfo_sp_trsv, spec_sp_trsv]
  argchain_unfold
  argchain_gen_unfold
  argchain_cascade

/-- sp_gemv has no info argument: the position is what it hands to input_error -/
theorem argchain_sp_gemv_spec (a : Args) :
    errparam_sp_sgemv a = -specInfo_sp_gemv SLU_S a ∧
    errparam_sp_dgemv a = -specInfo_sp_gemv SLU_D a ∧
    errparam_sp_cgemv a = -specInfo_sp_gemv SLU_C a ∧
    errparam_sp_zgemv a = -specInfo_sp_gemv SLU_Z a := by
  refine four_precisions (spec := fun dt a => -specInfo_sp_gemv dt a) argchain_types_agree_sp_gemv
    (fun k a => ?_) a
  simp only [specInfo_sp_gemv, spec_sp_gemv]
  argchain_unfold
  argchain_gen_unfold
  simp only [apply_ite (Neg.neg : Int → Int), Int.neg_neg, Int.neg_zero]
  argchain_cascade

/-- the number printed by input_error is the position: -info (sp_gemv keeps a positive local) -/
theorem argchain_errparam (a : Args) :
    errparam_sgssv a = -check_sgssv a ∧
    errparam_dgssv a = -check_dgssv a ∧
    errparam_cgssv a = -check_cgssv a ∧
    errparam_zgssv a = -check_zgssv a ∧
    errparam_sgssvx a = -check_sgssvx a ∧
    errparam_dgssvx a = -check_dgssvx a ∧
    errparam_cgssvx a = -check_cgssvx a ∧
    errparam_zgssvx a = -check_zgssvx a ∧
    errparam_sgsisx a = -check_sgsisx a ∧
    errparam_dgsisx a = -check_dgsisx a ∧
    errparam_cgsisx a = -check_cgsisx a ∧
    errparam_zgsisx a = -check_zgsisx a ∧
    errparam_sgstrs a = -check_sgstrs a ∧
    errparam_dgstrs a = -check_dgstrs a ∧
    errparam_cgstrs a = -check_cgstrs a ∧
    errparam_zgstrs a = -check_zgstrs a ∧
    errparam_sgsrfs a = -check_sgsrfs a ∧
    errparam_dgsrfs a = -check_dgsrfs a ∧
    errparam_cgsrfs a = -check_cgsrfs a ∧
    errparam_zgsrfs a = -check_zgsrfs a ∧
    errparam_sgscon a = -check_sgscon a ∧
    errparam_dgscon a = -check_dgscon a ∧
    errparam_cgscon a = -check_cgscon a ∧
    errparam_zgscon a = -check_zgscon a ∧
    errparam_sgsequ a = -check_sgsequ a ∧
    errparam_dgsequ a = -check_dgsequ a ∧
    errparam_cgsequ a = -check_cgsequ a ∧
    errparam_zgsequ a = -check_zgsequ a ∧
    errparam_sp_strsv a = -check_sp_strsv a ∧
    errparam_sp_dtrsv a = -check_sp_dtrsv a ∧
    errparam_sp_ctrsv a = -check_sp_ctrsv a ∧
    errparam_sp_ztrsv a = -check_sp_ztrsv a ∧
    errparam_sp_sgemv a = check_sp_sgemv a ∧
    errparam_sp_dgemv a = check_sp_dgemv a ∧
    errparam_sp_cgemv a = check_sp_cgemv a ∧
    errparam_sp_zgemv a = check_sp_zgemv a := by
  -- tools/argchain.py prints `errparam_<fn>` as what is handed to `input_error`, over `info := check_<fn> a`: `-(info)`, `info` for sp_gemv
  simp only [errparam_sgssv, errparam_dgssv, errparam_cgssv, errparam_zgssv, errparam_sgssvx, errparam_dgssvx, errparam_cgssvx, errparam_zgssvx, errparam_sgsisx, errparam_dgsisx, errparam_cgsisx, errparam_zgsisx, errparam_sgstrs, errparam_dgstrs, errparam_cgstrs, errparam_zgstrs, errparam_sgsrfs, errparam_dgsrfs, errparam_cgsrfs, errparam_zgsrfs, errparam_sgscon, errparam_dgscon, errparam_cgscon, errparam_zgscon, errparam_sgsequ, errparam_dgsequ, errparam_cgsequ, errparam_zgsequ, errparam_sp_strsv, errparam_sp_dtrsv, errparam_sp_ctrsv, errparam_sp_ztrsv, errparam_sp_sgemv, errparam_sp_dgemv, errparam_sp_cgemv, errparam_sp_zgemv, and_self]

/-- ahead of the screening exit nothing the caller owns is written (exception recorded in
`allowedPrewrites`), only machine-constant queries are called, and the error path is
`input_error; return`.  Both sides of every equation are closed lists of strings: `constructor` splits the
conjunctions and closes each equation by `Eq.refl`, which the kernel checks by evaluating the two lists. -/
theorem argchain_prelude_pure :
    (prewrites_sgssv = allowedPrewrites "gssv" ∧ precalls_sgssv = allowedPrecalls "gssv" false ∧ errexit_sgssv = []) ∧
    (prewrites_dgssv = allowedPrewrites "gssv" ∧ precalls_dgssv = allowedPrecalls "gssv" true ∧ errexit_dgssv = []) ∧
    (prewrites_cgssv = allowedPrewrites "gssv" ∧ precalls_cgssv = allowedPrecalls "gssv" false ∧ errexit_cgssv = []) ∧
    (prewrites_zgssv = allowedPrewrites "gssv" ∧ precalls_zgssv = allowedPrecalls "gssv" true ∧ errexit_zgssv = []) ∧
    (prewrites_sgssvx = allowedPrewrites "gssvx" ∧ precalls_sgssvx = allowedPrecalls "gssvx" false ∧ errexit_sgssvx = []) ∧
    (prewrites_dgssvx = allowedPrewrites "gssvx" ∧ precalls_dgssvx = allowedPrecalls "gssvx" true ∧ errexit_dgssvx = []) ∧
    (prewrites_cgssvx = allowedPrewrites "gssvx" ∧ precalls_cgssvx = allowedPrecalls "gssvx" false ∧ errexit_cgssvx = []) ∧
    (prewrites_zgssvx = allowedPrewrites "gssvx" ∧ precalls_zgssvx = allowedPrecalls "gssvx" true ∧ errexit_zgssvx = []) ∧
    (prewrites_sgsisx = allowedPrewrites "gsisx" ∧ precalls_sgsisx = allowedPrecalls "gsisx" false ∧ errexit_sgsisx = []) ∧
    (prewrites_dgsisx = allowedPrewrites "gsisx" ∧ precalls_dgsisx = allowedPrecalls "gsisx" true ∧ errexit_dgsisx = []) ∧
    (prewrites_cgsisx = allowedPrewrites "gsisx" ∧ precalls_cgsisx = allowedPrecalls "gsisx" false ∧ errexit_cgsisx = []) ∧
    (prewrites_zgsisx = allowedPrewrites "gsisx" ∧ precalls_zgsisx = allowedPrecalls "gsisx" true ∧ errexit_zgsisx = []) ∧
    (prewrites_sgstrs = allowedPrewrites "gstrs" ∧ precalls_sgstrs = allowedPrecalls "gstrs" false ∧ errexit_sgstrs = []) ∧
    (prewrites_dgstrs = allowedPrewrites "gstrs" ∧ precalls_dgstrs = allowedPrecalls "gstrs" true ∧ errexit_dgstrs = []) ∧
    (prewrites_cgstrs = allowedPrewrites "gstrs" ∧ precalls_cgstrs = allowedPrecalls "gstrs" false ∧ errexit_cgstrs = []) ∧
    (prewrites_zgstrs = allowedPrewrites "gstrs" ∧ precalls_zgstrs = allowedPrecalls "gstrs" true ∧ errexit_zgstrs = []) ∧
    (prewrites_sgsrfs = allowedPrewrites "gsrfs" ∧ precalls_sgsrfs = allowedPrecalls "gsrfs" false ∧ errexit_sgsrfs = []) ∧
    (prewrites_dgsrfs = allowedPrewrites "gsrfs" ∧ precalls_dgsrfs = allowedPrecalls "gsrfs" true ∧ errexit_dgsrfs = []) ∧
    (prewrites_cgsrfs = allowedPrewrites "gsrfs" ∧ precalls_cgsrfs = allowedPrecalls "gsrfs" false ∧ errexit_cgsrfs = []) ∧
    (prewrites_zgsrfs = allowedPrewrites "gsrfs" ∧ precalls_zgsrfs = allowedPrecalls "gsrfs" true ∧ errexit_zgsrfs = []) ∧
    (prewrites_sgscon = allowedPrewrites "gscon" ∧ precalls_sgscon = allowedPrecalls "gscon" false ∧ errexit_sgscon = []) ∧
    (prewrites_dgscon = allowedPrewrites "gscon" ∧ precalls_dgscon = allowedPrecalls "gscon" true ∧ errexit_dgscon = []) ∧
    (prewrites_cgscon = allowedPrewrites "gscon" ∧ precalls_cgscon = allowedPrecalls "gscon" false ∧ errexit_cgscon = []) ∧
    (prewrites_zgscon = allowedPrewrites "gscon" ∧ precalls_zgscon = allowedPrecalls "gscon" true ∧ errexit_zgscon = []) ∧
    (prewrites_sgsequ = allowedPrewrites "gsequ" ∧ precalls_sgsequ = allowedPrecalls "gsequ" false ∧ errexit_sgsequ = []) ∧
    (prewrites_dgsequ = allowedPrewrites "gsequ" ∧ precalls_dgsequ = allowedPrecalls "gsequ" true ∧ errexit_dgsequ = []) ∧
    (prewrites_cgsequ = allowedPrewrites "gsequ" ∧ precalls_cgsequ = allowedPrecalls "gsequ" false ∧ errexit_cgsequ = []) ∧
    (prewrites_zgsequ = allowedPrewrites "gsequ" ∧ precalls_zgsequ = allowedPrecalls "gsequ" true ∧ errexit_zgsequ = []) ∧
    (prewrites_sp_strsv = allowedPrewrites "sp_trsv" ∧ precalls_sp_strsv = allowedPrecalls "sp_trsv" false ∧ errexit_sp_strsv = []) ∧
    (prewrites_sp_dtrsv = allowedPrewrites "sp_trsv" ∧ precalls_sp_dtrsv = allowedPrecalls "sp_trsv" true ∧ errexit_sp_dtrsv = []) ∧
    (prewrites_sp_ctrsv = allowedPrewrites "sp_trsv" ∧ precalls_sp_ctrsv = allowedPrecalls "sp_trsv" false ∧ errexit_sp_ctrsv = []) ∧
    (prewrites_sp_ztrsv = allowedPrewrites "sp_trsv" ∧ precalls_sp_ztrsv = allowedPrecalls "sp_trsv" true ∧ errexit_sp_ztrsv = []) ∧
    (prewrites_sp_sgemv = allowedPrewrites "sp_gemv" ∧ precalls_sp_sgemv = allowedPrecalls "sp_gemv" false ∧ errexit_sp_sgemv = []) ∧
    (prewrites_sp_dgemv = allowedPrewrites "sp_gemv" ∧ precalls_sp_dgemv = allowedPrecalls "sp_gemv" true ∧ errexit_sp_dgemv = []) ∧
    (prewrites_sp_cgemv = allowedPrewrites "sp_gemv" ∧ precalls_sp_cgemv = allowedPrecalls "sp_gemv" false ∧ errexit_sp_cgemv = []) ∧
    (prewrites_sp_zgemv = allowedPrewrites "sp_gemv" ∧ precalls_sp_zgemv = allowedPrecalls "sp_gemv" true ∧ errexit_sp_zgemv = []) := by
  repeat' constructor

/-- tools/argchain.py translated the chain of every routine (one it fails on is emitted as `check_<fn> = 1`, so
that its theorems above stop checking, and is listed here) -/
theorem argchain_translated : translationFailures = [] := by decide

/-! hypotheses of the partial theorems are satisfiable, and the specs are not vacuous -/
example : gsisx_agrees SLU_D { A_nrow := 3, A_ncol := 3, A_Dtype := 1, B_ncol := 2, X_ncol := 2, B_Store_lda := 3, X_Store_lda := 3, B_Stype := 6, X_Stype := 6, B_Dtype := 1, X_Dtype := 1 } := by decide
example : gsisx_agrees SLU_D { A_nrow := 3, A_ncol := 3, A_Dtype := 1, B_ncol := 0, X_ncol := 0, B_Store_lda := 3, X_Store_lda := 3, B_Stype := 6, X_Stype := 6, B_Dtype := 1, X_Dtype := 1 } := by decide
example : sp_trsv_agrees SLU_D { L_Stype := 3, L_Dtype := 1, L_Mtype := 1, U_Stype := 0, U_Dtype := 1, U_Mtype := 4, uplo_ch := 76, trans_ch := 78, diag_ch := 85 } := by decide
example : specInfo_gstrs SLU_D { L_nrow := 3, L_ncol := 3, L_Stype := 3, L_Dtype := 1, L_Mtype := 1, U_nrow := 3, U_ncol := 3, U_Dtype := 1, U_Mtype := 4, B_Store_lda := 3, B_Stype := 6, B_Dtype := 1 } = 0 := by decide
example : specInfo_gstrs SLU_D { trans := 7, L_nrow := -1 } = -1 := by decide
example : specInfo_gstrs SLU_D { L_nrow := 3, L_ncol := 3, L_Stype := 3, L_Dtype := 1, L_Mtype := 1, U_nrow := 3, U_ncol := 3, U_Dtype := 1, U_Mtype := 4, B_Store_lda := 2, B_Stype := 6, B_Dtype := 1 } = -6 := by decide

end Slu.ArgSpec
