import Slu.Model.Ledger
import Slu.Gen.LeakSites
import Slu.Gen.Ownership
import SluProofs.Lemmas.Ledger
import SluProofs.Lemmas.OwnIndex
/-
C19 — No memory error or leak over any documented API lifecycle.

Three parts.  The ledger specification of `Slu/Model/Ledger.lean`: over every sequence of documented API events
nothing is freed twice, no call-internal block survives, and the live blocks are those of the objects the caller
holds (`lifecycle_no_leak`, by induction over the sequence).  The check-then-expand protocol of the growable
arrays: every write is below the capacity at the time (`growth_capacity_inv`, `reserve_capacity_inv`; D8 is
`growth_old_test_overflows`).  The tie of the specification to the source TEXT, by kernel evaluation of tables
regenerated on every run: `no_local_block_escapes_unreleased` (tools/leakscan.py -> Slu/Gen/LeakSites.lean: what a
routine allocates for itself is released on every path, nothing of the caller is freed) and
`destroy_frees_what_is_owned`, `constructors_allocate_what_is_owned` (tools/ownscan.py -> Slu/Gen/Ownership.lean,
against `Slu.Ledger.allSpecs`: which blocks an object consists of).  At run time the C code is tied to the ledger by
the `lifecycle*` harness families (tools/props.d/C19.py).
-/
namespace Slu.C19
open Slu.Ledger

theorem step_inv (s : State) (op : Op) (hs : Inv 0 s) (hd : documented s op = true) :
    Inv 0 (step s op) := by
  cases op with
  | createMat h | createDense h | statInit h => exact inv_alloc hs (not_mem_of_not_contains hd)
  | getPermC | gstrs | gsrfs | gscon => exact inv_withTemp_id hs
  | querySpace => exact hs
  | preorder h =>
    exact inv_withTemp (P := (Obj.acview h ∉ ·)) (fun _ h1 p1 => inv_alloc h1 p1) hs (not_mem_of_not_contains hd)
  | gstrf h fact ws out =>
    refine inv_gstrfEffect h fact ws out hs ?_
    by_cases hf : fact = .sameRowPerm
    · exact Or.inl hf
    · simp only [documented, hf, if_false] at hd
      exact canFactor_of_absent _ hd
  | gssv h nr out =>
    have hP : CanFactor h .dofact false s.handed := canFactor_of_absent _ hd
    exact inv_withTemp (fun _ h1 p1 => inv_withTemp (fun _ h2 p2 => inv_withTemp
      (fun _ h3 p3 => inv_factorSolve h .dofact false out h3 p3) h2 p2) h1 p1) hs hP
  | gssvx h nr fact ws out =>
    refine inv_withTemp (P := fun H => fact ≠ .factored → CanFactor h fact ws H) (fun s1 h1 p1 => ?_) hs ?_
    · show Inv _ (if fact = .factored then _ else _)
      by_cases hnf : fact = .factored
      · rw [if_pos hnf]; exact inv_withTemp_id h1
      · rw [if_neg hnf]; exact inv_withTemp (fun _ h2 p2 => inv_factorSolve h fact ws out h2 p2) h1 (p1 hnf)
    · intro hnf
      by_cases hf : fact = .sameRowPerm
      · exact Or.inl hf
      · simp only [documented, hf, hnf, decide_false, Bool.or_false, Bool.false_eq_true, if_false] at hd
        exact canFactor_of_absent true hd
  | destroy o => exact inv_release hs (List.contains_iff_mem.1 hd)

theorem run_inv (ops : List Op) : ∀ s : State, Inv 0 s → documentedAll s ops = true → Inv 0 (run s ops) := by
  induction ops with
  | nil => intro s hs _; exact hs
  | cons op rest ih =>
    intro s hs hd
    simp only [documentedAll, Bool.and_eq_true] at hd
    exact ih (step s op) (step_inv s op hs hd.1) hd.2

theorem inv_init : Inv 0 ({} : State) := ⟨rfl, rfl, List.nodup_nil, fun _ => by simp⟩

/-- **No leak, no double free, over every documented lifecycle.** -/
theorem lifecycle_no_leak (ops : List Op) (hdoc : documentedAll {} ops = true) :
    let s := run {} ops
    s.dfree = 0 ∧ s.temp = 0 ∧
    (∀ o, s.live.count o = if o ∈ s.handed then o.blocks else 0) ∧
    (s.handed = [] → s.live = [] ∧ s.liveCount = 0) := by
  obtain ⟨h1, h2, _, h4⟩ := run_inv ops {} inv_init hdoc
  refine ⟨h1, h2, h4, fun he => ?_⟩
  have hl : (run {} ops).live = [] :=
    List.eq_nil_iff_forall_not_mem.2 fun o => List.count_eq_zero.1 (by simpa [he] using h4 o)
  exact ⟨hl, by simp [State.liveCount, hl, h2]⟩

/-- at every intermediate quiescent point (prefix of the lifecycle) nothing was freed twice and no call-internal block is
live; the two first clauses of `lifecycle_no_leak` -/
theorem lifecycle_prefix_inv (ops₁ ops₂ : List Op) (hdoc : documentedAll {} (ops₁ ++ ops₂) = true) :
    (run {} ops₁).dfree = 0 ∧ (run {} ops₁).temp = 0 := by
  rw [documentedAll_append, Bool.and_eq_true] at hdoc
  obtain ⟨h1, h2, -⟩ := run_inv ops₁ {} inv_init hdoc.1
  exact ⟨h1, h2⟩

/-- non-vacuity: a lifecycle with a size query, a singular factorization, an out-of-space return, a
successful factorization, two re-factorizations, solves, and everything destroyed -/
def sampleLifecycle : List Op := [
  .createMat 0, .createDense 0, .createDense 1, .statInit 0,
  .gssvx 0 true .dofact false .query,
  .gssvx 0 true .dofact false .oos,
  .gssvx 0 true .dofact false .singular,
  .destroy (.facL 0 false), .destroy (.facU 0 false),
  .gssvx 0 true .dofact false .ok,
  .gssvx 0 true .factored false .ok,
  .gssvx 0 true .sameRowPerm false .ok,
  .destroy (.facL 0 false), .destroy (.facU 0 false),
  .gssvx 0 true .samePattern false .ok,
  .gstrs, .gsrfs, .gscon, .querySpace,
  .getPermC, .preorder 1, .gstrf 1 .dofact false .ok, .gstrf 1 .sameRowPerm false .singular,
  .destroy (.acview 1), .destroy (.facL 1 false), .destroy (.facU 1 false),
  .destroy (.facL 0 false), .destroy (.facU 0 false),
  .destroy (.stat 0), .destroy (.dense 0), .destroy (.dense 1), .destroy (.mat 0)]

example : documentedAll {} sampleLifecycle = true ∧ (run {} sampleLifecycle).handed = [] ∧
    (run {} sampleLifecycle).liveCount = 0 := by decide

/-- and the preconditions matter: destroying L twice is recorded as a double free -/
example : (run {} [.gssv 0 false .ok, .destroy (.facL 0 false), .destroy (.facL 0 false)]).dfree = 7 := by decide

open Slu.Ledger.Grow

theorem growUntil_spec (strict : Bool) (need : Nat) (gs : List Grant) :
    ∀ cap c, growUntil strict need cap gs = some c →
      cap ≤ c ∧ (if strict then need < c else need ≤ c) := by
  intro cap c h
  fun_induction growUntil strict need cap gs with
  | case1 cap gs hc => cases h; exact ⟨Nat.le_refl _, hc⟩
  | case2 => cases h
  | case3 => cases h
  | case4 cap d rest hc ih => exact ⟨by have := (ih h).1; omega, (ih h).2⟩

theorem writesRange_lt {start len cap : Nat} (h : start + len ≤ cap) :
    ∀ w ∈ writesRange start len cap, w.1 < w.2 := by
  intro w hw
  simp only [writesRange, List.mem_map, List.mem_range] at hw
  obtain ⟨i, hi, rfl⟩ := hw
  simp only
  omega

/-- state invariant of the `lsub` protocol: one free slot, unless an expansion failed -/
def GInv (g : G) : Prop := g.failed = true ∨ g.next < g.cap

theorem gstep_inv (g : G) (op : GOp) (h : GInv g) :
    GInv (gstep g op).1 ∧ ∀ w ∈ (gstep g op).2, w.1 < w.2 := by
  cases hf : g.failed with
  | true => rw [gstep_of_failed hf]; exact ⟨h, nofun⟩
  | false =>
    have hlt : g.next < g.cap := h.resolve_left (by simp [hf])
    cases op with
    | append gr =>
      have hw : ∀ w ∈ [(g.next, g.cap)], w.1 < w.2 := by simpa using hlt
      simp only [gstep, hf, Bool.false_eq_true, if_false]
      split
      · cases gr with
        | none => exact ⟨Or.inl rfl, hw⟩
        | some d => exact ⟨Or.inr (Nat.succ_lt_succ (Nat.lt_add_right d hlt)), hw⟩
      · next hc => exact ⟨Or.inr (Nat.lt_of_not_le hc), hw⟩
    | copyTail len gs =>
      simp only [gstep, hf, Bool.false_eq_true, if_false]
      cases hg : growUntil true (g.next + len) g.cap gs with
      | none => exact ⟨Or.inl rfl, nofun⟩
      | some c =>
        have h2 := (growUntil_spec true _ gs _ _ hg).2
        exact ⟨Or.inr h2, writesRange_lt (Nat.le_of_lt h2)⟩
    | compress drop keep =>
      simp only [gstep, hf, Bool.false_eq_true, if_false]
      -- the `k` entries kept end where the shortened array ends, at `next - d < cap`
      refine ⟨Or.inr (Nat.lt_of_le_of_lt (Nat.sub_le _ _) hlt), writesRange_lt ?_⟩
      rw [Nat.sub_add_cancel (Nat.min_le_right _ _)]
      exact Nat.le_trans (Nat.sub_le _ _) (Nat.le_of_lt hlt)

/-- **Every write (append, pruning copy, compression) is below the current capacity**, for every operation sequence and every
pattern of expansion grants / failures, starting from any state with a free slot. -/
theorem growth_capacity_inv (ops : List GOp) :
    ∀ g : G, GInv g → GInv (grun g ops).1 ∧ ∀ w ∈ (grun g ops).2, w.1 < w.2 := by
  induction ops with
  | nil => exact fun g h => ⟨h, nofun⟩
  | cons op rest ih =>
    intro g h
    obtain ⟨h1, h2⟩ := gstep_inv g op h
    obtain ⟨h3, h4⟩ := ih _ h1
    exact ⟨h3, List.forall_mem_append.2 ⟨h2, h4⟩⟩

/-- `ucol/usub`: reserving (`while (new_next > nzumax) expand`) then writing stays below the capacity and
re-establishes `next ≤ cap` -/
theorem reserve_capacity_inv (g : G) (len : Nat) (gs : List Grant) :
    ((reserve g len gs).1.failed = true ∨ (reserve g len gs).1.next ≤ (reserve g len gs).1.cap) ∧
    ∀ w ∈ (reserve g len gs).2, w.1 < w.2 := by
  unfold reserve
  cases hf : g.failed with
  | true => exact ⟨Or.inl hf, nofun⟩
  | false =>
    simp only [Bool.false_eq_true, if_false]
    cases hg : growUntil false (g.next + len) g.cap gs with
    | none => exact ⟨Or.inl rfl, nofun⟩
    | some c =>
      have h2 := (growUntil_spec false _ gs _ _ hg).2
      exact ⟨Or.inr h2, writesRange_lt h2⟩

/-- D8: with the earlier loop test (`while (new_next > nzlmax)`) the pruning copy may leave
`next = cap`, and the next append writes `lsub[cap]` -/
theorem growth_old_test_overflows :
    let g0 : G := { next := 2, cap := 4 }
    let g1 := (gstepOld g0 (.copyTail 2 [])).1
    g1.next = g1.cap ∧ (gstep g1 (.append (some 3))).2 = [(4, 4)] := by
  decide

example : GInv { next := 0, cap := 1 } := Or.inr (by decide)

/-! ### Every locally allocated block is released or handed over on every path (regenerated from the source on every run)

`lifecycle_no_leak` is about the specification `Slu.Ledger.step`; `tools/leakscan.py`, which is trusted, establishes the
corresponding facts about the C text.  From the clang syntax tree of every file of SRC/ it lists every call of an
allocating function (the set is derived from the source: whatever returns what `malloc` returned, transitively, or
stores a fresh block through a parameter) and decides, by a path-sensitive may-analysis over the control-flow graph of
the enclosing function, whether on every path from the allocation to an exit the block is freed, or handed over, or the
allocation itself failed.  A hand-over is: stored through an output parameter or into an object reachable from a
parameter, returned, or given to a callee that stores it into its own parameters (`[sdcz]Create_*_Matrix`).  A release
under a condition counts only when the condition provably has the value it had at the allocation: the analysis keeps
`== c` / `∉ {c…}` facts about the tested variables and `p->f` paths and drops them at every write, at `&g`, at every
call once `&g` exists, and (for `p->f`) at every call that may assign a field of that name. -/

open Slu.Gen

/-- the four precisions of a routine family: `prec4 "" "gstrf"` = sgstrf, dgstrf, cgstrf, zgstrf -/
def prec4 (pre post : String) : List String := ["s", "d", "c", "z"].map fun p => pre ++ p ++ post

/-- Exits that leak and are GENUINE, OPEN defects of the unchanged library (reported, see DESIGN.md 12.4 and
known_findings.json; not repaired because the repair is not small).  They are listed by finding, never
excused as benign: `siteOk` accepts exactly these exits of these variables (plain early `return`s: an exit that
skipped a guarded release, `bypass ≠ ""`, is never accepted here), so that every OTHER leaking path of the same
routines still fails the theorem. -/
structure KnownLeak where
  finding : String         -- name of the open finding
  files : List String
  funcs : List String
  vars : List String
  exit : String
  causeCalls : List String -- the `return` sits under `if (<call of one of these> fails)`
  causes : List String     -- or under exactly one of these conditions

def knownLeakSites : List KnownLeak := [
  /- D9 (open finding "[sdcz]gstrf/[sdcz]gsitrf return early when a growth request fails under library
     allocation and leak their work arrays, the pointer arrays, ..."): `if ((*info = Xsnode_dfs(..)) != 0) return;`
     and the like at [sdcz]gstrf.c:317,327,388,398,403 and [sd]gsitrf.c:391,401,476,481,495,502,539 ([cz]: two lines on) leave
     without releasing iperm_r, iperm_c, relax_end, xplore, xprune, … (freed only at the end of the routine). -/
  { finding := "D9-growth-failure-returns",
    files := prec4 "SRC/" "gstrf.c" ++ prec4 "SRC/" "gsitrf.c",
    funcs := prec4 "" "gstrf" ++ prec4 "" "gsitrf",
    vars := ["iperm_r", "iperm_c", "relax_end", "xplore", "xprune", "marker_relax", "swap", "iswap", "relax_fsupc", "amax",
             "swork2", "dwork2"],
    exit := "return",
    causeCalls := prec4 "" "snode_dfs" ++ prec4 "" "LUMemXpand" ++ prec4 "" "column_dfs" ++ prec4 "" "column_bmod" ++
                  prec4 "" "copy_to_ucol" ++ prec4 "ilu_" "snode_dfs" ++ prec4 "ilu_" "column_dfs" ++ prec4 "ilu_" "copy_to_ucol",
    causes := ["error"] }      -- [sd]gsitrf.c:494-495 `int error = XLUMemXpand(..); if (error) { *info = error; return; }`
  /- NOT listed, so that the theorem fails if either comes back: the `nzlumax < annz` return of [sdcz]LUMemInit, which
     releases xsup/supno/xlsub/xlusup/xusub under library allocation since /repo 71213ea, and the quick return of
     sp_[sdcz]trsv for an empty factor, which releases `work` since /repo 76975ed (reproducer of the two earlier
     leaks: findings/L1_static_leaks.c, 1 and 5 blocks). -/
]

/-- Reviewed exceptions: exits the scanner reports because it cannot establish a fact, where the block IS
released.  One entry per idiom, each matching only the exact exit description (kind, condition of the `return`,
condition of the skipped release), so that a new early return or a changed guard in the same routine is not
covered. -/
structure Reviewed where
  files : List String
  funcs : List String
  vars : List String
  exit : String
  cause : String
  bypass : String
  why : String

def reviewedSites : List Reviewed := [
  /- [sdcz]gssv.c:183-185/247-250, [sdcz]gssvx.c:499-501/580-583/665-668, [sdcz]gsisx.c:537-539/672-675 and its end:
     `if ( A->Stype == SLU_NR ) { AA = SUPERLU_MALLOC(..); XCreate_CompCol_Matrix(AA, ..) }` … the same test
     `if ( A->Stype == SLU_NR ) { Destroy_SuperMatrix_Store(AA); SUPERLU_FREE(AA); }` before every exit.  The scanner
     drops the fact `A->Stype == SLU_NR` because routines called in between assign a field named Stype
     (XCreate_*_Matrix on AA, AC, L, U — all distinct from the input matrix A, whose header no library routine
     writes).  Not a leak; a different exit, or a different guard, is not covered by these entries. -/
  { files := prec4 "SRC/" "gssv.c" ++ prec4 "SRC/" "gssvx.c" ++ prec4 "SRC/" "gsisx.c",
    funcs := prec4 "" "gssv" ++ prec4 "" "gssvx" ++ prec4 "" "gsisx", vars := ["AA"],
    exit := "end", cause := "", bypass := "A->Stype == SLU_NR",
    why := "same test of the input header A->Stype at allocation and release; A's header is never written" },
  { files := prec4 "SRC/" "gssvx.c", funcs := prec4 "" "gssvx", vars := ["AA"],
    exit := "return", cause := "*info > 0", bypass := "A->Stype == SLU_NR",
    why := "singular / out-of-space return: same test as at the allocation" },
  { files := prec4 "SRC/" "gsisx.c", funcs := prec4 "" "gsisx", vars := ["AA"],
    exit := "return", cause := "*info > A->ncol", bypass := "A->Stype == SLU_NR",
    why := "out-of-space return: same test as at the allocation" },
  /- get_perm_c.c: getata (lines 227-232) / at_plus_a (lines 357-362) allocate `*b_rowind` only `if ( *bnz )`, and
     get_perm_c releases it only inside `if ( bnz != 0 ) { … SUPERLU_FREE(b_rowind); }`; bnz is written by the callee
     through `&bnz` in the allocating call itself and by nothing afterwards.  The scanner treats the conditional
     allocation in the callee as unconditional.  (b_colptr, allocated unconditionally, has no entry here.) -/
  { files := ["SRC/get_perm_c.c"], funcs := ["get_perm_c"], vars := ["b_rowind"],
    exit := "end", cause := "", bypass := "bnz != 0",
    why := "allocated by the callee iff *bnz != 0, freed iff bnz != 0" },
  /- ilu_[sdcz]copy_to_ucol.c:174-186: `work0 = work; if (m > n) work = XMalloc(m); … if ( work != work0 ) { SUPERLU_FREE(work);
     work = work0; }` — the fresh block is never equal to the caller's array work0, so the release is taken exactly
     when the allocation was.  Pointer (in)equality with a fresh block is not a fact the scanner keeps. -/
  { files := prec4 "SRC/ilu_" "copy_to_ucol.c", funcs := prec4 "ilu_" "copy_to_ucol", vars := ["work"],
    exit := "return", cause := "", bypass := "work != work0",
    why := "released iff the pointer differs from the caller's array, i.e. iff it was allocated" },
  /- [sdcz]memory.c:236-247/281-293 (XLUMemInit): `if ( Glu->MemModel == SYSTEM ) { xsup = int32Malloc(..); … }` and, on the
     `nzlumax < annz` return, `if ( Glu->MemModel == SYSTEM ) { SUPERLU_FREE(xsup); … }` (release added by /repo 71213ea;
     in a caller work area the five arrays are pieces of that area and must not be freed).  Glu->MemModel is written
     only by XSetupSpace, which this arm of XLUMemInit calls once, before the allocation, and in the other arm of
     XLUMemInit (SamePattern_SameRowPerm, lines 322-327); the scanner drops the fact because Glu is passed to Xexpand
     in between and a field named MemModel is assigned somewhere in the library. -/
  { files := prec4 "SRC/" "memory.c", funcs := prec4 "" "LUMemInit", vars := ["xsup", "supno", "xlsub", "xlusup", "xusub"],
    exit := "return", cause := "nzlumax < annz", bypass := "Glu->MemModel == SYSTEM",
    why := "same test of Glu->MemModel at allocation and release; nothing between the two writes it" }
]

/-- Reviewed sites whose record carries a flag rather than a leaking exit. -/
structure ReviewedFlag where
  files : List String
  funcs : List String
  var : String
  kind : String
  flag : String          -- escapes | other
  why : String

def reviewedFlags : List ReviewedFlag := [
  /- [sd]gsrfs.c:223,267-271,454-457 ([cz]: 461-464): `work` is also stored into the local dense-matrix header Bjcol
     (`Bjcol_store->nzval = work; /* address aliasing */`) that is passed to Xgstrs (which frees nothing); both
     `work` and `Bjcol.Store` are released once at the end (SUPERLU_FREE(work); SUPERLU_FREE(Bjcol.Store)) and the
     routine has no early return after the allocations.  Memory of local structs is not followed by the scanner. -/
  { files := prec4 "SRC/" "gsrfs.c", funcs := prec4 "" "gsrfs", var := "work", kind := "local", flag := "escapes",
    why := "address also kept in the local header Bjcol; freed once through `work`" },
  { files := prec4 "SRC/" "gsrfs.c", funcs := prec4 "" "gsrfs", var := "Bjcol.Store", kind := "other", flag := "other",
    why := "block held in a field of a local struct; freed by SUPERLU_FREE(Bjcol.Store) before the only exit" }
]

/-- Routines that are DOCUMENTED to release what their argument holds (the `destroy` events of `Slu.Ledger`), and
the storage layer's own bookkeeping.  Every other release of something reached from a parameter fails `siteOk`. -/
def documentedReleasers : List String :=
  ["superlu_free", "Destroy_SuperMatrix_Store", "Destroy_CompCol_Matrix", "Destroy_CompRow_Matrix",
   "Destroy_SuperNode_Matrix", "Destroy_CompCol_Permuted", "Destroy_Dense_Matrix", "StatFree"] ++
  prec4 "" "LUWorkFree" ++      -- releases the work arrays handed out by XLUWorkInit (library allocation)
  prec4 "" "LUMemInit" ++       -- Glu->expanders, allocated by the same call a few lines earlier, on its failure returns
  prec4 "" "expand" ++          -- the old copy of a grown array (library allocation), [sdcz]memory.c
  ["finalize_disjoint_sets"]    -- sp_coletree.c: the array of initialize_disjoint_sets, static helpers of one routine

/-- `ilu_[sdcz]copy_to_ucol` frees its parameter VARIABLE `work` only after having re-pointed it to its own block (see
`reviewedSites`); the caller's array is never freed. -/
def reviewedParamFrees : List (String × String) := (prec4 "ilu_" "copy_to_ucol").map fun f => (f, "work")

def exitKnown (s : LeakSite) (l : LeakExit) : Bool :=
  knownLeakSites.any fun k =>
    k.files.contains s.file && k.funcs.contains s.func && k.vars.contains s.var && l.exit == k.exit &&
    (k.causeCalls.contains l.causeCall || k.causes.contains l.cause) && l.bypass == "" && !l.unstable

def exitReviewed (s : LeakSite) (l : LeakExit) : Bool :=
  reviewedSites.any fun r =>
    r.files.contains s.file && r.funcs.contains s.func && r.vars.contains s.var && l.exit == r.exit &&
    l.cause == r.cause && l.bypass == r.bypass

def flagReviewed (s : LeakSite) (flag : String) : Bool :=
  reviewedFlags.any fun r =>
    r.files.contains s.file && r.funcs.contains s.func && r.var == s.var && r.kind == s.kind && r.flag == flag

def siteOk (s : LeakSite) : Bool :=
  if s.kind == "local" || s.kind == "outparam" then
    -- analysed: understood, never freed twice or after a hand-over, never overwritten while live, never given to a routine
    -- that frees the caller's arrays it borrowed, and every exit reached with the block live is an open finding or a
    -- reviewed exception
    !s.notUnderstood && !s.doubleFree && !s.freeAfterHandover && !s.lost && !s.addrTaken && !s.toGlobal && !s.freesBorrowed &&
    (!s.escapes || flagReviewed s "escapes") && s.leaks.all fun l => exitKnown s l || exitReviewed s l
  else if s.kind == "stored" || s.kind == "returned" then
    -- handed to the caller at birth (through a parameter / the return value), not parked in a global
    s.handedOver && !s.toGlobal
  else if s.kind == "paramfree" then
    documentedReleasers.contains s.func || reviewedParamFrees.contains (s.func, s.var)
  else if s.kind == "inactive" then true        -- text the preprocessor removes in both analysed configurations
  else flagReviewed s "other"

/-- **C19 `no_local_block_escapes_unreleased`**: in the current source, for every allocation call of SRC/ and every
path of the enclosing function from that call to an exit of the function, the block is freed exactly once, or
handed over to the caller / to an owning object, or the allocation had failed — except on the exits listed, by
finding, in `knownLeakSites` (genuine open defects) and the five reviewed idioms (six entries of `reviewedSites`, two of
`reviewedFlags`); and nothing reached from a parameter is freed outside the documented releasing routines.

What this establishes: the "call-internal blocks do not survive the call" (`temp = 0`) and "nothing freed that the
caller owns" halves of the ledger specification hold of the TEXT of each routine, for every path its control-flow
graph has, on every run (an `if`-guarded release counts only when the guard provably kept its value).  What it
does **not** establish: anything about blocks kept in memory the scanner does not follow (arrays of pointers,
fields of local structs — flagged, two reviewed cases), or about the run-time counts per object (the ledger harness
compares those); what a `Destroy_*` routine frees relative to what the object holds is the subject of
`destroy_frees_what_is_owned` below.
The scanner is trusted (built-in self test; allocation calls of the syntax tree cross-checked line by line with
the text of every file; errs towards reporting). -/
theorem no_local_block_escapes_unreleased : ∀ s ∈ leakSites, siteOk s = true := by
  -- compared by `key`, every string of a record and of the lists of exceptions is read once, not once per comparison
  simp only [siteOk, exitKnown, exitReviewed, flagReviewed, beq_key, contains_key]
  decide +kernel

/-- the scan succeeded and saw the whole library: its self check passed, all of SRC/ was parsed, the allocator set
contains the primitives, and the table has (at least) the expected number of analysed sites — it cannot silently
become empty or partial.  The numbers are floors a little under the counts of the pinned tree (182 files, 495 functions,
363 allocation calls, 455 records). -/
theorem leak_scan_complete :
    leakOk = true ∧ 180 ≤ leakFiles ∧ 480 ≤ leakFunctions ∧ 355 ≤ leakAllocCalls ∧ 440 ≤ leakSites.length ∧
    305 ≤ (leakSites.filter fun s => s.kind == "local" || s.kind == "outparam").length ∧
    60 ≤ (leakSites.filter fun s => s.kind == "paramfree").length ∧
    (["superlu_malloc", "intMalloc", "int32Malloc", "intCalloc", "int32Calloc", "floatMalloc", "doubleMalloc",
      "singlecomplexMalloc", "doublecomplexMalloc", "mxCallocInt", "TreePostorder"].all leakAllocators.contains) = true ∧
    (["SetIWork", "at_plus_a", "getata"].all leakOutAllocators.contains) = true ∧
    ((prec4 "" "Create_CompCol_Matrix" ++ prec4 "" "Create_SuperNode_Matrix" ++ prec4 "" "Create_Dense_Matrix").all
      leakOwners.contains) = true := by
  decide +kernel

/-! Non-vacuity: records that fail `siteOk`. -/

/-- the `usepr` change (a release of `iperm_r` guarded by a flag that XpivotL clears through `&usepr`) -/
example : siteOk {
    file := "SRC/dgstrf.c", func := "dgstrf", line := 272, var := "iperm_r", allocator := "int32Malloc", kind := "local",
    releasedOnAllPaths := false, freed := true, handedOver := false, nullChecked := false, unstableGuard := true, doubleFree := false,
    freeAfterHandover := false, lost := false, escapes := false, addrTaken := false, notUnderstood := false, toGlobal := false,
    freesParam := false, freesBorrowed := false,
    leaks := [{ exit := "end", line := 0, cause := "", causeCall := "", bypass := "usepr", unstable := true }] } = false := by decide +kernel

/-- an early return that skips the frees, in a routine without an open finding -/
example : siteOk {
    file := "SRC/dldperm.c", func := "dldperm", line := 118, var := "iw", allocator := "int32Malloc", kind := "local",
    releasedOnAllPaths := false, freed := true, handedOver := false, nullChecked := true, unstableGuard := false, doubleFree := false,
    freeAfterHandover := false, lost := false, escapes := false, addrTaken := false, notUnderstood := false, toGlobal := false,
    freesParam := false, freesBorrowed := false,
    leaks := [{ exit := "return", line := 160, cause := "info[0] == 1", causeCall := "", bypass := "", unstable := false }] } = false := by decide +kernel

/-- a NEW early return in a routine that has an open finding is not covered by it (different cause) -/
example : siteOk {
    file := "SRC/dgstrf.c", func := "dgstrf", line := 276, var := "iperm_c", allocator := "int32Malloc", kind := "local",
    releasedOnAllPaths := false, freed := true, handedOver := false, nullChecked := false, unstableGuard := false, doubleFree := false,
    freeAfterHandover := false, lost := false, escapes := false, addrTaken := false, notUnderstood := false, toGlobal := false,
    freesParam := false, freesBorrowed := false,
    leaks := [{ exit := "return", line := 300, cause := "m == 0", causeCall := "", bypass := "", unstable := false }] } = false := by decide +kernel

/-- a double free, a header around the caller's arrays destroyed deeply, and a routine that frees its caller's array -/
example : siteOk {
    file := "SRC/dgscon.c", func := "dgscon", line := 130, var := "work", allocator := "doubleCalloc", kind := "local",
    releasedOnAllPaths := true, freed := true, handedOver := false, nullChecked := false, unstableGuard := false, doubleFree := true,
    freeAfterHandover := false, lost := false, escapes := false, addrTaken := false, notUnderstood := false, toGlobal := false,
    freesParam := false, freesBorrowed := false, leaks := [] } = false := by decide +kernel

example : siteOk {
    file := "SRC/cgssvx.c", func := "cgssvx", line := 501, var := "AA", allocator := "superlu_malloc", kind := "local",
    releasedOnAllPaths := true, freed := true, handedOver := false, nullChecked := false, unstableGuard := false, doubleFree := false,
    freeAfterHandover := false, lost := false, escapes := false, addrTaken := false, notUnderstood := false, toGlobal := false,
    freesParam := false, freesBorrowed := true, leaks := [] } = false := by decide +kernel

example : siteOk {
    file := "SRC/dgstrs.c", func := "dgstrs", line := 200, var := "perm_c", allocator := "superlu_free", kind := "paramfree",
    releasedOnAllPaths := true, freed := true, handedOver := false, nullChecked := false, unstableGuard := false, doubleFree := false,
    freeAfterHandover := false, lost := false, escapes := false, addrTaken := false, notUnderstood := false, toGlobal := false,
    freesParam := true, freesBorrowed := false, leaks := [] } = false := by decide +kernel


/-! ### What each Destroy_* frees is what the object owns; what each constructor stores is what the specification says (regenerated from the source on every run)

`lifecycle_no_leak` counts blocks per OBJECT (`Obj.blocks`), and `destroy o` removes all of them.  The table
`Slu.Ledger.allSpecs` names those blocks as access paths, with their origin, constructor(s) and documented releaser;
`tools/ownscan.py` extracts from the clang syntax tree of every file of SRC/ which access paths each routine releases
(with the enclosing conditions, double release, use after release) and which it sets to a fresh block or to a pointer it
was handed (`Slu/Gen/Ownership.lean`).  The theorems below compare the two, by kernel evaluation over the regenerated
table. -/

/-- Disagreements between the source and the specification in which the SOURCE is at fault (a path the documented releaser
never frees), by finding of known_findings.json.  None: on the pinned tree the ten object
specifications and the text of their releasers / constructors agree (the early returns of [sdcz]gstrf that skip
`[sdcz]LUWorkFree`, open finding D9, are leaking EXITS of a routine, listed in `knownLeakSites` above, not a path missing
from a releaser).  An entry here excuses exactly one (releaser, path) pair and must name its finding. -/
structure OwnershipGap where
  finding : String
  releaser : String
  path : String
deriving DecidableEq

def knownOwnershipGaps : List OwnershipGap := []

def releaserRecs (routine : String) : List OwnRec :=
  ownTable.filter fun r => r.role == "releaser" && r.routine == routine

def ctorRecs (routine param : String) : List OwnRec :=
  ownTable.filter fun r => r.role == "constructor" && r.routine == routine && r.param == param

/-- the documented releaser of `s` frees, unconditionally and in its own text, paths of its one parameter that the
specification says the object owns, none twice, none used after its release - and every owned path exactly once
(unless the pair is an open finding of `knownOwnershipGaps`) -/
def releaserOkOn (tbl : List OwnRec) (s : ObjSpec) : Bool :=
  let rs := tbl.filter fun r => r.role == "releaser" && r.routine == s.releaser
  (rs.all fun r => r.param == s.releaserParam && (specOwned s).contains r.path && r.guard == [] && r.via == "" &&
                   r.kind == "freed" && !r.twice && !r.useAfterFree) &&
  ((specOwned s).all fun p =>
    (rs.filter fun r => r.path == p).length == 1 ||
    ((rs.filter fun r => r.path == p).length == 0 && knownOwnershipGaps.any fun g => g.releaser == s.releaser && g.path == p))

def releaserOk (s : ObjSpec) : Bool := releaserOkOn ownTable s

def originOk (o : Origin) (r : OwnRec) : Bool :=
  match o with
  | .lib => r.kind == "fresh"
  | .caller a => r.kind == "borrowed" && r.source == a
  | .glu f => r.kind == "borrowed" && r.source == "Glu->" ++ f
  | .view src => r.kind == "borrowed" && r.source == src

/-- constructor `c` (routine, parameter) sets every path of the specification, each time from the origin the specification
names (fresh block / the caller's array of that name / that array of Glu / that field of the other object), and stores no
other pointer into the object -/
def ctorOkOn (tbl : List OwnRec) (s : ObjSpec) (c : String × String) : Bool :=
  let rs := tbl.filter fun r => r.role == "constructor" && r.routine == c.1 && r.param == c.2
  (s.paths.all fun p => (rs.any fun r => r.path == p.path) && ((rs.filter fun r => r.path == p.path).all (originOk p.origin))) &&
  (rs.all fun r => s.paths.any fun p => p.path == r.path)

def ctorOk (s : ObjSpec) (c : String × String) : Bool := ctorOkOn ownTable s c

/-- The arrays of `GlobalLU_t` that [sdcz]gstrf wraps into L and U: (field of Glu, the object and path it becomes).  -/
def gluArrays : List (String × String) :=
  [("lusup", "L->Store->nzval"), ("xlusup", "L->Store->nzval_colptr"), ("lsub", "L->Store->rowind"), ("xlsub", "L->Store->rowind_colptr"),
   ("supno", "L->Store->col_to_sup"), ("xsup", "L->Store->sup_to_col"), ("ucol", "U->Store->nzval"), ("usub", "U->Store->rowind"),
   ("xusub", "U->Store->colptr")]

/-- `[sdcz]LUMemInit` (own text) fills `Glu->f` from the allocator only under `Glu->MemModel == SYSTEM`, from the caller's
work area only in the other arm, from the growable storage layer ([sdcz]expand: C07/C08), or - re-factorization with
`SamePattern_SameRowPerm` - with the very array the existing L / U holds at the path `f` is wrapped into (`back`): the
round trip Glu -> L/U -> Glu is the identity on names -/
def gluFieldOkOn (tbl : List OwnRec) (memInit f back : String) : Bool :=
  let rs := tbl.filter fun r => r.role == "constructor" && r.routine == memInit && r.param == "Glu" && r.path == f && r.via == ""
  (rs.any fun r => r.kind == "fresh" || r.kind == "storage") &&
  rs.all fun r =>
    (r.kind == "fresh" && r.guard.contains "Glu->MemModel == SYSTEM") ||
    (r.kind == "workarea" && r.guard.contains "!(Glu->MemModel == SYSTEM)") ||
    r.kind == "storage" ||
    (r.kind == "borrowed" && r.source == back && r.guard.contains "!(fact != SamePattern_SameRowPerm)")

/-- `[sdcz]LUWorkFree(iwork, dwork, Glu)`: the two work arrays under library allocation only, `Glu->expanders` always; and
`[sdcz]LUMemInit` is where `Glu->expanders` is allocated, unconditionally -/
def workFreeOkOn (tbl : List OwnRec) (p : String) : Bool :=
  let rs := tbl.filter fun r => r.role == "releaser" && r.routine == p ++ "LUWorkFree"
  (rs.map fun r => (r.param, r.path, r.guard)) ==
    [("iwork", "", ["Glu->MemModel == SYSTEM"]), ("dwork", "", ["Glu->MemModel == SYSTEM"]), ("Glu", "expanders", [])] &&
  (rs.all fun r => !r.twice && !r.useAfterFree) &&
  (tbl.any fun r => r.role == "constructor" && r.routine == p ++ "LUMemInit" && r.param == "Glu" && r.path == "expanders" &&
                    r.kind == "fresh" && r.guard == [] && r.via == "")

/-- routines that hand the caller three fresh arrays through output parameters (which `[sdcz]Create_CompCol_Matrix` then
wraps): (routine, its three output parameters) -/
def arrayProducers : List (String × List String) :=
  (prec4 "" "allocateA").map (·, ["a", "asub", "xa"]) ++ (prec4 "" "CompRow_to_CompCol").map (·, ["at", "rowind", "colptr"]) ++
  (prec4 "" "readhb" ++ prec4 "" "readrb" ++ prec4 "" "readtriple" ++ prec4 "" "readMM").map (·, ["nzval", "rowind", "colptr"])

def producerOkOn (tbl : List OwnRec) (c : String × List String) : Bool :=
  c.2.all fun prm =>
    let rs := tbl.filter fun r => r.role == "constructor" && r.routine == c.1 && r.param == prm && r.path == "*"
    !rs.isEmpty && rs.all fun r => r.kind == "fresh"

/-! Each of the predicates above selects the records of one routine (`workFreeOkOn`: of two; the routine is the second test of
every selection) and looks at nothing else, so it may be evaluated on `ofRoutines tbl [routine]`, which is
`ofRoutine tbl routine` (`ofRoutine_eq`).  The theorems below are evaluated in that form: a routine's records are then found
among the few runs of the table in its bucket, by comparing numbers, not by a string comparison per record. -/

theorem releaserOkOn_ofRoutines (tbl : List OwnRec) (s : ObjSpec) :
    releaserOkOn (ofRoutines tbl [s.releaser]) s = releaserOkOn tbl s := by
  unfold releaserOkOn
  rw [filter_ofRoutines]
  intro r hr
  simp only [Bool.and_eq_true, beq_iff_eq] at hr
  exact List.mem_singleton.2 hr.2

theorem workFreeOkOn_ofRoutines (tbl : List OwnRec) (p : String) :
    workFreeOkOn (ofRoutines tbl [p ++ "LUWorkFree", p ++ "LUMemInit"]) p = workFreeOkOn tbl p := by
  unfold workFreeOkOn
  rw [filter_ofRoutines, any_ofRoutines]
  · intro r hr
    simp only [Bool.and_eq_true, beq_iff_eq, and_assoc] at hr
    exact hr.2.1 ▸ List.mem_cons_of_mem _ List.mem_cons_self
  · intro r hr
    simp only [Bool.and_eq_true, beq_iff_eq] at hr
    exact hr.2 ▸ List.mem_cons_self

theorem ctorOkOn_ofRoutines (tbl : List OwnRec) (s : ObjSpec) (c : String × String) :
    ctorOkOn (ofRoutines tbl [c.1]) s c = ctorOkOn tbl s c := by
  unfold ctorOkOn
  rw [filter_ofRoutines]
  intro r hr
  simp only [Bool.and_eq_true, beq_iff_eq, and_assoc] at hr
  exact List.mem_singleton.2 hr.2.1

theorem gluFieldOkOn_ofRoutines (tbl : List OwnRec) (memInit f back : String) :
    gluFieldOkOn (ofRoutines tbl [memInit]) memInit f back = gluFieldOkOn tbl memInit f back := by
  unfold gluFieldOkOn
  rw [filter_ofRoutines]
  intro r hr
  simp only [Bool.and_eq_true, beq_iff_eq, and_assoc] at hr
  exact List.mem_singleton.2 hr.2.1

theorem producerOkOn_ofRoutines (tbl : List OwnRec) (c : String × List String) :
    producerOkOn (ofRoutines tbl [c.1]) c = producerOkOn tbl c := by
  have h : ∀ prm, ∀ r : OwnRec, (r.role == "constructor" && r.routine == c.1 && r.param == prm && r.path == "*") = true →
      r.routine ∈ [c.1] := by
    intro prm r hr
    simp only [Bool.and_eq_true, beq_iff_eq, and_assoc] at hr
    exact List.mem_singleton.2 hr.2.1
  simp only [producerOkOn, filter_ofRoutines (h _)]

theorem forall_routine_not_mem (tbl : List OwnRec) (xs : List String) :
    (∀ r ∈ tbl, r.routine ∉ xs) ↔ ofRoutines tbl xs = [] := by
  simp [ofRoutines_eq_filter]

/-- Everything `destroy_frees_what_is_owned` and `constructors_allocate_what_is_owned` ask of the regenerated table, each
predicate on the records of the routines it looks at, and the count of `ownership_scan_complete` that needs the routine of
every record.  One evaluation for the three: the kernel cuts the table into runs, and deals the runs into buckets, once. -/
theorem ownTable_checked :
    ((∀ s ∈ allSpecs, releaserOkOn (ofRoutine ownTable s.releaser) s = true) ∧
     (∀ p ∈ ["s", "d", "c", "z"], workFreeOkOn (ofRoutines ownTable [p ++ "LUWorkFree", p ++ "LUMemInit"]) p = true)) ∧
    ((∀ s ∈ allSpecs, ∀ c ∈ s.ctors, ctorOkOn (ofRoutine ownTable c.1) s c = true) ∧
     (∀ p ∈ ["s", "d", "c", "z"], ∀ g ∈ gluArrays,
       gluFieldOkOn (ofRoutine ownTable (p ++ "LUMemInit")) (p ++ "LUMemInit") g.1 g.2 = true) ∧
     (∀ c ∈ arrayProducers, producerOkOn (ofRoutine ownTable c.1) c = true) ∧
     ofRoutines ownTable (prec4 "" "Copy_CompCol_Matrix") = []) ∧
    24 = ((ofRoutines ownTable (allSpecs.map (·.releaser))).filter fun r =>
      r.role == "releaser" && (allSpecs.map (·.releaser)).contains r.routine).length := by
  decide +kernel

/-- **C19 `destroy_frees_what_is_owned`**: in the current source, for every object specification of
`Slu.Ledger.allSpecs` (CompCol, CompRow, Dense, SuperLUStat_t, the permuted view, SuperNode, and L and U under library
allocation and in a caller work area) the documented releaser - `Destroy_CompCol_Matrix`, `Destroy_CompRow_Matrix`,
`Destroy_Dense_Matrix`, `StatFree`, `Destroy_CompCol_Permuted`, `Destroy_SuperNode_Matrix`, `Destroy_SuperMatrix_Store` -
frees EXACTLY the access paths `specOwned` lists (header block included): each once, unconditionally, never a path
outside the list (so never the arrays a view shares with another object, never the work-area pieces), none twice, none
dereferenced after its release; `[sdcz]LUWorkFree` releases `Glu->expanders` always and the two work arrays under
library allocation only; and the block count of every ledger object is the number of its library-allocated paths. -/
theorem destroy_frees_what_is_owned :
    (∀ s ∈ allSpecs, releaserOk s = true) ∧
    (∀ p ∈ ["s", "d", "c", "z"], workFreeOkOn ownTable p = true) ∧
    (∀ o : Obj, ∀ s ∈ o.specs, s ∈ allSpecs ∧ o.blocks = (specLibrary s).length) := by
  rw [← and_assoc]
  constructor
  · simpa only [releaserOk, ofRoutine_eq, releaserOkOn_ofRoutines, workFreeOkOn_ofRoutines] using ownTable_checked.1
  · intro o s hs
    cases o with
    | mat h =>
      rcases List.mem_cons.1 hs with rfl | hs
      · exact ⟨by simp [allSpecs], rfl⟩
      · obtain rfl := List.mem_singleton.1 hs
        exact ⟨by simp [allSpecs], rfl⟩
    | facL h ws | facU h ws =>
      obtain rfl := List.mem_singleton.1 hs
      cases ws
      · exact ⟨by simp [allSpecs], rfl⟩
      · exact ⟨by simp [allSpecs], rfl⟩
    | dense h | stat h | acview h =>
      obtain rfl := List.mem_singleton.1 hs
      exact ⟨by simp [allSpecs], rfl⟩

/-- **C19 `constructors_allocate_what_is_owned`**: in the current source every documented constructor of every object
specification sets every path of the specification, from the origin the specification names - `[sdcz]Create_CompCol_Matrix`
allocates `Store` and BORROWS nzval / rowind / colptr (which `Destroy_CompCol_Matrix` later frees: the matrix takes the
caller's arrays over, documented SuperLU behaviour), `sp_preorder` allocates `Store`, `colbeg`, `colend` and shares A's
`nzval`, `rowind`, `[sdcz]gstrf` / `[sdcz]gsitrf` allocate the two `Store` headers (through `[sdcz]Create_SuperNode_Matrix` /
`[sdcz]Create_CompCol_Matrix`) around the nine arrays of Glu, … - and stores no other pointer into the object; the nine
arrays of Glu come, in `[sdcz]LUMemInit`, from the allocator exactly under `Glu->MemModel == SYSTEM`, from the work area
otherwise, or are the arrays of the existing L and U at the same paths; the readers, `[sdcz]allocateA` and
`[sdcz]CompRow_to_CompCol` hand out fresh arrays; `[sdcz]Copy_CompCol_Matrix` stores no pointer at all. -/
theorem constructors_allocate_what_is_owned :
    (∀ s ∈ allSpecs, ∀ c ∈ s.ctors, ctorOk s c = true) ∧
    (∀ p ∈ ["s", "d", "c", "z"], ∀ g ∈ gluArrays, gluFieldOkOn ownTable (p ++ "LUMemInit") g.1 g.2 = true) ∧
    (∀ c ∈ arrayProducers, producerOkOn ownTable c = true) ∧
    (∀ r ∈ ownTable, r.routine ∉ prec4 "" "Copy_CompCol_Matrix") := by
  simpa only [ctorOk, ofRoutine_eq, ctorOkOn_ofRoutines, gluFieldOkOn_ofRoutines, producerOkOn_ofRoutines, forall_routine_not_mem]
    using ownTable_checked.2.1

/-- the scan succeeded and saw the whole library: self check passed, every release of something reached from a parameter
got an access path, all of SRC/ was parsed, and the table has (at least) the expected numbers of records and of specified
objects - it cannot silently become empty or partial.  180, 480, 150 and 600 are floors a little under the counts of the
pinned tree (182, 495, 208, 819); the 24 releases by the documented releasers are exact. -/
theorem ownership_scan_complete :
    ownOk = true ∧ ownUnresolved = 0 ∧ 180 ≤ ownFiles ∧ 480 ≤ ownFunctions ∧
    150 ≤ (ownTable.filter fun r => r.role == "releaser").length ∧
    600 ≤ (ownTable.filter fun r => r.role == "constructor").length ∧
    24 = (ownTable.filter fun r => r.role == "releaser" && (allSpecs.map (·.releaser)).contains r.routine).length ∧
    allSpecs.length = 10 ∧ ((allSpecs.map fun s => (specOwned s).length) = [4, 4, 2, 3, 3, 7, 7, 1, 4, 1]) ∧
    ((allSpecs.map fun s => s.ctors.length) = [4, 4, 4, 1, 1, 4, 8, 8, 8, 8]) ∧ knownOwnershipGaps.length = 0 := by
  have h := ownTable_checked.2.2
  rw [filter_ofRoutines fun r hr => List.contains_iff_mem.1 (Bool.and_eq_true_iff.1 hr).2] at h
  rw [← h]
  decide +kernel

/-! Non-vacuity: tables that violate each predicate. -/

def sampleFree (routine path : String) (seq : Nat) : OwnRec :=
  { routine := routine, role := "releaser", param := "A", path := path, kind := "freed", source := "", guard := [], via := "",
    inType := "", seq := seq, line := 0, twice := false, useAfterFree := false }

def sampleStore (routine param path kind source : String) : OwnRec :=
  { routine := routine, role := "constructor", param := param, path := path, kind := kind, source := source, guard := [], via := "",
    inType := "", seq := 0, line := 0, twice := false, useAfterFree := false }

/-- the faithful text of `Destroy_Dense_Matrix` passes … -/
example : releaserOkOn [sampleFree "Destroy_Dense_Matrix" "Store->nzval" 0, sampleFree "Destroy_Dense_Matrix" "Store" 1] specDense = true := by decide +kernel
/-- … a `Destroy_Dense_Matrix` that forgets the header fails (a leak), … -/
example : releaserOkOn [sampleFree "Destroy_Dense_Matrix" "Store->nzval" 0] specDense = false := by decide +kernel
/-- … a `Destroy_CompCol_Permuted` that also frees the row indices it shares with A fails (frees what it does not own), … -/
example : releaserOkOn [sampleFree "Destroy_CompCol_Permuted" "Store->colbeg" 0, sampleFree "Destroy_CompCol_Permuted" "Store->colend" 1,
    sampleFree "Destroy_CompCol_Permuted" "Store->rowind" 2, sampleFree "Destroy_CompCol_Permuted" "Store" 3] specPermuted = false := by decide +kernel
/-- … a deep `Destroy_SuperMatrix_Store` fails for factors in a work area, … -/
example : releaserOkOn [sampleFree "Destroy_SuperMatrix_Store" "Store->nzval" 0, sampleFree "Destroy_SuperMatrix_Store" "Store" 1] (specU true) = false := by decide +kernel
/-- … as do a release under a condition, a double release and a use after the release. -/
example : releaserOkOn [{ sampleFree "Destroy_Dense_Matrix" "Store->nzval" 0 with guard := ["A->Stype == SLU_DN"] },
    sampleFree "Destroy_Dense_Matrix" "Store" 1] specDense = false := by decide +kernel
example : releaserOkOn [{ sampleFree "Destroy_Dense_Matrix" "Store" 0 with useAfterFree := true },
    sampleFree "Destroy_Dense_Matrix" "Store->nzval" 1] specDense = false := by decide +kernel
example : releaserOkOn [{ sampleFree "Destroy_Dense_Matrix" "Store->nzval" 0 with twice := true }, { sampleFree "Destroy_Dense_Matrix" "Store->nzval" 1 with twice := true },
    sampleFree "Destroy_Dense_Matrix" "Store" 2] specDense = false := by decide +kernel

/-- the faithful text of `dCreate_Dense_Matrix` passes; one that copies the caller's array into a fresh block (the caller's
array would then never be the matrix's, and `Destroy_Dense_Matrix` would free the copy only) fails; one that forgets to set
`nzval` fails; one that stores a further pointer fails -/
example : ctorOkOn [sampleStore "dCreate_Dense_Matrix" "X" "Store" "fresh" "superlu_malloc",
    sampleStore "dCreate_Dense_Matrix" "X" "Store->nzval" "borrowed" "x"] specDense ("dCreate_Dense_Matrix", "X") = true := by decide +kernel
example : ctorOkOn [sampleStore "dCreate_Dense_Matrix" "X" "Store" "fresh" "superlu_malloc",
    sampleStore "dCreate_Dense_Matrix" "X" "Store->nzval" "fresh" "doubleMalloc"] specDense ("dCreate_Dense_Matrix", "X") = false := by decide +kernel
example : ctorOkOn [sampleStore "dCreate_Dense_Matrix" "X" "Store" "fresh" "superlu_malloc"] specDense ("dCreate_Dense_Matrix", "X") = false := by decide +kernel
example : ctorOkOn [sampleStore "dCreate_Dense_Matrix" "X" "Store" "fresh" "superlu_malloc", sampleStore "dCreate_Dense_Matrix" "X" "Store->nzval" "borrowed" "x",
    sampleStore "dCreate_Dense_Matrix" "X" "Store->scale" "fresh" "doubleMalloc"] specDense ("dCreate_Dense_Matrix", "X") = false := by decide +kernel

/-- `Glu->xsup` allocated without the test of the memory model fails; so does a re-use of the wrong array of L -/
example : gluFieldOkOn [sampleStore "dLUMemInit" "Glu" "xsup" "fresh" "int32Malloc"] "dLUMemInit" "xsup" "L->Store->sup_to_col" = false := by decide +kernel
example : gluFieldOkOn [{ sampleStore "dLUMemInit" "Glu" "xsup" "fresh" "int32Malloc" with guard := ["Glu->MemModel == SYSTEM"] },
    { sampleStore "dLUMemInit" "Glu" "xsup" "borrowed" "L->Store->col_to_sup" with guard := ["!(fact != SamePattern_SameRowPerm)"] }]
    "dLUMemInit" "xsup" "L->Store->sup_to_col" = false := by decide +kernel
example : gluFieldOkOn [{ sampleStore "dLUMemInit" "Glu" "xsup" "fresh" "int32Malloc" with guard := ["Glu->MemModel == SYSTEM"] },
    { sampleStore "dLUMemInit" "Glu" "xsup" "borrowed" "L->Store->sup_to_col" with guard := ["!(fact != SamePattern_SameRowPerm)"] }]
    "dLUMemInit" "xsup" "L->Store->sup_to_col" = true := by decide +kernel

/-- a reader that hands back one of the caller's own arrays fails -/
example : producerOkOn [sampleStore "dreadhb" "nzval" "*" "fresh" "doubleMalloc", sampleStore "dreadhb" "rowind" "*" "fresh" "intMalloc",
    sampleStore "dreadhb" "colptr" "*" "borrowed" "work"] ("dreadhb", ["nzval", "rowind", "colptr"]) = false := by decide +kernel

end Slu.C19
