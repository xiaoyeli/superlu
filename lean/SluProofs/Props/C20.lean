import SluProofs.Lemmas.Bridge
import SluProofs.Lemmas.ArrayBasic
/-
C20 — Fortran-callable bridge: factor once, solve many, free all.

Theorems about the state machine `Slu.Bridge.step/run` (the model of `c_fortran_[sdcz]gssv_`), for an
arbitrary numerics parameter `N` (`factor` = get_perm_c ∘ sp_preorder ∘ gstrf with default options,
`solve` = gstrs(NOTRANS)), every operation sequence, any number of handles: the caller's arrays come back
unchanged, handles do not interfere, a solve through a handle is the C driver `gssv` on the matrix the handle was
made from (per trace and against a specification machine), and the ledger holds exactly the blocks of the live handles.
-/
namespace Slu.Bridge

variable {V F B : Type}

theorem find_erase_self {α : Type} (h : Handle) (l : List (Handle × α)) : find h (erase h l) = none := by
  rw [find_eq_find?, erase, List.find?_filter, List.find?_eq_none.2 (by simp)]
  rfl

theorem erase_length_lt {α : Type} (h : Handle) (l : List (Handle × α)) (v : α) (hf : find h l = some v) :
    (erase h l).length < l.length :=
  List.length_filter_lt_length_iff_exists.2 ⟨_, find_mem hf, by simp⟩

theorem shift1_shift0 (a : Array Int) : shift1 (shift0 a) = a :=
  map_map_cancel (fun x => Int.sub_add_cancel x 1) a

/-- **C20 (caller arrays).**  Whatever the state and the numerics, a factor request returns the
caller's 1-based arrays exactly as they were passed in, hands SuperLU the indices shifted to 0-based,
and yields the fresh handle `st.next`. -/
theorem factor_arrays_unchanged (N : Num V F B) (st : St F) (A : FMat V) :
    (step N st (Op.factor A)).2 = Out.factored st.next (N.factor (toC A)).2 A ∧
    (toC A).colptr = shift0 A.colptr ∧ (toC A).rowind = shift0 A.rowind ∧
    shift1 (toC A).colptr = A.colptr ∧ shift1 (toC A).rowind = A.rowind := by
  refine ⟨rfl, rfl, rfl, ?_, ?_⟩ <;> simp [toC, copyShift, shift1_shift0]

/-- **C20 (independence).**  If handle `h` holds `e` and the operation is not `free h`, then `h` still
holds `e` afterwards — whatever is factored, solved or freed through other handles. -/
theorem handles_independent (N : Num V F B) (st : St F) (hwf : WF st) (h : Handle) (e : Entry F)
    (hl : find h st.live = some e) (op : Op V B) (hop : ∀ k, op = Op.free k → k ≠ h) :
    find h (step N st op).1.live = some e := by
  cases op with
  | factor A => rwa [step_factor, find_cons, if_neg (Nat.ne_of_gt (hwf _ (find_mem hl)))]
  | solve k b => rwa [step_solve]
  | free k =>
    rw [step_free]
    split
    · rwa [find_erase_ne h k st.live (hop k rfl)]
    · exact hl

theorem handles_independent_run (N : Num V F B) (st : St F) (hwf : WF st) (h : Handle) (e : Entry F)
    (hl : find h st.live = some e) (ops : List (Op V B)) (hops : ∀ op ∈ ops, ∀ k, op = Op.free k → k ≠ h) :
    find h (run N st ops).1.live = some e := by
  induction ops generalizing st with
  | nil => exact hl
  | cons op ops ih =>
    exact ih _ (wf_step N st op hwf)
      (handles_independent N st hwf h e hl op (hops op List.mem_cons_self))
      (fun o ho => hops o (List.mem_cons_of_mem _ ho))

/-- **C20 (`bridge_refines_gssv`, trace form).**  Start from the empty bridge, run any operations
`pre`; factor `A` (its handle is `h`); run any operations `mid` over any handles, as long as `h` itself
is not freed; then `solve h b` returns exactly what the C simple driver `gssv` returns for `A` shifted
to 0-based (and is outside the protocol iff the factorization reported `info ≠ 0`). -/
theorem bridge_refines_gssv (N : Num V F B) (pre : List (Op V B)) (A : FMat V) (mid : List (Op V B)) (b : B)
    (hmid : ∀ op ∈ mid, ∀ k, op = Op.free k → k ≠ (run N init pre).1.next) :
    (step N (run N init (pre ++ [Op.factor A] ++ mid)).1 (Op.solve (run N init pre).1.next b)).2 =
      if (gssv N (toC A) b).2 = 0 then Out.solved (gssv N (toC A) b).1 else Out.err := by
  have hwf : WF (step N (run N init pre).1 (Op.factor A)).1 := wf_step N _ _ (wf_run N init pre wf_init)
  have hfind := handles_independent_run N _ hwf (run N init pre).1.next _
    (by rw [step_factor, find_cons, if_pos rfl]) mid hmid
  rw [run_append, run_append, show (run N _ [Op.factor A]).1 = (step N _ (Op.factor A)).1 from rfl,
    step_solve, hfind]
  simp only [gssv, entryOf]
  by_cases hi : (N.factor (toC A)).2 = 0 <;> simp [hi]

/-- **C20 (`bridge_refines_spec`).**  For every operation sequence the bridge produces exactly the
outputs of the specification machine, which keeps only "handle ↦ source matrix" and answers every
solve by running the C driver `gssv` on that matrix. -/
theorem bridge_refines_spec (N : Num V F B) (ops : List (Op V B)) :
    (run N init ops).2 = (specRun N specInit ops).2 := by
  rw [← ofSpec_specInit N, run_ofSpec]

/-- **C20 (`ledger_inv`).**  After every operation sequence the ledger holds exactly the blocks owned
by the handles that are still live (nothing else is left allocated by factor, solve or free). -/
theorem ledger_inv (N : Num V F B) (ops : List (Op V B)) : LedgerInv (run N init ops).1 := by
  rw [← ofSpec_specInit N, run_ofSpec]
  exact ledgerInv_ofSpec ..

/-- **C20 (`free_all_ledger_empty`).**  After any operation sequence, freeing every handle that is
still live leaves no live handle and an empty ledger: everything a handle owned is released. -/
theorem free_all_ledger_empty (N : Num V F B) (ops : List (Op V B)) :
    let st := (run N init ops).1
    let st' := (run N st (freeAll (V := V) (B := B) st.live.length st.live)).1
    st'.live = [] ∧ st'.ledger = [] := by
  intro st st'
  have hlive : st'.live = [] := run_freeAll N st.live.length st (Nat.le_refl _)
  have hl := ledger_inv N (ops ++ freeAll st.live.length st.live)
  rw [run_append] at hl
  exact ⟨hlive, hl.trans (hlive ▸ rfl)⟩

/-- toy numerics: the "factorization" of a matrix is its `values` field, solving adds it to b -/
def toyNum : Num Nat Nat Nat := { factor := fun A => (A.values, 0), solve := fun f b => f + b }
def toyA (v : Nat) : FMat Nat := { n := 1, colptr := #[1, 2], rowind := #[1], values := v }

example :
    (run toyNum init [Op.factor (toyA 10), Op.factor (toyA 20), Op.solve 0 1, Op.free 0, Op.solve 1 2,
      Op.solve 0 3, Op.free 1]).2.map (fun o => match o with
        | Out.factored h i _ => (0, h, i) | Out.solved b => (1, b, 0) | Out.freed => (2, 0, 0) | Out.err => (3, 0, 0))
    = [(0, 0, 0), (0, 1, 0), (1, 11, 0), (2, 0, 0), (1, 22, 0), (3, 0, 0), (2, 0, 0)] := by
  decide +kernel

example : (run toyNum init [Op.factor (toyA 10), Op.factor (toyA 20), Op.solve 0 1]).1.ledger.length = 32 := by
  decide +kernel

end Slu.Bridge
