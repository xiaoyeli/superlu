import SluProofs.Lemmas.RoundingEquil
import SluProofs.Lemmas.RoundingAlg
import SluProofs.Lemmas.RoundingGemv
import SluProofs.Lemmas.PermFn
import Mathlib.Algebra.Order.Field.Rat
import Mathlib.Tactic.NormNum
/-
The constants of the "to within rounding" clauses of C01 / C02 / C05 / C06 / C14.

The run-time checks evaluate, in exact rationals on the implementation's outputs,
  `|Pr A Pc - L̂Û| ≤ g(n+2) |L̂||Û|`   and   `|B - A X̂| ≤ g(4n+4) (|L̂||Û|)|X̂| + g(n+1)|B|`
with `g(k) = k eps / (1 - k eps)` (`Slu.Drv.Lu.gam`, `Slu.Drv.Kernels.gamma`; DESIGN.md 3.4).
Proved here, over any linearly ordered field and for EVERY evaluation order: each `g(·)` of a check
is at least the `γ` that Higham's analysis gives (Accuracy and Stability of Numerical Algorithms,
Lemma 8.4, Thm 9.3, Thm 9.4).  Assumed: the standard model of rounded arithmetic
  `fl(x op y) = (x op y)(1 + d)`, `|d| ≤ u`, op ∈ {+, -, *, /}, optionally `fl(x*y + z)` (FMA),
which is what IEEE-conforming arithmetic provides as long as nothing overflows or underflows, and
that each computed entry is the value of SOME evaluation tree (`Dot`: any association and order of
the products, additions and subtractions, any signs, separately accumulated partial sums as in
panel / supernode / BLAS kernels, with or without FMA, structural zeros skipped or not) of its
Doolittle / substitution formula; the final scaling may be a rounded division (cost 1) or SuperLU's
`temp = 1.0/pivot; l *= temp` (cost 2).

Where the constants of the checks come from (what is proved is never larger):
  LU      `g(n+2)`:   `γ_{n+1}` with the reciprocal scaling, Higham's `γ_n` with divisions
  solve   `g(4n+4)`:  `γ_{3n+1}` (Higham: `γ_{3n}`), also transposed and with `Pr`, `Pc`; the term
                      `g(n+1)|B|` is not needed
  expert  `g(4n+6)`, `g(4n+10)`, `g(n+3)`:  `γ_{3n+3}`, `γ_{3n+5}`, `γ_1` (the scalings add 2 resp. 4 roundings)
  kernels (C14)  trsv `g(2n+8)`: `γ_{n+1}`;  gstrs `g(4n+4)`: `γ_{2n+2}`;  gemv `g(k+4)`: `γ_{k+2}`
Sparse kernels that skip structural zeros are covered (`Dot.of_filter`), so are operations done more
accurately than `u` (`Dot.mono`, `LUComputed.mono`); with `u = 0` the bounds collapse to the exact
identities of C01 / C02 (`LUComputed.exact_identity`, `lu_solve_exact`).

Scope: REAL arithmetic (types s, d).  Outside the model:
* complex arithmetic (the "x4" of DESIGN.md 3.4).  Remark, not formalized: the real and imaginary
  parts of a complex inner product without division are real `Dot`s with `2k` signed products, so the
  rows of Û and the unit-lower forward substitution obey the bounds above with `γ_{2k}` in the
  `|re|+|im|` magnitude the checks use; the scaling of the L entries by a complex reciprocal
  (`z_div` then `zz_mult`) and complex divisions inside BLAS `trsv` need an analysis of their own,
  and a componentwise count gives a constant of the form `γ_{2k} + c u` with `c ≈ 26`, which is
  above `4 g(n+2)` for `n < 9`: the complex constant cannot be obtained from this model by counting;
* overflow / underflow (the standard model has no absolute error term; the checks add `tiny`);
* iterative refinement of the expert driver (the `berr` alternative of the C05 check).
-/
namespace Slu.Rounding
open Finset

variable {F : Type} [Field F] [LinearOrder F] [IsStrictOrderedRing F]

/-- **Higham Lemma 8.4, every evaluation order**: `y` is the value of ANY evaluation tree of
`(c - Σ_{i<k} aᵢ bᵢ) / b_k` finished by `f` (`none`: `b_k = 1`, no division; `div`: one rounded
division; `recip`: rounded reciprocal and rounded product). -/
theorem inner_product_any_order {u : F} (hu0 : 0 ≤ u) {c bk y : F} (a b : Nat → F) (k : Nat)
    {f : Finish} (h : Dot u c ((List.range k).map fun i => (a i, b i)) bk f y)
    {K : Nat} (hK : k + f.cost ≤ K) (hKu : (K : F) * u < 1) :
    |c - ∑ i ∈ range k, a i * b i - bk * y| ≤
      gamma u K * (∑ i ∈ range k, |a i| * |b i| + |bk| * |y|) := by
  have := h.bound_le ⟨hu0, hKu⟩ (by rwa [List.length_map, List.length_range])
  rwa [dotSum_range, dotAbs_range] at this

/-- **Thm 9.3, rounded divisions**: Higham's constant `γ_n`. -/
theorem lu_error_division {u : F} (hu0 : 0 ≤ u) {m n : Nat} {A L U : Nat → Nat → F}
    (h : LUComputed u m n 1 A L U) (hu : (n : F) * u < 1) (i : Nat) (hi : i < m) (j : Nat) (hj : j < n) :
    |A i j - ∑ t ∈ range n, L i t * U t j| ≤ gamma u n * ∑ t ∈ range n, |L i t| * |U t j| :=
  lu_backward_error ⟨hu0, hu⟩ h (by omega) i hi j hj

/-- **Thm 9.3, multiplication by a rounded reciprocal** (`[sdcz]pivotL`): `γ_{n+1}`. -/
theorem lu_error_reciprocal {u : F} (hu0 : 0 ≤ u) {m n : Nat} {A L U : Nat → Nat → F}
    (h : LUComputed u m n 2 A L U) (hu : ((n + 1 : Nat) : F) * u < 1)
    (i : Nat) (hi : i < m) (j : Nat) (hj : j < n) :
    |A i j - ∑ t ∈ range n, L i t * U t j| ≤ gamma u (n + 1) * ∑ t ∈ range n, |L i t| * |U t j| :=
  lu_backward_error ⟨hu0, hu⟩ h (by omega) i hi j hj

/-- **the constant `g(n+2)` of the C02 / C05 / C06 run-time check**, for any way of scaling the L
entries. -/
theorem lu_error_check_constant {u : F} (hu0 : 0 ≤ u) {m n : Nat} {A L U : Nat → Nat → F}
    (h : LUComputed u m n 2 A L U) (hu : ((n + 2 : Nat) : F) * u < 1)
    (i : Nat) (hi : i < m) (j : Nat) (hj : j < n) :
    |A i j - ∑ t ∈ range n, L i t * U t j| ≤ gamma u (n + 2) * ∑ t ∈ range n, |L i t| * |U t j| :=
  lu_backward_error ⟨hu0, hu⟩ h (by omega) i hi j hj

/-- **Thm 8.5, forward substitution with the unit lower `L̂`** (`γ_{n-1}` would do). -/
theorem forward_subst_error {u : F} (hu0 : 0 ≤ u) {n : Nat} {L : Nat → Nat → F} {b y : Nat → F}
    (hL : ∀ i t, i < t → L i t = 0) (h : LowerSolved u n 0 L b y) (hu : (n : F) * u < 1)
    (i : Nat) (hi : i < n) :
    |b i - ∑ t ∈ range n, L i t * y t| ≤ gamma u n * ∑ t ∈ range n, |L i t| * |y t| :=
  lower_solve_bound ⟨hu0, hu⟩ hL h (by omega) i hi

/-- **Thm 8.5, back substitution with `Û`**, divisions or reciprocals. -/
theorem back_subst_error {u : F} (hu0 : 0 ≤ u) {n : Nat} {U : Nat → Nat → F} {y x : Nat → F}
    (hU : ∀ i t, t < i → U i t = 0) (h : UpperSolved u n 2 U y x) (hu : ((n + 1 : Nat) : F) * u < 1)
    (i : Nat) (hi : i < n) :
    |y i - ∑ t ∈ range n, U i t * x t| ≤ gamma u (n + 1) * ∑ t ∈ range n, |U i t| * |x t| :=
  upper_solve_bound ⟨hu0, hu⟩ hU h (by omega) i hi

/-- **Thm 9.4, reciprocals in the factorization and in the back substitution**: `γ_{3n+1}`. -/
theorem solve_error_reciprocal {u : F} (hu0 : 0 ≤ u) {n : Nat} {A L U : Nat → Nat → F} {b y x : Nat → F}
    (hLU : LUComputed u n n 2 A L U) (hy : LowerSolved u n 0 L b y) (hx : UpperSolved u n 2 U y x)
    (hu : ((3 * n + 1 : Nat) : F) * u < 1) (i : Nat) (hi : i < n) :
    |b i - ∑ j ∈ range n, A i j * x j| ≤
      gamma u (3 * n + 1) * ∑ j ∈ range n, (∑ t ∈ range n, |L i t| * |U t j|) * |x j| :=
  lu_solve_backward_error ⟨hu0, hu⟩ hLU hy hx (by omega) i hi

/-- **Thm 9.4, rounded divisions**: `γ_{3n-1}` (Higham: `γ_{3n}`). -/
theorem solve_error_division {u : F} (hu0 : 0 ≤ u) {n : Nat} {A L U : Nat → Nat → F} {b y x : Nat → F}
    (hLU : LUComputed u n n 1 A L U) (hy : LowerSolved u n 0 L b y) (hx : UpperSolved u n 1 U y x)
    (hu : ((3 * n - 1 : Nat) : F) * u < 1) (i : Nat) (hi : i < n) :
    |b i - ∑ j ∈ range n, A i j * x j| ≤
      gamma u (3 * n - 1) * ∑ j ∈ range n, (∑ t ∈ range n, |L i t| * |U t j|) * |x j| :=
  lu_solve_backward_error ⟨hu0, hu⟩ hLU hy hx (by omega) i hi

/-- **the constants `g(4n+4)`, `g(n+1)` of the C01 / C05 / C06 run-time check** (the second term is
not needed). -/
theorem solve_error_check_constant {u : F} (hu0 : 0 ≤ u) {n : Nat} {A L U : Nat → Nat → F}
    {b y x : Nat → F} (hLU : LUComputed u n n 2 A L U) (hy : LowerSolved u n 0 L b y)
    (hx : UpperSolved u n 2 U y x) (hu : ((4 * n + 4 : Nat) : F) * u < 1) (i : Nat) (hi : i < n) :
    |b i - ∑ j ∈ range n, A i j * x j| ≤
      gamma u (4 * n + 4) * ∑ j ∈ range n, (∑ t ∈ range n, |L i t| * |U t j|) * |x j| +
        gamma u (n + 1) * |b i| :=
  have hS : Small u (4 * n + 4) := ⟨hu0, hu⟩
  le_add_gamma_mul (hS.mono (by omega)) (lu_solve_backward_error hS hLU hy hx (by omega) i hi) _

/-- **transposed system** `Aᵀ x = b` (`Ûᵀ ŵ = b`, `L̂ᵀ x̂ = ŵ`; the path taken for row-major input). -/
theorem solve_trans_error_check_constant {u : F} (hu0 : 0 ≤ u) {n : Nat} {A L U : Nat → Nat → F}
    {b w x : Nat → F} (hLU : LUComputed u n n 2 A L U)
    (hw : LowerSolved u n 2 (fun i t => U t i) b w) (hx : UpperSolved u n 0 (fun i t => L t i) w x)
    (hu : ((4 * n + 4 : Nat) : F) * u < 1) (i : Nat) (hi : i < n) :
    |b i - ∑ j ∈ range n, A j i * x j| ≤
      gamma u (4 * n + 4) * ∑ j ∈ range n, (∑ t ∈ range n, |U t i| * |L j t|) * |x j| :=
  lu_solve_trans_backward_error ⟨hu0, hu⟩ hLU hw hx (by omega) i hi

/-- **with SuperLU's row and column permutations** (`Pr A Pc = L̂Û`, `L̂ŷ = Pr b`, `Ûẑ = ŷ`,
`x̂ = Pc ẑ`): the residual of the ORIGINAL system, row `pr i`, is bounded through row `i` of `|L̂||Û|`
— the quantity `(Pr'|L̂||Û|Pc')|X̂|` of the check. -/
theorem solve_error_perm_check_constant {u : F} (hu0 : 0 ≤ u) {n : Nat} {A L U : Nat → Nat → F}
    {b y x : Nat → F} {pr pc : Nat → Nat} (hpc : ∀ j < n, pc j < n)
    (hinj : ∀ j < n, ∀ j' < n, pc j = pc j' → j = j')
    (hLU : LUComputed u n n 2 (fun i j => A (pr i) (pc j)) L U)
    (hy : LowerSolved u n 0 L (fun i => b (pr i)) y) (hx : UpperSolved u n 2 U y (fun j => x (pc j)))
    (hu : ((4 * n + 4 : Nat) : F) * u < 1) (i : Nat) (hi : i < n) :
    |b (pr i) - ∑ c ∈ range n, A (pr i) c * x c| ≤
      gamma u (4 * n + 4) * ∑ j ∈ range n, (∑ t ∈ range n, |L i t| * |U t j|) * |x (pc j)| := by
  rw [← PermFn.sum ⟨hpc, hinj⟩ fun c => A (pr i) c * x c]
  exact lu_solve_backward_error ⟨hu0, hu⟩ hLU hy hx (by omega) i hi

/-! ### the kernels checked on their own (C14, real types) -/

/-- **`sp_[sd]trsv`, lower** (unit or not), with the check's `g(2n+8)` (proved: `γ_{n+1}`, no `|b|`
term). -/
theorem trsv_lower_check_constant {u : F} (hu0 : 0 ≤ u) {n : Nat} {T : Nat → Nat → F} {b x : Nat → F}
    (hT : ∀ i t, i < t → T i t = 0) (h : LowerSolved u n 2 T b x)
    (hu : ((2 * n + 8 : Nat) : F) * u < 1) (i : Nat) (hi : i < n) :
    |b i - ∑ t ∈ range n, T i t * x t| ≤ gamma u (2 * n + 8) * (∑ t ∈ range n, |T i t| * |x t| + |b i|) :=
  le_gamma_mul_add ⟨hu0, hu⟩ (lower_solve_bound ⟨hu0, hu⟩ hT h (by omega) i hi) _

/-- **`sp_[sd]trsv`, upper**: the same bound. -/
theorem trsv_upper_check_constant {u : F} (hu0 : 0 ≤ u) {n : Nat} {T : Nat → Nat → F} {y x : Nat → F}
    (hT : ∀ i t, t < i → T i t = 0) (h : UpperSolved u n 2 T y x)
    (hu : ((2 * n + 8 : Nat) : F) * u < 1) (i : Nat) (hi : i < n) :
    |y i - ∑ t ∈ range n, T i t * x t| ≤ gamma u (2 * n + 8) * (∑ t ∈ range n, |T i t| * |x t| + |y i|) :=
  le_gamma_mul_add ⟨hu0, hu⟩ (upper_solve_bound ⟨hu0, hu⟩ hT h (by omega) i hi) _

/-- **`[sd]gstrs` against `A := L̂Û`** (the product of the stored factors, formed exactly), with the
check's `g(4n+4)`, `g(n+1)` (proved: `γ_{2n+2}`): NOTRANS with `P = L̂, Q = Û` or TRANS with
`P = Ûᵀ, Q = L̂ᵀ`. -/
theorem gstrs_check_constant {u : F} (hu0 : 0 ≤ u) {n : Nat} {P Q : Nat → Nat → F} {b y x : Nat → F}
    (hP : ∀ i t, i < t → P i t = 0) (hQ : ∀ i t, t < i → Q i t = 0)
    (hy : LowerSolved u n 2 P b y) (hx : UpperSolved u n 2 Q y x)
    (hu : ((4 * n + 4 : Nat) : F) * u < 1) (i : Nat) (hi : i < n) :
    |b i - ∑ j ∈ range n, (∑ t ∈ range n, P i t * Q t j) * x j| ≤
      gamma u (4 * n + 4) * ∑ j ∈ range n, (∑ t ∈ range n, |P i t| * |Q t j|) * |x j| +
        gamma u (n + 1) * |b i| :=
  have hS : Small u (4 * n + 4) := ⟨hu0, hu⟩
  le_add_gamma_mul (hS.mono (by omega)) (factored_solve_bound hS hP hQ hy hx (by omega) i hi) _

/-- **`sp_[sd]gemv`, NOTRANS** (`temp_j = fl(alpha x_j)`; `beta y_i` and the `temp_j a_ij` summed in any
order), `k` = stored entries of the row. -/
theorem gemv_notrans_check_constant {u : F} (hu0 : 0 ≤ u) {k : Nat} (a x temp : Nat → F)
    (alpha beta yi y' : F) (htemp : ∀ j < k, Rnd u (alpha * x j) (temp j))
    (hy' : SumOf u ((beta, yi) :: (List.range k).map fun j => (temp j, a j)) y')
    (hu : ((k + 4 : Nat) : F) * u < 1) :
    |y' - (alpha * ∑ j ∈ range k, a j * x j + beta * yi)| ≤
      gamma u (k + 4) * (|alpha| * ∑ j ∈ range k, |a j| * |x j| + |beta| * |yi|) :=
  have hS : Small u (k + 4) := ⟨hu0, hu⟩
  have h1 := hS.mono (Nat.le_add_left 1 (k + 3))
  gemv_of_psum a x alpha beta yi y' hS
    ((gemv_notrans_psum a x alpha beta yi y' h1 htemp hy').mono h1 (by omega))

/-- **`sp_[sd]gemv`, TRANS** (`temp = Σ a x` in any order, then `fl(beta y) + fl(alpha temp)`). -/
theorem gemv_trans_check_constant {u : F} (hu0 : 0 ≤ u) {k : Nat} (a x : Nat → F)
    (alpha beta yi temp y' : F) (htemp : SumOf u ((List.range k).map fun j => (a j, x j)) temp)
    (hy' : SumOf u [(beta, yi), (alpha, temp)] y') (hu : ((k + 4 : Nat) : F) * u < 1) :
    |y' - (alpha * ∑ j ∈ range k, a j * x j + beta * yi)| ≤
      gamma u (k + 4) * (|alpha| * ∑ j ∈ range k, |a j| * |x j| + |beta| * |yi|) :=
  have hS : Small u (k + 4) := ⟨hu0, hu⟩
  have h1 := hS.mono (Nat.le_add_left 1 (k + 3))
  gemv_of_psum a x alpha beta yi y' hS
    ((gemv_trans_psum a x alpha beta yi y' h1 htemp hy').mono h1 (by omega))

/-! ### the expert driver's scalings (C05) -/

/-- **C05, equilibrated system** (the check's `okE` clause): `A1`, `b1` as left in `A`, `B` on exit,
`x_eq = X / t` the returned solution with the column scaling undone exactly. -/
theorem expert_equilibrated_check_constant {u : F} (hu0 : 0 ≤ u) {n : Nat} {A1 L U : Nat → Nat → F}
    {b1 y z xe : Nat → F} (hLU : LUComputed u n n 2 A1 L U) (hy : LowerSolved u n 0 L b1 y)
    (hz : UpperSolved u n 2 U y z) (hx : ∀ j < n, Rnd u (z j) (xe j))
    (hu : ((4 * n + 6 : Nat) : F) * u < 1) (i : Nat) (hi : i < n) :
    |b1 i - ∑ j ∈ range n, A1 i j * xe j| ≤
      gamma u (4 * n + 6) * ∑ j ∈ range n, (∑ t ∈ range n, |L i t| * |U t j|) * |xe j| +
        gamma u (n + 1) * |b1 i| :=
  have hS : Small u (4 * n + 4 + 2) := ⟨hu0, hu⟩
  le_add_gamma_mul (hS.mono (by omega)) (expert_equilibrated hLU hy hz hx (by omega) hS i hi) _

/-- **C05, original system** (the check's `okO` clause): `A1 = fl(a * fl(t s))`, `b1 = fl(s b)`,
`X = t x_eq`. -/
theorem expert_original_check_constant {u : F} (hu0 : 0 ≤ u) {n : Nat} {a A1 L U : Nat → Nat → F}
    {b b1 y z xe X s t : Nat → F}
    (hLU : LUComputed u n n 2 A1 L U) (hy : LowerSolved u n 0 L b1 y) (hz : UpperSolved u n 2 U y z)
    (hx : ∀ j < n, Rnd u (z j) (xe j))
    (hA1 : ∀ i < n, ∀ j < n, ∃ sc, Rnd u (t j * s i) sc ∧ Rnd u (a i j * sc) (A1 i j))
    (hb1 : ∀ i < n, Rnd u (s i * b i) (b1 i)) (hX : ∀ j < n, X j = t j * xe j)
    (hu : ((4 * n + 10 : Nat) : F) * u < 1) (i : Nat) (hi : i < n) :
    |s i| * |b i - ∑ j ∈ range n, a i j * X j| ≤
      gamma u (4 * n + 10) * ∑ j ∈ range n, (∑ t ∈ range n, |L i t| * |U t j|) * |xe j| +
        gamma u (n + 3) * |b1 i| :=
  have hS : Small u (4 * n + 6 + 4) := ⟨hu0, hu⟩
  (expert_original hLU hy hz hx (by omega) hA1 hb1 hX hS i hi).trans
    (add_le_add_right (mul_le_mul_of_nonneg_right
      (gamma_mono (hS.mono (by omega)) (by omega)) (abs_nonneg _)) _)

/-! ### an executable instance: rounded Doolittle + substitutions in ANY arithmetic -/

/-- **the rounded Doolittle factors in every arithmetic obeying the standard model** (`FlModel`), for
every size and every matrix whose computed pivots are nonzero. -/
theorem rounded_lu_backward_error (M : FlModel F) (hu0 : 0 ≤ M.u) (A : Nat → Nat → F) (m n : Nat)
    (hpiv : ∀ k < n, (doolittle M A n).2 k k ≠ 0) (hu : ((n + 1 : Nat) : F) * M.u < 1)
    (i : Nat) (hi : i < m) (j : Nat) (hj : j < n) :
    |A i j - ∑ t ∈ range n, (doolittle M A n).1 i t * (doolittle M A n).2 t j| ≤
      gamma M.u (n + 1) * ∑ t ∈ range n, |(doolittle M A n).1 i t| * |(doolittle M A n).2 t j| :=
  lu_backward_error ⟨hu0, hu⟩ (doolittle_computed M A m n hpiv) (by omega) i hi j hj

/-- … and the solution computed from them by rounded substitutions. -/
theorem rounded_solve_backward_error (M : FlModel F) (hu0 : 0 ≤ M.u) (A : Nat → Nat → F) (b : Nat → F)
    (n : Nat) (hpiv : ∀ k < n, (doolittle M A n).2 k k ≠ 0) (hu : ((3 * n : Nat) : F) * M.u < 1)
    (i : Nat) (hi : i < n) :
    |b i - ∑ j ∈ range n, A i j *
        backSubst M n (doolittle M A n).2 (fwdSub M (doolittle M A n).1 b n) n j| ≤
      gamma M.u (3 * n) * ∑ j ∈ range n,
        (∑ t ∈ range n, |(doolittle M A n).1 i t| * |(doolittle M A n).2 t j|) *
          |backSubst M n (doolittle M A n).2 (fwdSub M (doolittle M A n).1 b n) n j| :=
  lu_solve_backward_error ⟨hu0, hu⟩ (doolittle_computed M A n n hpiv)
    (fwdSub_solved M _ b n fun i _ => dl_L_diag M A n i) (backSubst_solved M n _ _ hpiv) (by omega) i hi

/-! ### the hypotheses are satisfiable

1. Exact arithmetic is the instance `u = 0`: every exact factorization satisfies `LUComputed 0`
   (`LUComputed.of_exact`), and `LUComputed 0` gives back the exact identity
   (`LUComputed.exact_identity`) — the exact-arithmetic theorem `luFactor_identity` of C02 is the
   `u = 0` face of `lu_error_division`.
2. Any deterministic arithmetic obeying the model (`FlModel`) produces `Dot` values by left-to-right
   evaluation, with or without FMA (`dot_left` for each of the three finishes, `dot_leftFma`).
3. A concrete inexact run: 3 significant bits (`u = 1/8`), a 2×2 matrix, SuperLU's reciprocal
   scaling; `L̂Û ≠ A`, and the solve has a nonzero residual. -/

example : (FlModel.exact Rat).u = 0 := rfl

/-- a total inexact arithmetic: left-to-right evaluation of `1 - 1/2 * 1` with every result inflated
by `9/8` gives `7/16 * 9/8 = 63/128 ≠ 1/2`, and Lemma 8.4 holds for it -/
example : leftEval (FlModel.inflate (1 / 8 : Rat) (by norm_num)) 1 [(1 / 2, 1)] = 63 / 128 := by
  decide +kernel

example : |(1 : Rat) - dotSum [((1 : Rat) / 2, 1)] -
      1 * leftEval (FlModel.inflate (1 / 8 : Rat) (by norm_num)) 1 [(1 / 2, 1)]| ≤
    gamma (1 / 8 : Rat) 1 * (dotAbs [((1 : Rat) / 2, 1)] +
      |(1 : Rat)| * |leftEval (FlModel.inflate (1 / 8 : Rat) (by norm_num)) 1 [(1 / 2, 1)]|) :=
  (dot_left (FlModel.inflate (1 / 8 : Rat) (by norm_num)) 1 [(1 / 2, 1)] (f := .none) ⟨rfl, rfl⟩).bound_le
    ⟨by decide +kernel, by decide +kernel⟩ le_rfl

/-- for every size and every `u ≥ 0` the hypotheses of the LU theorems are satisfiable: exact
factors are admissible computed factors -/
example {u : F} (hu0 : 0 ≤ u) {m n : Nat} {A L U : Nat → Nat → F}
    (hLd : ∀ i < n, L i i = 1) (hLu : ∀ i t, i < t → L i t = 0) (hUl : ∀ t j, j < t → U t j = 0)
    (hUd : ∀ k < n, U k k ≠ 0) (hA : ∀ i j, j < n → A i j = ∑ t ∈ range n, L i t * U t j) :
    LUComputed u m n 1 A L U := (LUComputed.of_exact hLd hLu hUl hUd hA).mono hu0

example (M : FlModel F) (c : F) (l : List (F × F)) (bk : F) (hb : bk ≠ 0) :
    Dot M.u c l bk .recip (M.mul (leftEval M c l) (M.div 1 bk)) :=
  dot_left M c l ⟨hb, _, M.div_rnd _ _ hb, M.mul_rnd _ _⟩

/-- a blocked evaluation with mixed signs and a fused multiply-add, in ANY arithmetic obeying the
model: a gemv-style partial sum `a₀b₀ + a₁b₁` accumulated separately and subtracted from `c`, then
`fma(-a₂, b₂, ·)`.  It is a `Dot` for the three products, so Lemma 8.4 applies with `γ_3`. -/
theorem dot_blocked_fma (M : FlModel F) (c a0 b0 a1 b1 a2 b2 : F) :
    Dot M.u c [(a0, b0), (a1, b1), (a2, b2)] 1 .none
      (M.fma (-a2) b2 (M.sub c (M.add (M.mul a0 b0) (M.mul a1 b1)))) := by
  refine ⟨.fma (.sub (.lit c) (.add (.leaf a0 b0) (.leaf a1 b1))) (-a2) b2, rfl, ?_, _, ?_, rfl, rfl⟩
  · simp [CTree.leaves, STree.leaves]
  · refine .fma (.sub (.lit c) (.add (.leaf (M.mul_rnd _ _)) (.leaf (M.mul_rnd _ _)) (M.add_rnd _ _))
      (M.sub_rnd _ _)) ?_
    have := M.fma_rnd (-a2) b2 (M.sub c (M.add (M.mul a0 b0) (M.mul a1 b1)))
    rwa [add_comm] at this

example (M : FlModel F) (c a0 b0 a1 b1 a2 b2 : F) :
    Dot M.u c [(a0, b0), (a1, b1), (a2, b2)] 1 .none
      (M.fma (-a2) b2 (M.sub c (M.add (M.mul a0 b0) (M.mul a1 b1)))) :=
  dot_blocked_fma M c a0 b0 a1 b1 a2 b2

example (M : FlModel F) (hu0 : 0 ≤ M.u) (h3 : ((3 : Nat) : F) * M.u < 1) (c a0 b0 a1 b1 a2 b2 : F) :
    |c - dotSum [(a0, b0), (a1, b1), (a2, b2)] -
        1 * M.fma (-a2) b2 (M.sub c (M.add (M.mul a0 b0) (M.mul a1 b1)))| ≤
      gamma M.u 3 * (dotAbs [(a0, b0), (a1, b1), (a2, b2)] +
        |(1 : F)| * |M.fma (-a2) b2 (M.sub c (M.add (M.mul a0 b0) (M.mul a1 b1)))|) :=
  (dot_blocked_fma M c a0 b0 a1 b1 a2 b2).bound_le ⟨hu0, h3⟩ le_rfl

/-- a sparse kernel that skips the structurally zero product `(0, b₁)` still evaluates the full
inner product -/
example {u : F} (hu0 : 0 ≤ u) (c a0 b0 b1 y : F) (h : a0 * b0 ≠ 0)
    (hd : Dot u c [(a0, b0)] 1 .none y) : Dot u c [(a0, b0), (0, b1)] 1 .none y := by
  apply Dot.of_filter hu0
  simpa [List.filter, h] using hd

namespace Ex
/-- `A = [3 5; 1 2]` -/
def A (i j : Nat) : Rat :=
  if i = 0 ∧ j = 0 then 3 else if i = 0 ∧ j = 1 then 5 else if i = 1 ∧ j = 0 then 1
  else if i = 1 ∧ j = 1 then 2 else 0
/-- `L̂ = [1 0; 5/16 1]`: `fl(1/3) = 5/16` in 3-bit arithmetic -/
def L (i j : Nat) : Rat := if i = 1 ∧ j = 0 then 5 / 16 else if i = j then 1 else 0
/-- `Û = [3 5; 0 1/2]`: `fl(5/16 * 5) = fl(25/16) = 3/2`, `fl(2 - 3/2) = 1/2` -/
def U (i j : Nat) : Rat :=
  if i = 0 ∧ j = 0 then 3 else if i = 0 ∧ j = 1 then 5 else if i = 1 ∧ j = 1 then 1 / 2 else 0
def b (_ : Nat) : Rat := 1
/-- `ŷ = (1, 3/4)`: `fl(1 - fl(5/16 * 1)) = fl(11/16) = 3/4` -/
def y (i : Nat) : Rat := if i = 0 then 1 else if i = 1 then 3 / 4 else 0
/-- `x̂ = (-2, 3/2)`: `x̂₁ = fl(3/4 * fl(1/(1/2))) = 3/2`, `fl(5 * 3/2) = 8`,
`x̂₀ = fl((1 - 8) * fl(1/3)) = fl(-35/16) = -2` -/
def x (i : Nat) : Rat := if i = 0 then -2 else if i = 1 then 3 / 2 else 0

/-- a rounding in the 3-bit arithmetic, checked by evaluation -/
theorem rnd {a r : Rat} (h : |r - a| ≤ 1 / 8 * |a| := by decide +kernel) : Rnd (1 / 8 : Rat) a r :=
  (Rnd.iff_abs_sub_le (by decide +kernel)).mpr h

theorem luComputed : LUComputed (1 / 8 : Rat) 2 2 2 A L U where
  L_diag := by intro i _; unfold L; rw [if_neg (by omega), if_pos rfl]
  L_upper := by
    intro i t h
    unfold L
    rw [if_neg (by omega), if_neg (by omega)]
  U_lower := by
    intro t j h
    unfold U
    rw [if_neg (by omega), if_neg (by omega), if_neg (by omega)]
  U_entry := by
    intro k j hkj hj
    obtain ⟨rfl, rfl⟩ | ⟨rfl, rfl⟩ | ⟨rfl, rfl⟩ : (k = 0 ∧ j = 0) ∨ (k = 0 ∧ j = 1) ∨ (k = 1 ∧ j = 1) := by
      omega
    · exact .of_nil ⟨rfl, by decide +kernel⟩
    · exact .of_nil ⟨rfl, by decide +kernel⟩
    · exact .of_single (p := 3 / 2) rnd rnd ⟨rfl, rfl⟩
  L_entry := by
    intro i k hki hi hk
    obtain ⟨rfl, rfl⟩ : i = 1 ∧ k = 0 := by omega
    exact ⟨.recip, le_rfl, .of_nil ⟨by decide +kernel, 5 / 16, rnd, rnd⟩⟩

theorem lowerSolved : LowerSolved (1 / 8 : Rat) 2 0 L b y := by
  intro i hi
  obtain rfl | rfl : i = 0 ∨ i = 1 := by omega
  · exact ⟨.none, le_rfl, .of_nil ⟨by decide +kernel, by decide +kernel⟩⟩
  · exact ⟨.none, le_rfl, .of_single (p := 5 / 16) rnd rnd ⟨by decide +kernel, rfl⟩⟩

theorem upperSolved : UpperSolved (1 / 8 : Rat) 2 2 U y x := by
  intro i hi
  obtain rfl | rfl : i = 0 ∨ i = 1 := by omega
  · -- x̂₀ = fl( fl(y₀ - fl(u₀₁ x̂₁)) * fl(1/u₀₀) ) = fl(-7 * 5/16) = -2
    exact ⟨.recip, le_rfl, .of_single (p := 8) (w := -7) rnd rnd ⟨by decide +kernel, 5 / 16, rnd, rnd⟩⟩
  · -- x̂₁ = fl( y₁ * fl(1/u₁₁) ) = 3/4 * 2
    exact ⟨.recip, le_rfl, .of_nil ⟨by decide +kernel, 2, rnd, rnd⟩⟩

/-- the factorization bound at the entry where `L̂Û ≠ A`: `|2 - 33/16| ≤ γ_3 * 33/16` -/
example : |A 1 1 - ∑ t ∈ range 2, L 1 t * U t 1| ≤
    gamma (1 / 8 : Rat) 3 * ∑ t ∈ range 2, |L 1 t| * |U t 1| :=
  lu_error_reciprocal (by decide +kernel) luComputed (by decide +kernel) 1 Nat.one_lt_two 1 Nat.one_lt_two

/-- the factors really are inexact: `(L̂Û)₁₁ = 33/16 ≠ 2 = A₁₁` -/
example : ∑ t ∈ range 2, L 1 t * U t 1 = 33 / 16 ∧ A 1 1 = 2 := by
  decide +kernel

/-- the solve bound for this run (`3n+1 = 7`, `7u < 1`) -/
example (i : Nat) (hi : i < 2) : |b i - ∑ j ∈ range 2, A i j * x j| ≤
    gamma (1 / 8 : Rat) 7 * ∑ j ∈ range 2, (∑ t ∈ range 2, |L i t| * |U t j|) * |x j| :=
  solve_error_reciprocal (by decide +kernel) luComputed lowerSolved upperSolved (by decide +kernel) i hi

/-- and its residual is not zero: `b₀ - (A x̂)₀ = -1/2` -/
example : b 0 - ∑ j ∈ range 2, A 0 j * x j = -1 / 2 := by
  decide +kernel

/-- exact arithmetic: the exact factors of `A` (`l₂₁ = 1/3`, `u₂₂ = 1/3`) satisfy `LUComputed 0` -/
def Lx (i j : Nat) : Rat := if i = 1 ∧ j = 0 then 1 / 3 else if i = j then 1 else 0
def Ux (i j : Nat) : Rat :=
  if i = 0 ∧ j = 0 then 3 else if i = 0 ∧ j = 1 then 5 else if i = 1 ∧ j = 1 then 1 / 3 else 0
/-- the product, as the matrix being factored (all rows) -/
def Ax (i j : Nat) : Rat := ∑ t ∈ range 2, Lx i t * Ux t j

example : LUComputed (0 : Rat) 2 2 1 Ax Lx Ux :=
  LUComputed.of_exact (by intro i _; unfold Lx; rw [if_neg (by omega), if_pos rfl])
    (by intro i t h; unfold Lx; rw [if_neg (by omega), if_neg (by omega)])
    (by intro t j h; unfold Ux; rw [if_neg (by omega), if_neg (by omega), if_neg (by omega)])
    (by
      intro k hk
      obtain rfl | rfl : k = 0 ∨ k = 1 := by omega
      · decide +kernel
      · decide +kernel)
    (by intro i j _; rfl)

example : Ax 0 0 = 3 ∧ Ax 0 1 = 5 ∧ Ax 1 0 = 1 ∧ Ax 1 1 = 2 := by
  decide +kernel

/-- the executable rounded LU run on `A` in the arithmetic that inflates every result by `9/8`:
`l̂₁₀ = 27/64` (exact: `1/3`), `û₁₁ = -1719/4096` (exact: `1/3`) — a very inexact arithmetic, and the
theorem applies to it as it stands (`3u < 1`). -/
def Minfl : FlModel Rat := FlModel.inflate (1 / 8) (by norm_num)

example : (doolittle Minfl A 2).1 1 0 = 27 / 64 ∧ (doolittle Minfl A 2).2 1 1 = -1719 / 4096 ∧
    (doolittle Minfl A 2).2 0 0 = 3 := by decide +kernel

example (i : Nat) (hi : i < 2) (j : Nat) (hj : j < 2) :
    |A i j - ∑ t ∈ range 2, (doolittle Minfl A 2).1 i t * (doolittle Minfl A 2).2 t j| ≤
      gamma Minfl.u 3 * ∑ t ∈ range 2, |(doolittle Minfl A 2).1 i t| * |(doolittle Minfl A 2).2 t j| := by
  refine rounded_lu_backward_error Minfl (by decide +kernel) A 2 2 ?_ (by decide +kernel) i hi j hj
  intro k hk
  obtain rfl | rfl : k = 0 ∨ k = 1 := by omega
  · decide +kernel
  · decide +kernel

end Ex

end Slu.Rounding
